import Proofs.WireLayout
import Proofs.WireEncLen
import Proofs.WireComplete
import Proofs.WireInput
import Props.C08
/-!
# C08 ∩ C06 — the offset sets contain the real bit positions of the encoder

Joins the wire model (where bits are actually written) with the layout model (where
`iterate_fields_with_offsets` is modelled): the absolute bit position at which the encoder of the wire model
starts writing each field of a structure — for every valid value and every origin — is an element of the
corresponding offset set of `C08spec.fieldStarts`, which `C08.field_offsets_exact` proves to be what the library's
offset expressions denote.  (Soundness of the offset sets with respect to the codec.)  Conversely, for structures without delimited members
every element of every offset set is the position at which some VALID value has that field written
(`C08.struct_field_offsets_realised`): the offset sets are exact with respect to the codec.
-/
open scoped Pointwise
open Bls WireLayout C08spec

/-- absolute bit positions at which `Wire.encFields` starts writing each field (after its alignment padding) when
    the structure body starts at offset `off` -/
def fieldPositions : List Wire.Ty → List Wire.Val → ℕ → List ℕ
  | t :: ts, v :: vs, off =>
      let p := Wire.padLen off t.align
      (off + p) :: fieldPositions ts vs (off + p + (Wire.enc t v (off + p)).length)
  | _, _, _ => []

theorem positions_in_structStarts : ∀ (fs : List Wire.Ty) (vs : List Wire.Val) (off : ℕ) (S : Finset ℕ),
    Wire.wfFields fs = true → Wire.validFields fs vs = true → off ∈ S →
    List.Forall₂ (fun pos (O : Finset ℕ) => pos ∈ O) (fieldPositions fs vs off) (structStarts S (toLayouts fs))
  | [] => fun vs _ _ _ hv _ => by
      rw [Wire.validFields_nil.mp hv]
      exact List.Forall₂.nil
  | t :: ts => fun vs off S hw hv hoff => by
      obtain ⟨v, vs, rfl, hvt, hvs⟩ := Wire.validFields_cons.mp hv
      obtain ⟨hwt, _, hwts⟩ := Wire.wfFields_cons.mp hw
      have hpos : off + Wire.padLen off t.align ∈ S.image (padTo (toLayout t).align) := by
        rw [align_eq, ← padTo_eq _ _ (Wire.align_pos t)]
        exact Finset.mem_image_of_mem _ hoff
      refine List.Forall₂.cons hpos (positions_in_structStarts ts vs _ _ hwts hvs (Finset.add_mem_add hpos ?_))
      rw [← hasLen_iff t hwt]
      exact Wire.enc_len t v _ hwt hvt (Wire.padLen_dvd off t.align (Wire.align_pos t))

/-- **Structures.** For every origin `b` of the base offset set, every field of a sealed structure is written at
    a position that belongs to the offset set handed out for that field. -/
theorem C08.struct_field_positions_in_offsets (fs : List Wire.Ty) (vs : List Wire.Val) (B : Finset ℕ) (b : ℕ)
    (hw : Wire.wfFields fs = true) (hv : Wire.validFields fs vs = true) (hb : b ∈ B) :
    List.Forall₂ (fun pos (O : Finset ℕ) => pos ∈ O)
      (fieldPositions fs vs (padTo 8 b)) (fieldStarts B (.struct (toLayouts fs))) := by
  simp only [fieldStarts]
  exact positions_in_structStarts fs vs _ _ hw hv (Finset.mem_image_of_mem _ hb)

/-- **Delimited structures**: the same after the 32-bit header. -/
theorem C08.delimited_field_positions_in_offsets (fs : List Wire.Ty) (vs : List Wire.Val) (B : Finset ℕ) (b x : ℕ)
    (hw : Wire.wfFields fs = true) (hv : Wire.validFields fs vs = true) (hb : b ∈ B) :
    List.Forall₂ (fun pos (O : Finset ℕ) => pos ∈ O)
      (fieldPositions fs vs (padTo 8 (b + 32))) (fieldStarts B (.delim (.struct (toLayouts fs)) x)) := by
  simp only [fieldStarts]
  exact positions_in_structStarts fs vs _ _ hw hv
    (Finset.mem_image_of_mem _ (Finset.add_mem_add hb (Finset.mem_singleton_self 32)))

/-- **Unions**: the selected variant is written right after the tag, at base + tag width — the one offset shared
    by all variants. -/
theorem C08.union_variant_position_in_offsets (fs : List Wire.Ty) (B : Finset ℕ) (b : ℕ)
    (h2 : 2 ≤ fs.length) (hn : fs.length ≤ 2 ^ 64) (hb : b ∈ B) :
    ∀ O ∈ fieldStarts B (.union (toLayouts fs)), padTo 8 b + Wire.tagBits fs.length ∈ O := by
  intro O hO
  simp only [fieldStarts, List.mem_map] at hO
  obtain ⟨_, _, rfl⟩ := hO
  rw [toLayouts_length, tag_eq fs.length h2 hn]
  exact Finset.add_mem_add (Finset.mem_image_of_mem _ hb) (Finset.mem_singleton_self _)

/-- Converse of `positions_in_structStarts` for field lists without delimited members: every element of the `j`-th
    offset set is the position of field `j` in the encoding of some valid value, for some origin of the set. -/
theorem positions_realised : ∀ (fs : List Wire.Ty) (S : Finset ℕ) (j : ℕ) (O : Finset ℕ) (pos : ℕ),
    Wire.wfFields fs = true → Wire.noDelims fs = true → (structStarts S (toLayouts fs))[j]? = some O → pos ∈ O →
    ∃ off ∈ S, ∃ vs, Wire.validFields fs vs = true ∧ (fieldPositions fs vs off)[j]? = some pos
  | [] => fun _ j _ _ _ _ hO _ => by cases hO
  | t :: ts => fun S j O pos hw hn hO hpos => by
      obtain ⟨hwt, _, hwts⟩ := Wire.wfFields_cons.mp hw
      simp only [Wire.noDelims, Bool.and_eq_true] at hn
      have hal := Wire.align_pos t
      simp only [toLayouts, structStarts] at hO
      cases j with
      | zero =>
        -- the first field starts wherever the origin, padded, lies: any values will do
        cases hO
        obtain ⟨off, hoff, rfl⟩ := Finset.mem_image.mp hpos
        refine ⟨off, hoff, Wire.dflt t :: Wire.dfltFields ts, Wire.dfltFields_valid (t :: ts) hw, ?_⟩
        simp only [fieldPositions, List.getElem?_cons_zero, align_eq, padTo_eq _ _ hal]
      | succ j =>
        obtain ⟨off', hoff', vs, hvs, hp⟩ := positions_realised ts _ j O pos hwts hn.2 hO hpos
        obtain ⟨p, hp', L, hL, rfl⟩ := Finset.mem_add.mp hoff'
        obtain ⟨off, hoff, rfl⟩ := Finset.mem_image.mp hp'
        rw [align_eq, padTo_eq _ _ hal] at hp
        rw [← hasLen_iff t hwt] at hL
        obtain ⟨v, hv, rfl⟩ := Wire.enc_complete t L (off + Wire.padLen off t.align) hwt hn.1 hL
          (Wire.padLen_dvd off t.align hal)
        exact ⟨off, hoff, v :: vs, Wire.validFields_cons.mpr ⟨v, vs, rfl, hv, hvs⟩, hp⟩

/-- **Exactness, reverse direction.**  For a sealed structure without delimited members, every element of the offset
    set of field `j` is realised: some origin `b` of the base set and some valid value have field `j` written exactly
    there.  With `C08.struct_field_positions_in_offsets` the offset sets are exactly the sets of real positions. -/
theorem C08.struct_field_offsets_realised (fs : List Wire.Ty) (B : Finset ℕ) (j : ℕ) (O : Finset ℕ) (pos : ℕ)
    (hw : Wire.wfFields fs = true) (hn : Wire.noDelims fs = true)
    (hO : (fieldStarts B (.struct (toLayouts fs)))[j]? = some O) (hpos : pos ∈ O) :
    ∃ b ∈ B, ∃ vs, Wire.validFields fs vs = true ∧ (fieldPositions fs vs (padTo 8 b))[j]? = some pos := by
  simp only [fieldStarts] at hO
  obtain ⟨off, hoff, vs, hv, hp⟩ := positions_realised fs _ j O pos hw hn hO hpos
  obtain ⟨b, hb, rfl⟩ := Finset.mem_image.mp hoff
  exact ⟨b, hb, vs, hv, hp⟩

/-- the same behind the header of a delimited structure (whose fields contain no delimited member) -/
theorem C08.delimited_field_offsets_realised (fs : List Wire.Ty) (B : Finset ℕ) (x j : ℕ) (O : Finset ℕ) (pos : ℕ)
    (hw : Wire.wfFields fs = true) (hn : Wire.noDelims fs = true)
    (hO : (fieldStarts B (.delim (.struct (toLayouts fs)) x))[j]? = some O) (hpos : pos ∈ O) :
    ∃ b ∈ B, ∃ vs, Wire.validFields fs vs = true ∧ (fieldPositions fs vs (padTo 8 (b + 32)))[j]? = some pos := by
  simp only [fieldStarts] at hO
  obtain ⟨off, hoff, vs, hv, hp⟩ := positions_realised fs _ j O pos hw hn hO hpos
  obtain ⟨c, hc, rfl⟩ := Finset.mem_image.mp hoff
  obtain ⟨b, hb, d, hd, rfl⟩ := Finset.mem_add.mp hc
  rw [Finset.mem_singleton] at hd
  subst hd
  exact ⟨b, hb, vs, hv, hp⟩

/-! ### Non-vacuity -/
example : Wire.wfFields [.uint 3 .sat, .varr (.uint 8 .sat) 3, .bool] = true ∧
    Wire.validFields [.uint 3 .sat, .varr (.uint 8 .sat) 3, .bool] [.int 5, .arr [.int 1, .int 2], .bool true] = true := by
  decide +kernel
example : Wire.noDelims [.uint 3 .sat, .varr (.uint 8 .sat) 3, .bool] = true := by decide
