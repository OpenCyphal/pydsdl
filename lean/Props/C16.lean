import Proofs.BlsCost
import Proofs.LayoutAlign
import Proofs.LayoutCongr
/-!
# C16 — layout analysis is symbolic: cost does not grow with capacities or extents

"Time" is not a Lean notion; the model counts the integers that pass through `itertools.product`,
`itertools.combinations_with_replacement` and the iteration over leaf value sets while a residue query
`modulo d` is answered (`Op.cost`, Model/Bls.lean; `min`/`max`/`extent`/`fixed_length` enumerate nothing, and
alignment, `==` and `hash` are residue queries for d = 8 / 32 plus min/max).  The cost is bounded by `Op.bound`,
a function that never inspects a repetition count or a leaf value; array capacities and extents enter a type's
bit length set expression only as repetition counts and leaf values, so the bound is the same for all types of
one shape.
-/
open scoped Pointwise
open Bls Layout

/-- The enumeration cost of any residue query is bounded by the count-blind bound. -/
theorem C16.cost_bounded (o : Op) (h : o.wf = true) (d : ℕ) (hd : 1 ≤ d) : o.cost d ≤ o.bound d :=
  cost_le_bound o h d hd

/-- No set larger than the divisor in force is ever handed to an enumeration. -/
theorem C16.residue_sets_small (o : Op) (h : o.wf = true) (d : ℕ) (hd : 1 ≤ d) : (o.modulo d).length ≤ d :=
  modulo_length_le o d hd

namespace C16
mutual
/-- forget repetition counts and leaf values (keep the number of leaf values) -/
def skeleton : Op → Op
  | .leaf vs => .leaf (List.replicate vs.length 0)
  | .pad c a => .pad (skeleton c) a
  | .cat cs => .cat (skeletons cs)
  | .rep c _ => .rep (skeleton c) 0
  | .rrep c _ => .rrep (skeleton c) 0
  | .uni cs => .uni (skeletons cs)
def skeletons : List Op → List Op
  | [] => []
  | c :: cs => skeleton c :: skeletons cs
end
end C16
open C16

theorem skeletons_eq (cs : List Op) : skeletons cs = cs.map skeleton := by
  induction cs with
  | nil => rfl
  | cons c cs ih => simp [skeletons, ih]

/-- The bound depends on the skeleton only: it is blind to repetition counts and to the values in the leaves. -/
theorem C16.bound_blind (o : Op) : ∀ d, o.bound d = (skeleton o).bound d := by
  induction o using Op.induct with
  | leaf vs => intro d; simp [skeleton, Op.bound]
  | pad c a ih => intro d; simp [skeleton, Op.bound, ih]
  | cat cs ih =>
    intro d
    simp only [skeleton, Op.bound, bounds_eq, skeletons_eq, List.map_map, List.length_map]
    congr 2
    apply List.map_congr_left
    intro c hc; exact ih c hc d
  | rep c k ih => intro d; simp [skeleton, Op.bound, ih]
  | rrep c k ih => intro d; simp [skeleton, Op.bound, ih]
  | uni cs ih =>
    intro d
    simp only [skeleton, Op.bound, bounds_eq, skeletons_eq, List.map_map, List.length_map]
    congr 2
    apply List.map_congr_left
    intro c hc; exact ih c hc d

mutual
/-- Two types of the same shape: equal up to primitive widths, array capacities and extents. -/
inductive SameShape : Ty → Ty → Prop
  | prim (n m) : SameShape (.prim n) (.prim m)
  | void (n m) : SameShape (.void n) (.void m)
  | farr {e e'} (c c') : SameShape e e' → SameShape (.farr e c) (.farr e' c')
  | varr {e e'} (c c') : SameShape e e' → SameShape (.varr e c) (.varr e' c')
  | struct {fs fs'} : SameShapes fs fs' → SameShape (.struct fs) (.struct fs')
  | union {fs fs'} : SameShapes fs fs' → SameShape (.union fs) (.union fs')
  | delim {i i'} (x x') : SameShape i i' → SameShape (.delim i x) (.delim i' x')
inductive SameShapes : List Ty → List Ty → Prop
  | nil : SameShapes [] []
  | cons {f f' fs fs'} : SameShape f f' → SameShapes fs fs' → SameShapes (f :: fs) (f' :: fs')
end

def skelSigs (fs : List Ty) : List (ℕ × Op) := fs.map fun f => (f.align, skeleton f.bls)

/-- Forgetting counts and leaf values is respected by the constructors the layout code uses. -/
theorem opCongr_skeleton : OpCongr fun a b => skeleton a = skeleton b where
  leaf _ := rfl
  pad n h := by rw [skeleton, skeleton, h]
  cat h h' := by simp only [skeleton, skeletons, h, h']
  uni h := by
    rw [skeleton, skeleton, skeletons_eq, skeletons_eq]
    congr 1
    rw [← List.forall₂_eq_eq_eq, List.forall₂_map_left_iff, List.forall₂_map_right_iff]
    exact h

mutual
/-- Types of the same shape get bit length set expressions with the same skeleton (and the same alignment). -/
theorem sameShape_skeleton : ∀ {t t' : Ty}, SameShape t t' → skeleton t.bls = skeleton t'.bls ∧ t.align = t'.align
  | _, _, .prim n m => ⟨by simp [Ty.bls, skeleton], rfl⟩
  | _, _, .void n m => ⟨by simp [Ty.bls, skeleton], rfl⟩
  | _, _, .farr c c' h => by
      obtain ⟨h1, h2⟩ := sameShape_skeleton h
      exact ⟨by simp [Ty.bls, skeleton, h1], by simp [Ty.align, h2]⟩
  | _, _, .varr c c' h => by
      obtain ⟨h1, h2⟩ := sameShape_skeleton h
      exact ⟨by simp [Ty.bls, skeleton, skeletons, h1], by simp [Ty.align, h2]⟩
  | _, _, .struct (fs := fs) (fs' := fs') h => by
      obtain ⟨ha, hs, _⟩ := composite_congr opCongr_skeleton (fieldsRel_of_map_eq skeleton (sameShapes_sigs h))
      exact ⟨hs, by rw [Ty.align, Ty.align, ha]⟩
  | _, _, .union (fs := fs) (fs' := fs') h => by
      obtain ⟨ha, _, hu⟩ := composite_congr opCongr_skeleton (fieldsRel_of_map_eq skeleton (sameShapes_sigs h))
      exact ⟨hu, by rw [Ty.align, Ty.align, ha]⟩
  | _, _, .delim x x' h => by
      obtain ⟨_, h2⟩ := sameShape_skeleton h
      exact ⟨by simp [Ty.bls, skeleton, skeletons], by simp [Ty.align, h2]⟩
theorem sameShapes_sigs : ∀ {fs fs' : List Ty}, SameShapes fs fs' → skelSigs fs = skelSigs fs'
  | _, _, .nil => rfl
  | _, _, .cons h hs => by
      obtain ⟨h1, h2⟩ := sameShape_skeleton h
      have ih := sameShapes_sigs hs
      simp only [skelSigs] at ih ⊢
      simp [h1, h2, ih]
end

/-- **Capacity / extent independence.**  For every type the constructors accept, the enumeration cost of any
    residue query on its bit length set is bounded by a number that is the same for all types of the same
    shape — whatever the array capacities, extents and primitive widths are. -/
theorem C16.type_cost_independent_of_capacities (t t' : Ty) (h : t.wf = true) (hs : SameShape t t')
    (d : ℕ) (hd : 1 ≤ d) : t.bls.cost d ≤ t'.bls.bound d := by
  have h1 := cost_le_bound t.bls (bls_wf t h) d hd
  rw [C16.bound_blind t.bls d, (sameShape_skeleton hs).1, ← C16.bound_blind t'.bls d] at h1
  exact h1

/-! ### Non-vacuity: uint8[<=2**63] nested in a delimited struct has the shape of uint8[<=2] in the same struct -/
example : SameShape (.delim (.struct [.varr (.prim 8) (2 ^ 63), .farr (.prim 3) (2 ^ 40)]) (2 ^ 70))
                    (.delim (.struct [.varr (.prim 8) 2, .farr (.prim 3) 1]) 64) :=
  .delim _ _ (.struct (.cons (.varr _ _ (.prim _ _)) (.cons (.farr _ _ (.prim _ _)) .nil)))
