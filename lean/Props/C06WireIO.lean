import Proofs.WireIO
import Props.C06
/-!
# C06 / C07 — the codec, written as a driver of `_BitWriter` / `_BitReader`, is the stream codec

`Model/Wire.lean` (the model the round-trip, length, truncation and zero-extension theorems of C06/C07 are about)
describes `_serialize_*` / `_deserialize_*` of pydsdl/_serdes.py over an abstract bit stream: a single function
stands for `write_bits` / `read_bits`, alignment is arithmetic on an offset, a bounded sub-reader is a prefix of a
list.  `Model/BitIO.lean` models the real byte-buffer `_BitWriter` / `_BitReader` with both of their code paths and
the limit logic.  `Model/WireIO.lean` writes the codec the way the Python code does — as a sequence of `write_bits`,
`align_to`, `finish`, `read_bits`, `remaining_bits`, `bounded_subreader` calls on those objects (floats and
delimited payloads byte by byte, a fresh writer for every delimited composite).  The theorems here prove that this
driver computes exactly the stream codec, for every type, value, writer state and reader state — so the agreement of
the fast and the slow path at every offset, the unreachability of the overwrite branches of the writer, and the
`remaining_bits` / limit arithmetic of nested bounded readers are theorems, not sampled facts.
-/
open Wire WireIO

/-- **Writer.**  For every well-formed type, every value and every writer that satisfies the buffer invariant (in
    particular every writer reached from `_BitWriter()`), `_serialize_*` leaves the invariant intact, appends exactly
    the bits `Wire.enc` produces at the writer's offset, and advances the offset by their number.  (Well-formedness
    is used for one fact only: float widths are whole bytes, because floats are written byte by byte.) -/
theorem C06.writer_refines_enc (t : Ty) (v : Val) (w : BitIO.W) (ht : t.wf = true) (hw : w.ok = true) :
    (encW t v w).ok = true ∧ (encW t v w).logical = w.logical ++ enc t v w.off ∧
      (encW t v w).off = w.off + (enc t v w.off).length :=
  have h := encW_ws t v w ht hw
  ⟨h.1, h.2, h.off hw⟩

example : C06.exT.wf = true ∧ (BitIO.writeBits ⟨[], 0⟩ 5 3).ok = true := by decide +kernel
example : (encW C06.exT C06.exV (BitIO.writeBits ⟨[], 0⟩ 5 3)).logical
    = BitIO.natBits 3 5 ++ enc C06.exT C06.exV 3 := by decide +kernel

/-- What `finish()` returns after serialising from an empty writer: the stream encoding, zero-padded to a byte. -/
theorem C06.writer_finish (t : Ty) (v : Val) (ht : t.wf = true) :
    (encW t v ⟨[], 0⟩).buf = BitIO.pad8 (enc t v 0) :=
  encW_buf t v ht

/-- **Entry point.**  The bytes `serialize` produces by driving `_BitWriter` are the bits of the model's
    `serialize` (for composites the encoding is a whole number of bytes, so no padding is added). -/
theorem C06.serialize_bytes (t : Ty) (x : Inp) (hdr relaxed : Bool) (v : Val) (bits : List Bool)
    (ht : t.wf = true) (hc : t.isComposite = true) (h : serialize t x hdr relaxed = .ok (v, bits)) :
    serializeW t v hdr = bits := by
  have hb : bits = enc (if hdr = true then t else t.inner) v 0 := by
    unfold serialize at h
    split at h
    · cases h
    · cases relaxed
      · simp only [Bool.false_eq_true, if_false, bind_ok] at h
        obtain ⟨_, _, _, _, hd⟩ := h
        cases hd; rfl
      · simp only [if_true, bind_ok] at h
        obtain ⟨_, _, _, _, hd⟩ := h
        cases hd; rfl
  have ht' : (if hdr = true then t else t.inner).wf = true := by
    cases hdr
    · exact wf_inner t ht
    · exact ht
  have hc' : (if hdr = true then t else t.inner).isComposite = true := by
    cases hdr
    · simpa [isComposite_inner] using hc
    · exact hc
  rw [hb, serializeW, encW_buf _ v ht', pad8_of_mod _ (enc_composite_mod8 _ v hc')]

example : C06.exT.wf = true ∧ C06.exT.isComposite = true := by decide
example : ∃ v bits, serialize C06.exT (.dict [(0, .int 13), (3, .dict [(1, .dict [(1, .flt 0x3C00)])])]) false false
    = .ok (v, bits) := ⟨_, _, rfl⟩

/-- **Reader.**  For every well-formed type and every reader that satisfies the reader invariant `RInv` (the position
    is not before the start; a bounded reader's limit lies within the data), `_deserialize_*` driven over
    `_BitReader` has exactly the outcome of `Wire.dec` on the reader's stream view (offset, window): the same error,
    or the same value with the resulting reader being the same reader moved forward, its stream view being
    `Wire.dec`'s resulting stream, and the invariant holding again. -/
theorem C07.reader_refines_dec (t : Ty) (r : BitIO.Rd) (ht : t.wf = true) (hr : RInv r) :
    match decR t r with
    | .ok (v, r') =>
        dec t ⟨r.off, r.window⟩ = .ok (v, ⟨r'.off, r'.window⟩) ∧ RInv r' ∧
          r'.data = r.data ∧ r'.start = r.start ∧ r'.limit = r.limit ∧ r.off ≤ r'.off
    | .error e => dec t ⟨r.off, r.window⟩ = .error e := by
  have h := decR_sim t r ht hr
  cases hx : decR t r with
  | error e => rw [hx] at h; exact h
  | ok p =>
    obtain ⟨v, r'⟩ := p
    rw [hx] at h
    exact ⟨h.1, hr.follows h.2, h.2⟩

/-- a bounded sub-reader in the middle of a byte, as `bounded_subreader` creates them -/
example : RInv ⟨enc C06.exT C06.exV 0, 3, 5, some 40⟩ :=
  ⟨by decide, fun lim h => by cases h; decide +kernel⟩
example : (decR C06.exT ⟨enc C06.exT C06.exV 0, 0, 0, none⟩).toOption.map (·.2.off) = some 120 := by
  decide +kernel

/-- The invariant cannot be dropped: a bounded reader whose limit (64) lies beyond its data (36 bits) reports
    `remaining_bits` = 32 after the header although only 4 bits are left, so it accepts a header that the stream
    codec rejects.  (`deserialize` never creates such a reader: `bounded_subreader` is called only after the
    `remaining_bits` check, which is what `RInv` records.) -/
example :
    let r : BitIO.Rd := ⟨Wire.natBits 32 1 ++ Wire.natBits 4 0, 0, 0, some 64⟩
    let t : Ty := .struct [.uint 8 .sat] (.delimited 8)
    (match decR t r with | .ok _ => true | .error _ => false) = true ∧
    (match dec t ⟨r.off, r.window⟩ with | .error e => e == .delimiterHeader | .ok _ => false) = true := by
  decide +kernel

/-- The reader `deserialize` creates (`_BitReader(bytes(data))`) satisfies the invariant. -/
theorem C07.reader_invariant_initial (bits : List Bool) : RInv ⟨bits, 0, 0, none⟩ :=
  ⟨Nat.le_refl _, fun _ h => by cases h⟩

/-- **Entry point.**  `deserialize` driven over `_BitReader` returns exactly what the model's `deserialize` returns
    (value or error), for every input. -/
theorem C07.deserialize_bytes (t : Ty) (bits : List Bool) (hdr : Bool) (ht : t.wf = true) :
    deserializeR t bits hdr = deserialize t bits hdr := by
  unfold deserializeR deserialize
  split
  · rfl
  · have ht' : (if hdr = true then t else t.inner).wf = true := by
      cases hdr
      · exact wf_inner t ht
      · exact ht
    have h : Sim _ _ (dec _ ⟨0, bits⟩) := decR_sim _ ⟨bits, 0, 0, none⟩ ht' (C07.reader_invariant_initial bits)
    cases hx : decR (if hdr = true then t else t.inner) ⟨bits, 0, 0, none⟩ with
    | error e => rw [hx] at h; have h' : dec _ _ = .error e := h; rw [h']; rfl
    | ok p =>
      obtain ⟨v, r'⟩ := p
      rw [hx] at h
      rw [h.1]; rfl

example : deserializeR C06.exT (enc C06.exT C06.exV 0 ++ [true, false, true]) false = .ok C06.exV := by
  rw [C07.deserialize_bytes _ _ _ (by decide), deserialize, if_neg (by decide), if_neg (by decide),
    show C06.exT.inner = C06.exT from rfl, C06.roundtrip _ _ 0 _ (by decide) (by decide) (by decide)]
  rfl
/-- evaluated directly on the byte-buffer reader: the header announces more than `remaining_bits` -/
example : (match deserializeR (.struct [.uint 8 .sat] (.delimited 8)) (Wire.natBits 32 2 ++ Wire.natBits 8 7) true with
    | .error e => e == .delimiterHeader | .ok _ => false) = true := by decide +kernel

/-- Round trip at the level of the byte-buffer objects: what `serialize` writes through `_BitWriter`, followed by
    anything, is read back through `_BitReader` as the canonical value. -/
theorem C06.bytes_roundtrip (t : Ty) (x : Inp) (hdr relaxed : Bool) (v : Val) (bits junk : List Bool)
    (ht : t.wf = true) (hc : t.isComposite = true) (h : serialize t x hdr relaxed = .ok (v, bits)) :
    deserializeR t (serializeW t v hdr ++ junk) hdr = .ok v := by
  rw [C06.serialize_bytes t x hdr relaxed v bits ht hc h, C07.deserialize_bytes t _ hdr ht]
  exact C06.serialize_roundtrip t x hdr relaxed v bits junk ht h

/-! ### The single steps (what the refinement is built from) -/

/-- `read_bits(n)` is `R.read n` on the stream view. -/
theorem C07.read_bits_is_stream_read (r : BitIO.Rd) (n : ℕ) (h : r.start ≤ r.off) :
    (BitIO.readBits r n).1 = bitsNat ((toR r).read n).1 ∧ toR (BitIO.readBits r n).2 = ((toR r).read n).2 := by
  rw [readBits_pair r n, read_toR r n h]; exact ⟨rfl, rfl⟩

/-- `_BitReader.align_to(a)` is `R.alignTo a` on the stream view. -/
theorem C07.align_to_is_stream_align (r : BitIO.Rd) (a : ℕ) (ha : 0 < a) (h : r.start ≤ r.off) :
    toR (r.alignTo a) = (toR r).alignTo a :=
  (toR_alignTo r a ha h).1

/-- `remaining_bits` is the length of the window, and `bounded_subreader(k)` for `k ≤ remaining_bits` sees the first
    `k` bits of the window (what `unwrapDelim` hands to the body) and satisfies the invariant again. -/
theorem C07.sub_reader_is_window_prefix (r : BitIO.Rd) (k : ℕ) (hr : RInv r) (hk : k ≤ r.remaining) :
    r.remaining = (toR r).s.length ∧ toR (r.sub k).1 = ⟨(toR r).off, (toR r).s.take k⟩ ∧ RInv (r.sub k).1 ∧
      toR (r.sub k).2 = ⟨(toR r).off + k, (toR r).s.drop k⟩ :=
  ⟨remaining_eq r hr, (toR_sub r k hr hk).1, (toR_sub r k hr hk).2, toR_adv r k hr.1⟩

/-- `_BitWriter.align_to(a)` appends `padLen off a` zero bits. -/
theorem C06.align_to_is_padLen (w : BitIO.W) (a : ℕ) (ha : 0 < a) (hw : w.ok = true) :
    (BitIO.alignTo w a).ok = true ∧ (BitIO.alignTo w a).logical = w.logical ++ zeros (padLen w.off a) :=
  ws_alignTo w a ha hw

example : (BitIO.alignTo (BitIO.writeBits ⟨[], 0⟩ 5 3) 8).logical = BitIO.natBits 3 5 ++ zeros (padLen 3 8) := by
  decide +kernel
