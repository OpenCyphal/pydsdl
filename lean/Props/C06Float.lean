import Proofs.WireFloat
/-! C06 — the numeric conversion number → IEEE-754 bit pattern of a float field, on the model `Model/Float.lean`
    (`WireFloat.roundBinary`, to be tied to `_serialize_primitive` / `struct.pack` of pydsdl/_serdes.py by the
    correspondence suite `wire`: input sign + exact fraction + width + cast mode, output the pattern).

    A format is `(eb, mb)` = (exponent bits, stored mantissa bits): binary16 = (5, 10), binary32 = (8, 23),
    binary64 = (11, 52).  All theorems are generic in the format; they need `2 ≤ eb` where the top of the exponent
    range matters and `1 ≤ mb` where the parity of the last mantissa bit matters.

    `decodeBinary eb mb bits : Option ℚ` is the exact value of a finite pattern (`none` for infinities and NaNs),
    `roundBinary eb mb c neg n d` the pattern written for the number `(-1)^neg * n / d`,
    `roundRat eb mb c q` the same for a rational `q` (zero is `+0`), `sgn neg = ∓1`,
    `maxFinite` / `overflowThreshold` the largest finite number and that plus half a unit in its last place. -/
open WireFloat
open Wire (Cast)

/-! ### exactness: round ∘ decode = id, decode ∘ round = id -/

/-- round ∘ decode = id on every finite pattern, the sign carried explicitly (so `-0` is covered): if `n / d` is the
    magnitude of the pattern `bits` (its value in quanta `2^-Q` is `decodeScaled mb (magOf eb mb bits)`), then
    rounding it with the sign of `bits` gives `bits` back, in both cast modes. -/
theorem C06.float_exact (eb mb : Nat) (c : Cast) (bits n d : Nat)
    (hf : isFinite eb mb bits = true) (hd : 0 < d)
    (hnd : n * 2 ^ scaleExp eb mb = decodeScaled mb (magOf eb mb bits) * d) :
    roundBinary eb mb c (isNeg eb mb bits) n d = bits :=
  roundBinary_exact mb c bits hf n d hd hnd

-- binary16: 0x8001 is minus the smallest subnormal, -1 / 2^24; 0xFBFF is -65504; 0x8000 is -0
example : isFinite 5 10 0x8001 = true ∧ isNeg 5 10 0x8001 = true ∧
    1 * 2 ^ scaleExp 5 10 = decodeScaled 10 (magOf 5 10 0x8001) * 2 ^ 24 := by decide +kernel
example : roundBinary 5 10 .sat true 1 (2 ^ 24) = 0x8001 ∧ roundBinary 5 10 .trunc true 65504 1 = 0xFBFF ∧
    roundBinary 5 10 .trunc true 0 1 = 0x8000 := by decide +kernel

/-- The same over the rationals: a finite pattern other than `-0` is recovered from its exact value. -/
theorem C06.float_exact_rat (eb mb : Nat) (c : Cast) (bits : Nat) (q : ℚ)
    (hq : decodeBinary eb mb bits = some q) (hz : bits ≠ signBit eb mb) :
    roundRat eb mb c q = bits :=
  roundRat_exact mb c bits q hq hz

example : decodeBinary 5 10 0x3555 = some (1365 / 4096) ∧ 0x3555 ≠ signBit 5 10 := by decide +kernel
example : decodeBinary 8 23 0x00000001 = some (1 / 2 ^ 149) := by decide +kernel
example : decodeBinary 11 52 0x7FEFFFFFFFFFFFFF = some ((2 ^ 53 - 1) * 2 ^ 971) := by decide +kernel

/-- decode ∘ round = id on the representable numbers (`-0` decodes to `0`, which is rounded to `+0`). -/
theorem C06.float_decode_round (eb mb : Nat) (c : Cast) (q : ℚ)
    (hq : ∃ bits, decodeBinary eb mb bits = some q) :
    decodeBinary eb mb (roundRat eb mb c q) = some q := by
  obtain ⟨bits, hb⟩ := hq
  by_cases hz : bits = signBit eb mb
  · -- the value of -0 is 0, and 0 is the value of the pattern 0
    subst hz
    obtain ⟨hf, hv⟩ := decodeBinary_some eb mb _ q hb
    have hm : magOf eb mb (signBit eb mb) = 0 := Nat.mod_self _
    have hm0 : magOf eb mb 0 = 0 := Nat.zero_mod _
    have hfin : isFinite eb mb 0 = true :=
      (isFinite_iff eb mb 0).mpr ⟨Nat.mul_pos (by decide) (Nat.two_pow_pos _),
        by rw [hm0, ← hm]; exact ((isFinite_iff eb mb _).mp hf).2⟩
    have h0 : decodeBinary eb mb 0 = some q := by
      rw [decodeBinary_finite eb mb 0 hfin, hv, hm, hm0, decodeScaled_zero, Nat.cast_zero, mul_zero, mul_zero]
    rw [roundRat_exact mb c 0 q h0 (Nat.ne_of_lt (Nat.two_pow_pos _))]; exact h0
  · rw [roundRat_exact mb c bits q hb hz]; exact hb

example : ∃ bits, decodeBinary 5 10 bits = some (-(3 : ℚ) / 2 ^ 24) := ⟨0x8003, by decide +kernel⟩

/-! ### round to nearest, ties to even -/

/-- **Nearest**: below the overflow threshold the result is a finite pattern in both cast modes, and no finite
    pattern of the format has a value closer to the input than the value of the result. -/
theorem C06.float_nearest (eb mb : Nat) (c : Cast) (neg : Bool) (n d : Nat) (heb : 2 ≤ eb) (hd : 0 < d)
    (h : (n : ℚ) / d < overflowThreshold eb mb) :
    ∃ v, decodeBinary eb mb (roundBinary eb mb c neg n d) = some v ∧
      ∀ b' v', decodeBinary eb mb b' = some v' → |v - sgn neg * n / d| ≤ |v' - sgn neg * n / d| := by
  obtain ⟨_, _, hdec⟩ := roundBinary_below mb c neg n d heb hd h
  refine ⟨_, hdec, fun b' v' hb' => ?_⟩
  obtain ⟨_, rfl⟩ := decodeBinary_some eb mb b' v' hb'
  exact rat_dist_le _ _ n neg _ hd (Nat.two_pow_pos _) (roundScaled_nearest mb _ d hd _)

/-- The same for a rational input. -/
theorem C06.float_nearest_rat (eb mb : Nat) (c : Cast) (q : ℚ) (heb : 2 ≤ eb)
    (h : |q| < overflowThreshold eb mb) :
    ∃ v, decodeBinary eb mb (roundRat eb mb c q) = some v ∧
      ∀ b' v', decodeBinary eb mb b' = some v' → |v - q| ≤ |v' - q| := by
  rw [abs_rat_eq] at h
  have := C06.float_nearest eb mb c (decide (q < 0)) _ _ heb q.den_pos h
  rwa [sgn_repr q] at this

-- 1/3 is not representable; 65519.99 is above the largest finite binary16 number and still rounds to it
example : overflowThreshold 5 10 = 65520 ∧ maxFinite 5 10 = 65504 ∧
    overflowThreshold 8 23 = 2 ^ 128 - 2 ^ 103 ∧ overflowThreshold 11 52 = 2 ^ 1024 - 2 ^ 970 := by decide +kernel
example : roundRat 5 10 .sat (1 / 3) = 0x3555 ∧ roundRat 8 23 .sat (1 / 3) = 0x3EAAAAAB ∧
    roundRat 11 52 .trunc (-1 / 3) = 0xBFD5555555555555 ∧
    roundRat 5 10 .trunc (6551999 / 100) = 0x7BFF := by decide +kernel

/-- **Half an ulp**: the magnitude `n / d` of the input lies in the binade whose spacing is `2^k` quanta (`k = 0`:
    below the second normal binade, which includes the whole subnormal range, where the spacing is one quantum
    `2^-Q`), and the error is at most half of that spacing. -/
theorem C06.float_half_ulp (eb mb : Nat) (c : Cast) (neg : Bool) (n d : Nat) (heb : 2 ≤ eb) (hd : 0 < d)
    (h : (n : ℚ) / d < overflowThreshold eb mb) :
    ∃ v k, decodeBinary eb mb (roundBinary eb mb c neg n d) = some v ∧
      (k ≠ 0 → (2 : ℚ) ^ (mb + k) / 2 ^ scaleExp eb mb ≤ (n : ℚ) / d) ∧
      (n : ℚ) / d < (2 : ℚ) ^ (mb + 1 + k) / 2 ^ scaleExp eb mb ∧
      2 * |v - sgn neg * n / d| ≤ (2 : ℚ) ^ k / 2 ^ scaleExp eb mb := by
  obtain ⟨_, _, hdec⟩ := roundBinary_below mb c neg n d heb hd h
  obtain ⟨hlo, hhi⟩ := spacing_facts mb (n * 2 ^ scaleExp eb mb) d hd
  have hP := Nat.two_pow_pos (scaleExp eb mb)
  have hP' : (0 : ℚ) < (2 : ℚ) ^ scaleExp eb mb := pow_pos two_pos _
  have hd' : (0 : ℚ) < d := Nat.cast_pos.mpr hd
  refine ⟨_, spacing mb (n * 2 ^ scaleExp eb mb) d, hdec, fun hk => ?_, ?_, ?_⟩
  · rw [div_le_div_iff₀ hP' hd', pow_add, mul_assoc, mul_comm _ (d : ℚ)]
    exact_mod_cast hlo hk
  · rw [div_lt_div_iff₀ hd' hP', pow_add, mul_assoc, mul_comm _ (d : ℚ)]
    exact_mod_cast hhi
  · have hq := Int.cast_le (R := ℚ).mpr (roundScaled_half mb (n * 2 ^ scaleExp eb mb) d hd)
    have e : (((d * 2 ^ spacing mb (n * 2 ^ scaleExp eb mb) d : ℕ) : ℤ) : ℚ) =
        2 ^ spacing mb (n * 2 ^ scaleExp eb mb) d * d := by push_cast; ring
    rw [Int.cast_mul (2 : ℤ), Int.cast_ofNat, e] at hq
    rw [rat_dist_same _ n neg hd hP, ← mul_div_assoc, Nat.cast_pow, Nat.cast_ofNat,
      mul_comm ((2 : ℚ) ^ scaleExp eb mb), ← div_div]
    exact div_le_div_of_nonneg_right ((div_le_iff₀ hd').mpr hq) hP'.le

example : ((1 : ℕ) : ℚ) / (3 : ℕ) < overflowThreshold 5 10 := by
  have : overflowThreshold 5 10 = 65520 := by decide +kernel
  rw [this]; norm_num

/-- **Ties to even**: if another finite pattern has a different value that is exactly as close to the input as the
    value of the result, then the result is the one whose last mantissa bit is 0. -/
theorem C06.float_tie_even (eb mb : Nat) (c : Cast) (neg : Bool) (n d : Nat) (heb : 2 ≤ eb) (hmb : 1 ≤ mb)
    (hd : 0 < d) (h : (n : ℚ) / d < overflowThreshold eb mb) (v : ℚ) (b' : Nat) (v' : ℚ)
    (hv : decodeBinary eb mb (roundBinary eb mb c neg n d) = some v)
    (hb' : decodeBinary eb mb b' = some v') (hne : v' ≠ v)
    (htie : |v' - sgn neg * n / d| = |v - sgn neg * n / d|) :
    roundBinary eb mb c neg n d % 2 = 0 := by
  obtain ⟨_, e, hdec⟩ := roundBinary_below mb c neg n d heb hd h
  obtain rfl := Option.some.inj (hdec.symm.trans hv)
  obtain ⟨_, rfl⟩ := decodeBinary_some eb mb b' v' hb'
  -- the two magnitudes are equally far from `n / d` …
  have heq := le_antisymm (int_dist_le _ _ n neg _ hd (Nat.two_pow_pos _) htie.le)
    (roundScaled_nearest mb (n * 2 ^ scaleExp eb mb) d hd (magOf eb mb b'))
  -- … and different: equal magnitudes of opposite sign are equally far from zero only
  have hVne : decodeScaled mb (magOf eb mb b') ≠ decodeScaled mb (roundScaled mb (n * 2 ^ scaleExp eb mb) d) := by
    intro hVV
    rw [hVV] at hne htie
    rcases Bool.eq_or_eq_not (isNeg eb mb b') neg with hs | hs <;> rw [hs] at hne htie
    · exact hne rfl
    · rw [sgn_not, neg_mul, neg_div] at htie hne
      rcases abs_eq_abs.mp htie with h1 | h1
      · exact hne (sub_left_inj.mp h1)
      · rw [neg_sub', sub_right_inj, self_eq_neg, div_eq_zero_iff, mul_eq_zero, Nat.cast_eq_zero,
          Nat.cast_eq_zero] at h1
        obtain rfl : n = 0 := (h1.resolve_right hd.ne').resolve_left (sgn_ne_zero neg)
        rw [Nat.zero_mul, roundScaled_zero mb d hd, decodeScaled_zero, Nat.cast_zero, mul_zero, zero_div] at hne
        exact hne neg_zero
  rw [e]
  exact even_assemble eb mb hmb neg (roundScaled_tie_even mb _ d hmb hd (magOf eb mb b') hVne heq)

theorem C06.float_tie_even_rat (eb mb : Nat) (c : Cast) (q : ℚ) (heb : 2 ≤ eb) (hmb : 1 ≤ mb)
    (h : |q| < overflowThreshold eb mb) (v : ℚ) (b' : Nat) (v' : ℚ)
    (hv : decodeBinary eb mb (roundRat eb mb c q) = some v)
    (hb' : decodeBinary eb mb b' = some v') (hne : v' ≠ v) (htie : |v' - q| = |v - q|) :
    roundRat eb mb c q % 2 = 0 := by
  rw [abs_rat_eq] at h
  have := C06.float_tie_even eb mb c (decide (q < 0)) _ _ heb hmb q.den_pos h v b' v' hv hb' hne
  rw [sgn_repr q] at this
  exact this htie

-- binary16 has spacing 2 between 2048 and 4096: 2049 is a tie between 2048 (0x6800) and 2050 (0x6801),
-- 2051 a tie between 2050 and 2052 (0x6802); half the smallest subnormal is a tie between 0 and 1 / 2^24
example : roundRat 5 10 .sat 2049 = 0x6800 ∧ roundRat 5 10 .sat 2051 = 0x6802 ∧
    decodeBinary 5 10 0x6800 = some 2048 ∧ decodeBinary 5 10 0x6801 = some 2050 ∧
    roundRat 5 10 .sat (1 / 2 ^ 24) = 1 ∧ roundRat 5 10 .sat (1 / 2 ^ 25) = 0 ∧
    roundRat 5 10 .sat (3 / 2 ^ 25) = 2 ∧ roundRat 5 10 .trunc (-1 / 2 ^ 25) = 0x8000 := by decide +kernel

/-! ### overflow and saturation -/

/-- **Saturated mode**: every magnitude above the largest finite number gives ± the largest finite pattern … -/
theorem C06.float_saturate (eb mb : Nat) (neg : Bool) (n d : Nat) (heb : 2 ≤ eb) (hd : 0 < d)
    (h : maxFinite eb mb < (n : ℚ) / d) :
    roundBinary eb mb .sat neg n d = (if neg then signBit eb mb else 0) + maxPat eb mb := by
  rw [roundBinary_eq mb .sat neg n hd]
  exact congrArg _ (Nat.min_eq_right
    (maxPat_le_of_max_le mb _ d hd (Nat.le_of_lt ((above_max_iff mb n d heb hd).mp h))))

/-- … and the result of the saturated mode is a finite pattern for every input. -/
theorem C06.float_saturate_finite (eb mb : Nat) (neg : Bool) (n d : Nat) (heb : 2 ≤ eb) (hd : 0 < d) :
    isFinite eb mb (roundBinary eb mb .sat neg n d) = true := by
  rw [roundBinary_eq mb .sat neg n hd]
  exact isFinite_assemble eb mb neg _
    (Nat.lt_of_le_of_lt (Nat.min_le_right _ _) (Nat.sub_lt (infPat_pos mb heb) Nat.one_pos))

/-- **Truncated mode**: at and above the overflow threshold the result is ± infinity … -/
theorem C06.float_overflow (eb mb : Nat) (neg : Bool) (n d : Nat) (heb : 2 ≤ eb) (hd : 0 < d)
    (h : overflowThreshold eb mb ≤ (n : ℚ) / d) :
    roundBinary eb mb .trunc neg n d = (if neg then signBit eb mb else 0) + infPat eb mb := by
  have h' := Nat.le_of_not_lt ((below_iff eb mb n d hd).not.mp (not_lt.mpr h))
  rw [roundBinary_eq mb .trunc neg n hd]
  exact congrArg _ (Nat.min_eq_right ((overflow_iff mb _ d heb hd).mpr h'))

/-- … and below it a finite pattern (in both modes). -/
theorem C06.float_finite_below (eb mb : Nat) (c : Cast) (neg : Bool) (n d : Nat) (heb : 2 ≤ eb) (hd : 0 < d)
    (h : (n : ℚ) / d < overflowThreshold eb mb) :
    isFinite eb mb (roundBinary eb mb c neg n d) = true :=
  roundBinary_finite mb c neg n d heb hd h

theorem C06.float_saturate_rat (eb mb : Nat) (q : ℚ) (heb : 2 ≤ eb) (h : maxFinite eb mb < |q|) :
    roundRat eb mb .sat q = (if q < 0 then signBit eb mb else 0) + maxPat eb mb := by
  rw [abs_rat_eq] at h
  rw [roundRat_eq, C06.float_saturate eb mb _ _ _ heb q.den_pos h]
  simp

theorem C06.float_overflow_rat (eb mb : Nat) (q : ℚ) (heb : 2 ≤ eb) (h : overflowThreshold eb mb ≤ |q|) :
    roundRat eb mb .trunc q = (if q < 0 then signBit eb mb else 0) + infPat eb mb := by
  rw [abs_rat_eq] at h
  rw [roundRat_eq, C06.float_overflow eb mb _ _ _ heb q.den_pos h]
  simp

-- 65520 = overflowThreshold of binary16: +inf (0x7C00) when truncated, 65504 (0x7BFF) when saturated
example : roundRat 5 10 .trunc 65520 = 0x7C00 ∧ roundRat 5 10 .sat 65520 = 0x7BFF ∧
    roundRat 5 10 .trunc (-65520) = 0xFC00 ∧ roundRat 5 10 .sat (-(10 : ℚ) ^ 40) = 0xFBFF ∧
    infPat 5 10 = 0x7C00 ∧ maxPat 5 10 = 0x7BFF ∧ signBit 5 10 = 0x8000 ∧
    roundRat 8 23 .trunc (2 ^ 128 - 2 ^ 103) = 0x7F800000 ∧
    roundRat 8 23 .trunc (2 ^ 128 - 2 ^ 103 - 1) = 0x7F7FFFFF := by decide +kernel

/-! ### sign and order -/

/-- The sign bit of the result is the sign of the input — also when the result is zero (`-0`) or an infinity. -/
theorem C06.float_sign (eb mb : Nat) (c : Cast) (neg : Bool) (n d : Nat) (heb : 2 ≤ eb) (hd : 0 < d) :
    isNeg eb mb (roundBinary eb mb c neg n d) = neg := by
  rw [roundBinary_eq mb c neg n hd]
  exact isNeg_assemble eb mb neg _ (Nat.lt_of_le_of_lt
    (Nat.le_trans (Nat.min_le_right _ _) (capPat_le_infPat eb mb c)) (infPat_lt_signBit eb mb))

example : roundBinary 5 10 .sat true 1 (2 ^ 30) = 0x8000 := by decide +kernel

/-- **Monotone**: a larger magnitude never gives a smaller pattern (in both modes; `n / d ≤ n' / d'`). -/
theorem C06.float_monotone (eb mb : Nat) (c : Cast) (n d n' d' : Nat) (heb : 2 ≤ eb) (hd : 0 < d) (hd' : 0 < d')
    (h : n * d' ≤ n' * d) :
    roundBinary eb mb c false n d ≤ roundBinary eb mb c false n' d' :=
  roundBinary_mono mb c n d n' d' hd hd' h

/-- The order of non-negative finite patterns is the order of their values, so monotone in the patterns means
    monotone in the values. -/
theorem C06.float_pattern_order (mb a b : Nat) (h : a < b) : decodeScaled mb a < decodeScaled mb b :=
  decodeScaled_strictMono mb h

example : roundBinary 5 10 .trunc false 1 3 ≤ roundBinary 5 10 .trunc false 2 5 := by decide +kernel

/-! ### how the fraction is written; Python ints -/

/-- The result depends on the number only, not on how the fraction is written. -/
theorem C06.float_fraction_invariant (eb mb : Nat) (c : Cast) (neg : Bool) (n d k : Nat) (hk : 0 < k) :
    roundBinary eb mb c neg (n * k) (d * k) = roundBinary eb mb c neg n d := by
  unfold roundBinary
  simp only [Nat.mul_right_comm n k, roundScaled_scale _ _ _ _ hk, ← Nat.mul_assoc, Nat.mul_lt_mul_right hk]

example : roundBinary 5 10 .sat false 2 6 = roundBinary 5 10 .sat false 1 3 := by decide +kernel

/-- A Python `int` given for a float field goes through `float(int)` first (`roundInt`: two roundings).  For an
    integer that is a double — the value of a finite binary64 pattern `bits`, in particular every `|i| ≤ 2^53` —
    the result is the correctly rounded pattern of the integer itself. -/
theorem C06.float_int_exact (eb mb : Nat) (c : Cast) (n bits : Nat)
    (hf : isFinite 11 52 bits = true) (hv : n * 2 ^ scaleExp 11 52 = decodeScaled 52 (magOf 11 52 bits)) :
    roundInt eb mb c (isNeg 11 52 bits) n = roundBinary eb mb c (isNeg 11 52 bits) n 1 := by
  have h64 : roundBinary 11 52 .trunc (isNeg 11 52 bits) n 1 = bits :=
    roundBinary_exact 52 .trunc bits hf n 1 Nat.one_pos (by rw [hv, Nat.mul_one])
  have hfin : magOf 11 52 bits ≠ infPat 11 52 := Nat.ne_of_lt ((isFinite_iff 11 52 bits).mp hf).2
  unfold roundInt
  simp only [h64, hfin, if_false]
  rw [← hv]
  have := C06.float_fraction_invariant eb mb c (isNeg 11 52 bits) n 1 (2 ^ scaleExp 11 52) (Nat.two_pow_pos _)
  rwa [Nat.one_mul] at this

-- 2049 = value of the double 0x40A0020000000000
example : isFinite 11 52 0x40A0020000000000 = true ∧
    2049 * 2 ^ scaleExp 11 52 = decodeScaled 52 (magOf 11 52 0x40A0020000000000) := by decide +kernel

/-- The hypothesis cannot be dropped: for integers that are not doubles the two roundings can differ from the
    correctly rounded result (the same happens in pydsdl: `float(2**60 + 2**36 + 1)` is the binary32 tie
    `2**60 + 2**36`), and an integer just below the overflow threshold of binary32 becomes infinity. -/
theorem C06.float_int_double_rounding :
    roundInt 8 23 .trunc false (2 ^ 60 + 2 ^ 36 + 1) = 0x5D800000 ∧
    roundBinary 8 23 .trunc false (2 ^ 60 + 2 ^ 36 + 1) 1 = 0x5D800001 ∧
    roundInt 8 23 .trunc false (2 ^ 128 - 2 ^ 103 - 1) = 0x7F800000 ∧
    roundBinary 8 23 .trunc false (2 ^ 128 - 2 ^ 103 - 1) 1 = 0x7F7FFFFF := by decide +kernel
