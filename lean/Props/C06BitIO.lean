import Proofs.BitIOReader
/-!
# C06 / C07 — the bit-level writer and reader refine the stream view

`Model/BitIO.lean` models `_BitWriter.write_bits` and `_BitReader.read_bits` of _serdes.py with both of their code
paths (byte-aligned fast path incl. its three buffer cases, bit-wise slow path) and the limit logic of bounded
sub-readers.  The codec model of C06/C07 (`Model/Wire.lean`) uses a single stream function; the theorems here
justify that: for every offset, width, value and operation history,

* a writer that starts empty always holds exactly the concatenation of the `n` low bits of the values written
  (least significant bit first), zero-padded to a whole byte — so the overwrite branches of the fast path are
  unreachable and both paths agree;
* a reader returns the next `n` bits of its window — the data from the current position up to the innermost limit —
  extended with zeros, advances by `n`, and leaves the rest of the window; this holds for both paths and for
  requests that cross the limit.
-/
open BitIO

/-- `write_bits`, whichever path it takes, appends the `n` low bits and keeps the invariant. -/
theorem C06.write_bits_appends (w : W) (v n : ℕ) (h : w.ok = true) :
    (writeBits w v n).ok = true ∧ (writeBits w v n).off = w.off + n ∧
      (writeBits w v n).logical = w.logical ++ natBits n v :=
  writeBits_spec w v n h

/-- Every history of writes from an empty writer: the buffer is the concatenation of the written fields padded with
    zeros to a byte (what `finish()` returns), and the offset is the total width. -/
theorem C06.writer_history (ops : List (ℕ × ℕ)) :
    let w := ops.foldl (fun w op => writeBits w op.1 op.2) ⟨[], 0⟩
    w.ok = true ∧ w.buf = pad8 (ops.flatMap fun op => natBits op.2 op.1) ∧
      w.off = (ops.map Prod.snd).sum := by
  have key : ∀ (ops : List (ℕ × ℕ)) (w0 : W), w0.ok = true →
      let w := ops.foldl (fun w op => writeBits w op.1 op.2) w0
      w.ok = true ∧ w.logical = w0.logical ++ (ops.flatMap fun op => natBits op.2 op.1) ∧
        w.off = w0.off + (ops.map Prod.snd).sum := by
    intro ops
    induction ops with
    | nil => intro w0 h; simp [h]
    | cons op ops ih =>
      intro w0 h
      obtain ⟨s1, s2, s3⟩ := writeBits_spec w0 op.1 op.2 h
      obtain ⟨t1, t2, t3⟩ := ih (writeBits w0 op.1 op.2) s1
      simp only [List.foldl_cons, List.flatMap_cons, List.map_cons, List.sum_cons]
      exact ⟨t1, by rw [t2, s3, List.append_assoc], by rw [t3, s2]; omega⟩
  have h0 : (⟨[], 0⟩ : W).ok = true := by decide
  obtain ⟨k1, k2, k3⟩ := key ops ⟨[], 0⟩ h0
  refine ⟨k1, ?_, by simpa using k3⟩
  have := (ok_iff _).mp k1
  rw [this.1, k2]; simp [W.logical]

/-- `align_to` pads with zero bits up to the alignment. -/
theorem C06.align_to_pads (w : W) (a : ℕ) (h : w.ok = true) :
    (alignTo w a).ok = true ∧ (a > 0 → (alignTo w a).off % a = 0) ∧
      ∃ k, (alignTo w a).logical = w.logical ++ zeros k ∧ (a > 0 → k < a) := by
  unfold alignTo
  split
  · next h0 => exact ⟨h, fun ha => by omega, 0, by simp [zeros], fun ha => by omega⟩
  · next ha =>
    have hpos : 0 < a := Nat.pos_of_ne_zero ha
    split
    · next hr =>
      obtain ⟨s1, s2, s3⟩ := writeBits_spec w 0 (a - w.off % a) h
      refine ⟨s1, fun _ => ?_, a - w.off % a, by rw [s3, natBits_zero_value], fun _ => by omega⟩
      rw [s2]
      have := Nat.mod_lt w.off hpos
      have hdm := Nat.div_add_mod w.off a
      have : w.off + (a - w.off % a) = a * (w.off / a + 1) := by
        rw [Nat.mul_add, Nat.mul_one]; omega
      rw [this, Nat.mul_mod_right]
    · next hr =>
      exact ⟨h, fun _ => by omega, 0, by simp [zeros], fun _ => hpos⟩

/-- `read_bits`, whichever path it takes and whether or not a limit is crossed, returns the zero-extended next bits
    of the window. -/
theorem C07.read_bits_window (r : Rd) (n : ℕ) (hs : r.start ≤ r.off) :
    (readBits r n).1 = ofBits (takeZ n r.window) ∧
    (readBits r n).2 = { r with off := r.off + n } ∧
    (readBits r n).2.window = r.window.drop n :=
  readBits_spec r n hs

/-- Every history of reads: the values are the consecutive zero-extended segments of the initial window. -/
theorem C07.reader_history (ns : List ℕ) (r : Rd) (hs : r.start ≤ r.off) :
    (ns.foldl (fun (acc : List ℕ × Rd) n => (acc.1 ++ [(readBits acc.2 n).1], (readBits acc.2 n).2)) ([], r)).1
      = (ns.foldl (fun (acc : List ℕ × List Bool) n => (acc.1 ++ [ofBits (takeZ n acc.2)], acc.2.drop n)) ([], r.window)).1 := by
  have key : ∀ (ns : List ℕ) (r : Rd) (out : List ℕ), r.start ≤ r.off →
      (ns.foldl (fun (acc : List ℕ × Rd) n => (acc.1 ++ [(readBits acc.2 n).1], (readBits acc.2 n).2)) (out, r)).1
        = (ns.foldl (fun (acc : List ℕ × List Bool) n => (acc.1 ++ [ofBits (takeZ n acc.2)], acc.2.drop n)) (out, r.window)).1 := by
    intro ns
    induction ns with
    | nil => intro r out _; rfl
    | cons n ns ih =>
      intro r out hs
      obtain ⟨h1, h2, h3⟩ := readBits_spec r n hs
      simp only [List.foldl_cons]
      rw [h1, ← h3]
      apply ih
      rw [h2]; simp only; omega
  exact key ns r [] hs

/-- A bounded sub-reader sees exactly the next `k` bits of the data; the parent continues after them. -/
theorem C07.sub_reader_window (r : Rd) (k : ℕ) :
    (r.sub k).1.window = (r.data.drop r.off).take k ∧ (r.sub k).2 = { r with off := r.off + k } ∧
      (r.sub k).1.start ≤ (r.sub k).1.off := by
  simp [Rd.sub, Rd.window]

/-! ### Non-vacuity -/
example : (writeBits (writeBits ⟨[], 0⟩ 5 3) 43981 16).ok = true := by decide +kernel
example : (readBits { data := natBits 24 0xABCDEF, start := 0, off := 3, limit := some 9 } 16).1
    = ofBits (takeZ 16 ((natBits 24 0xABCDEF).drop 3 |>.take 6)) := by decide +kernel
