import Proofs.LayoutAlign
import Props.C01
/-!
# C02 — every type's layout (lengths, alignment, extent, prefixes) is the Specification

`Layout.specLens` (Proofs/LayoutDen.lean) is the Specification's set of serialized bit lengths of a type, written
by recursion on the type; `Layout.Ty.bls` is the operator tree the library builds.  All theorems hold for every
type tree the constructors accept (`Ty.wf`): any nesting depth, any capacity, any number of fields.
-/
open scoped Pointwise
open Bls Layout

/-- The bit length set expression of every type denotes exactly the Specification's length set … -/
theorem C02.bls_is_spec (t : Ty) (h : t.wf = true) : den t.bls = specLens t := den_bls t h

/-- … and therefore the analytic answers of the library about a type's bit length set (C01) are answers about the
    Specification's set: residues for every divisor, minimum, maximum. -/
theorem C02.analytic_answers_exact (t : Ty) (h : t.wf = true) (d : ℕ) (hd : 1 ≤ d) :
    (t.bls.modulo d).toFinset = (specLens t).image (· % d) ∧
    (t.bls.min ∈ specLens t ∧ ∀ l ∈ specLens t, t.bls.min ≤ l) ∧
    (t.bls.max ∈ specLens t ∧ ∀ l ∈ specLens t, l ≤ t.bls.max) := by
  have hw := bls_wf t h
  rw [← den_bls t h]
  exact ⟨Bls.modulo_exact _ hw d hd, min_exact _ hw, max_exact _ hw⟩

/-- Every possible length is a multiple of the type's alignment requirement. -/
theorem C02.length_multiple_of_alignment (t : Ty) (h : t.wf = true) : ∀ l ∈ specLens t, t.align ∣ l :=
  align_dvd_len t h

/-- Composites are byte aligned and every one of their lengths is a whole number of bytes. -/
theorem C02.composite_byte_aligned (t : Ty) (h : t.wf = true) (hc : t.isComposite = true) :
    t.align = 8 ∧ ∀ l ∈ specLens t, 8 ∣ l := by
  have ha := composite_align t h hc
  exact ⟨ha, fun l hl => ha ▸ align_dvd_len t h l hl⟩

/-- `smallestStd x = some w`: `w` is the least of 8/16/32/64 whose unsigned range holds `x`. -/
theorem C02.smallestStd_is_least (x w : ℕ) (h : smallestStd x = some w) :
    w ∈ [8, 16, 32, 64] ∧ x < 2 ^ w ∧ ∀ w' ∈ [8, 16, 32, 64], x < 2 ^ w' → w ≤ w' := by
  rcases smallestStd_cases x with ⟨j, hj, hlo, hhi, hs⟩ | ⟨_, hs⟩
  · obtain rfl : 2 ^ j = w := Option.some.inj (hs.symm.trans h)
    refine ⟨(by decide : ∀ j ∈ [3, 4, 5, 6], 2 ^ j ∈ [8, 16, 32, 64]) j hj, hhi, fun w' hw' hx => ?_⟩
    -- a width that holds `x` is above `2 ^ (j - 1)`, and the next standard width is `2 ^ j`
    refine (by decide : ∀ j ∈ [3, 4, 5, 6], ∀ w' ∈ [8, 16, 32, 64], j = 3 ∨ 2 ^ (j - 1) < w' → 2 ^ j ≤ w') j hj w' hw'
      (hlo.imp_right fun hlo => (Nat.pow_lt_pow_iff_right (by omega)).mp (lt_of_le_of_lt hlo hx))
  · rw [hs] at h; cases h

/-- The implicit array-length prefix is the smallest standard width that holds the capacity (never below the
    element alignment), and a capacity that needs more than 64 bits is rejected. -/
theorem C02.length_prefix (e : Ty) (cap : ℕ) :
    ((Ty.varr e cap).wf = true → ∃ w, smallestStd cap = some w ∧ lenBits e cap = max w e.align) ∧
    (2 ^ 64 ≤ cap → (Ty.varr e cap).wf = false) := by
  have hle : stdWidth cap ≤ lenBits e cap := Nat.le_max_left _ _
  constructor
  · intro h
    obtain ⟨_, _, hl⟩ := Ty.wf_varr.mp h
    rcases stdWidth_cases cap with ⟨w, _, hs, he⟩ | ⟨_, hgt⟩
    · exact ⟨w, hs, by rw [lenBits, he]⟩
    · omega
  · intro hc
    have := stdWidth_gt cap hc
    rw [Bool.eq_false_iff]
    exact fun h => absurd (Ty.wf_varr.mp h).2.2 (by omega)

/-- The union tag is the smallest standard width that holds the largest variant index. -/
theorem C02.union_tag (fs : List Ty) (h : (Ty.union fs).wf = true) :
    2 ≤ fs.length ∧ ∃ w, smallestStd (fs.length - 1) = some w ∧ tagBits fs = w := by
  obtain ⟨_, h2, ht⟩ := Ty.wf_union.mp h
  have hle : stdWidth (fs.length - 1) ≤ tagBits fs := Nat.le_max_left _ _
  rcases stdWidth_cases (fs.length - 1) with ⟨w, hw, hs, he⟩ | ⟨_, hgt⟩
  · have h8 : 8 ≤ w := (by decide : ∀ w ∈ [8, 16, 32, 64], 8 ≤ w) _ hw
    have hm := maxAlign_le fs fun f _ => align_cases f
    exact ⟨h2, w, hs, by rw [tagBits, he]; omega⟩
  · omega

/-- A sealed composite's extent is its longest representation. -/
theorem C02.sealed_extent (t : Ty) (h : t.wf = true) (hs : ∀ i e, t ≠ .delim i e) :
    t.extent ∈ specLens t ∧ ∀ l ∈ specLens t, l ≤ t.extent := by
  have hw := bls_wf t h
  have : t.extent = t.bls.max := by
    cases t <;> first | rfl | exact absurd rfl (hs _ _)
  rw [this, ← den_bls t h]
  exact max_exact _ hw

/-- A delimited composite's set is header + {0, 8, …, extent}, irrespective of its fields; its extent is the
    declared one; it is accepted exactly when the extent is a whole number of bytes not below the longest
    representation of the wrapped composite. -/
theorem C02.delimited (inner : Ty) (ext : ℕ) (hin : inner.wf = true)
    (hk : (∃ fs, inner = .struct fs) ∨ (∃ fs, inner = .union fs)) :
    ((Ty.delim inner ext).wf = true ↔ 8 ∣ ext ∧ inner.extent ≤ ext) ∧
    ((Ty.delim inner ext).wf = true →
      den (Ty.delim inner ext).bls = (Finset.range (ext / 8 + 1)).image (fun i => 32 + 8 * i) ∧
      (Ty.delim inner ext).extent = ext ∧ hdrBits inner = 32) := by
  have ha : inner.align = 8 := by rcases hk with ⟨fs, rfl⟩ | ⟨fs, rfl⟩ <;> exact comp_align fs
  have he : inner.extent = inner.bls.max := by rcases hk with ⟨fs, rfl⟩ | ⟨fs, rfl⟩ <;> rfl
  constructor
  · rw [Ty.wf_delim, ha, he, Nat.dvd_iff_mod_eq_zero]
    exact ⟨fun h => ⟨h.2.2.1, h.2.2.2⟩, fun h => ⟨hin, hk, h.1, h.2⟩⟩
  · intro h
    exact ⟨by rw [den_bls _ h, specLens], rfl, by rw [hdrBits, ha]; rfl⟩

/-- None of the `assert`s in the array / union / delimited constructors can fire. -/
theorem C02.constructor_asserts (t : Ty) (h : t.wf = true) : ctorAssertsOk t = true := by
  have hw := bls_wf t h
  have hal : ∀ l ∈ den t.bls, t.align ∣ l := by rw [den_bls t h]; exact align_dvd_len t h
  cases t with
  | prim n => rfl
  | void n => rfl
  | struct fs => rfl
  | farr e cap =>
    simp only [ctorAssertsOk]
    exact (C01.aligned_exact _ hw _ (one_le_align e)).mpr hal
  | varr e cap =>
    simp only [ctorAssertsOk, Bool.and_eq_true, decide_eq_true_eq]
    refine ⟨?_, (C01.aligned_exact _ hw _ (one_le_align e)).mpr hal⟩
    obtain ⟨w, hs, hl⟩ := (C02.length_prefix e cap).1 h
    rw [hl]
    exact Nat.mod_eq_zero_of_dvd (align_dvd_std e w (C02.smallestStd_is_least _ w hs).1)
  | union fs =>
    obtain ⟨_, w, hs, ht⟩ := C02.union_tag fs h
    rw [ctorAssertsOk, ht]
    exact (by decide : ∀ w ∈ [8, 16, 32, 64], [8, 16, 32, 64].contains w = true) w (C02.smallestStd_is_least _ w hs).1
  | delim inner ext =>
    have ha := delim_inner_align h
    obtain ⟨_, _, h8, hmx⟩ := Ty.wf_delim.mp h
    rw [Ty.align, ha] at hal
    have hal8 := (C01.aligned_exact _ hw 8 (by omega)).mpr hal
    have hmax : (Ty.delim inner ext).bls.max = hdrBits inner + 8 * (ext / 8) := by
      simp [Ty.bls, Op.max, sumMax, maxL, ha]
    rw [ha] at h8
    simp only [ctorAssertsOk, Bool.and_eq_true, decide_eq_true_eq, ha, hal8, hmax, and_true]
    omega

/-! ### Non-vacuity -/

example : (Ty.struct [.prim 3, .varr (.union [.prim 8, .farr (.prim 64) 2]) (2 ^ 32), .void 5]).wf = true := by
  decide +kernel
example : (Ty.delim (.union [.prim 8, .farr (.prim 64) 2]) 256).wf = true := by
  simp only [Ty.wf, wfList, Ty.bls, aggUnion, blsList, Op.max, sumMax, maxMax, maxL, tagBits, maxAlign, Ty.align]
  decide +kernel
example : (Ty.varr (.prim 8) (2 ^ 64 - 1)).wf = true ∧ (Ty.varr (.prim 8) (2 ^ 64)).wf = false := by decide +kernel
