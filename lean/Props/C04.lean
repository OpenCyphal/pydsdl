import Proofs.Expr
import Proofs.ExprLit
import Proofs.ExprParse
import Proofs.ExprParen
import Proofs.ExprLex
import Proofs.ExprLexLit
import Proofs.ExprChars
import Proofs.ExprReal
/-!
# C04 — constant expressions evaluate exactly, with the Specification's precedence

Model: `Model/Expr.lean` (`Ex.eval`, `Ex.evalBin`, `Ex.toks`, `Ex.parseTokens`, literal decoders, the character-level
lexer `Ex.lex` / `Ex.parseChars` and the renderer `Ex.renderToks`).
The statements below are about the model; the model is tied to pydsdl by the correspondence suite `expr`.
-/
open Ex

/-! ## exact arithmetic -/

/-- `+ - *` on rationals are the field operations (no rounding, no overflow). -/
theorem C04.exact_ring [StrNorm] (a b : Rat) :
    evalBin .add (.rat a) (.rat b) = .ok (.rat (a + b)) ∧
    evalBin .sub (.rat a) (.rat b) = .ok (.rat (a - b)) ∧
    evalBin .mul (.rat a) (.rat b) = .ok (.rat (a * b)) := ⟨rfl, rfl, rfl⟩

example : @evalBin StrNorm.plain .add (.rat (1/3)) (.rat (1/6)) = .ok (.rat (1/2)) := by decide +kernel

/-- Division is exact, and division by zero is rejected as an invalid definition. -/
theorem C04.exact_div [StrNorm] (a b : Rat) :
    (b ≠ 0 → evalBin .div (.rat a) (.rat b) = .ok (.rat (a / b))) ∧
    (b = 0 → evalBin .div (.rat a) (.rat b) = .error (.invalid .divZero)) := by
  constructor
  · intro h; simp [evalBin, scBin, h, Except.map]
  · rintro rfl; simp [evalBin, scBin, Except.map, inval]

example : @evalBin StrNorm.plain .div (.rat 1) (.rat 3) = .ok (.rat (1/3)) := by decide +kernel

/-- `%` is the floored modulo on rationals: `a = k*b + r` for an integer `k`, with `r` between zero and the divisor
    (taking the divisor's sign); modulo zero is rejected. -/
theorem C04.exact_mod [StrNorm] (a b : Rat) :
    (b ≠ 0 → ∃ r : Rat, evalBin .mod (.rat a) (.rat b) = .ok (.rat r) ∧ (∃ k : Int, a = k * b + r) ∧
        (0 < b → 0 ≤ r ∧ r < b) ∧ (b < 0 → b < r ∧ r ≤ 0)) ∧
    (b = 0 → evalBin .mod (.rat a) (.rat b) = .error (.invalid .divZero)) := by
  constructor
  · intro h
    exact ⟨ratMod a b, by simp [evalBin, scBin, h, Except.map], ratMod_spec a b⟩
  · rintro rfl; simp [evalBin, scBin, Except.map, inval]

example : @evalBin StrNorm.plain .mod (.rat (-7)) (.rat 3) = .ok (.rat 2) := by decide +kernel

/-- A power with an integral exponent is the exact power, negative exponents included; only `0 ** negative` is
    rejected. -/
theorem C04.exact_pow [StrNorm] (a : Rat) (n : Int) :
    ((a ≠ 0 ∨ 0 ≤ n) → evalBin .pow (.rat a) (.rat (n : Rat)) = .ok (.rat (a ^ n))) ∧
    ((a = 0 ∧ n < 0) → evalBin .pow (.rat a) (.rat (n : Rat)) = .error (.invalid .divZero)) := by
  constructor
  · intro h; simp [evalBin, scBin, scPow_int a n h, Except.map]
  · rintro ⟨rfl, hn⟩; simp [evalBin, scBin, scPow_zero_neg n hn, Except.map]

example : @evalBin StrNorm.plain .pow (.rat 2) (.rat (-1)) = .ok (.rat (1/2)) := by decide +kernel

/-- Comparisons of rationals are the order of ℚ. -/
theorem C04.exact_cmp [StrNorm] (a b : Rat) :
    evalBin .eq (.rat a) (.rat b) = .ok (.bool (decide (a = b))) ∧
    evalBin .lt (.rat a) (.rat b) = .ok (.bool (decide (a < b))) ∧
    evalBin .le (.rat a) (.rat b) = .ok (.bool (decide (a ≤ b))) ∧
    evalBin .gt (.rat a) (.rat b) = .ok (.bool (decide (b < a))) ∧
    evalBin .ge (.rat a) (.rat b) = .ok (.bool (decide (b ≤ a))) ∧
    evalBin .ne (.rat a) (.rat b) = .ok (.bool (decide (a ≠ b))) := by
  refine ⟨?_, ?_, ?_, ?_, ?_, ?_⟩ <;> simp [evalBin, scBin, Except.map, beq_eq_decide, bne]

/-! ## definedness -/

/-- Exactly the operand combinations of the table (Appendix E of DESIGN.md, `Ex.defined`) produce a value, and every
    other combination is rejected as an invalid definition — never a hazard or a foreign outcome — for all operators
    and all values satisfying the set invariant, as long as exponents are integral (the bound of the property). -/
theorem C04.defined [StrNorm] (op : BinOp) (a b : Val) (ha : a.wf) (hb : b.wf) (hexp : intExpV op b) :
    ((∃ v, evalBin op a b = .ok v) ↔ Ex.defined op a b) ∧
    (∀ e, evalBin op a b = .error e → ∃ k, e = .invalid k) :=
  evalBin_defined op a b ha hb hexp

example : Ex.defined .add (.set [.rat 1, .rat 2]) (.rat 3) :=
  ⟨rfl, fun x hx => by rcases List.mem_pair.mp hx with rfl | rfl <;> trivial⟩
example : ¬ Ex.defined .add (.rat 1) (.str []) := by simp [Ex.defined, definedSc]

/-- Results of the operators satisfy the set invariant again (non-empty, one element kind, duplicate-free). -/
theorem C04.defined_closed [StrNorm] (op : BinOp) (a b v : Val) (h : evalBin op a b = .ok v) : v.wf := evalBin_wf op a b v h

/-- Unary operators: `+`/`-` on rationals, `!` on booleans, everything else rejected. -/
theorem C04.defined_unary (op : UnOp) (v : Val) :
    (∃ r, evalUn op v = .ok r) ↔ ((op = .pos ∨ op = .neg) ∧ ∃ q, v = .rat q) ∨ (op = .not ∧ ∃ b, v = .bool b) := by
  cases op <;> rcases v with (_ | _ | _) | _ <;> simp [evalUn, inval]

/-! ## strings -/

/-- Strings: `+` concatenates the code points and does nothing else to them; `==` holds exactly when the normal forms
    of the two operands are equal and `!=` is its negation - whether an operand is a literal or the result of a
    concatenation, on either side.  (The normal form is a parameter: the statement holds for every normalisation
    function; the driver runs the evaluator with `Ucd.nfc`, see below.) -/
theorem C04.strings [StrNorm] (a b c : List Nat) :
    evalBin .add (.str a) (.str b) = .ok (.str (a ++ b)) ∧
    evalBin .eq (.str a) (.str b) = .ok (.bool (decide (StrNorm.nfc a = StrNorm.nfc b))) ∧
    evalBin .ne (.str a) (.str b) = .ok (.bool (decide (StrNorm.nfc a ≠ StrNorm.nfc b))) ∧
    (∀ r, evalBin .add (.str a) (.str b) = .ok r →
      evalBin .eq r (.str c) = .ok (.bool (decide (StrNorm.nfc (a ++ b) = StrNorm.nfc c))) ∧
      evalBin .eq (.str c) r = .ok (.bool (decide (StrNorm.nfc c = StrNorm.nfc (a ++ b))))) := by
  refine ⟨?_, ?_, ?_, ?_⟩
  · simp [evalBin, scBin, Except.map]
  · simp [evalBin, scBin, Except.map, beq_eq_decide]
  · simp [evalBin, scBin, Except.map, bne, beq_eq_decide]
  · intro r h
    have hr : r = .str (a ++ b) := by simpa [evalBin, scBin, Except.map] using h.symm
    subst hr
    constructor <;> simp [evalBin, scBin, Except.map, beq_eq_decide]

/-- String `==` is an equivalence relation on texts (the kernel of the normal form). -/
theorem C04.strings_equivalence [StrNorm] (a b c : List Nat) :
    evalBin .eq (.str a) (.str a) = .ok (.bool true) ∧
    (evalBin .eq (.str a) (.str b) = .ok (.bool true) → evalBin .eq (.str b) (.str a) = .ok (.bool true)) ∧
    (evalBin .eq (.str a) (.str b) = .ok (.bool true) → evalBin .eq (.str b) (.str c) = .ok (.bool true) →
      evalBin .eq (.str a) (.str c) = .ok (.bool true)) := by
  simp only [evalBin, scBin, Except.map, Except.ok.injEq, Val.sc.injEq, Scalar.bool.injEq, beq_iff_eq, beq_self_eq_true, true_and]
  exact ⟨fun h => h.symm, fun h1 h2 => h1.trans h2⟩

/-- leading consonant and vowel of the syllable with index `i` compose to the syllable without its trailing consonant -/
theorem hangulComp_lv (i : Nat) (hi : i < hSCount) :
    hangulComp (hLBase + i / hNCount) (hVBase + i % hNCount / hTCount) = some (hSBase + (i - i % hTCount)) := by
  unfold hangulComp hSBase hLBase hVBase hLCount hVCount hTCount hNCount hSCount at *
  rw [if_pos (by omega)]
  exact congrArg some (by omega)

/-- a syllable without trailing consonant (index `j`) and a trailing consonant compose to the full syllable -/
theorem hangulComp_lvt (j t : Nat) (hj : j < hSCount) (hj0 : j % hTCount = 0) (ht : 0 < t) (ht' : t < hTCount) :
    hangulComp (hSBase + j) (hTBase + t) = some (hSBase + j + t) := by
  unfold hangulComp hSBase hLBase hVBase hTBase hLCount hVCount hTCount hSCount at *
  rw [if_neg (by omega), if_pos (by omega)]
  exact congrArg some (by omega)

/-- Hangul: the arithmetic composition inverts the arithmetic decomposition of every syllable. -/
theorem C04.hangul_roundtrip (s : Nat) :
    (∀ l v, hangulDecomp s = some [l, v] → hangulComp l v = some s) ∧
    (∀ l v t, hangulDecomp s = some [l, v, t] → ∃ lv, hangulComp l v = some lv ∧ hangulComp lv t = some s) := by
  unfold hangulDecomp
  split
  swap
  · exact ⟨fun _ _ h => (nomatch h), fun _ _ _ h => (nomatch h)⟩
  rename_i hs
  obtain ⟨i, rfl⟩ : ∃ i, s = hSBase + i := ⟨s - hSBase, by omega⟩
  have hi : i < hSCount := by omega
  simp only [Nat.add_sub_cancel_left, Option.some.injEq]
  constructor
  · intro l v h
    split at h
    · rename_i h0
      obtain ⟨rfl, rfl⟩ : hLBase + i / hNCount = l ∧ hVBase + i % hNCount / hTCount = v := by simpa using h
      rw [hangulComp_lv i hi, h0]; rfl
    · simp at h
  · intro l v t h
    split at h
    · simp at h
    · rename_i h0
      obtain ⟨rfl, rfl, rfl⟩ : hLBase + i / hNCount = l ∧ hVBase + i % hNCount / hTCount = v ∧ hTBase + i % hTCount = t := by
        simpa using h
      have key : i - i % hTCount < hSCount ∧ (i - i % hTCount) % hTCount = 0 ∧ 0 < i % hTCount ∧ i % hTCount < hTCount ∧
          hSBase + (i - i % hTCount) + i % hTCount = hSBase + i := by
        unfold hTCount hSCount at *; omega
      exact ⟨_, hangulComp_lv i hi, by rw [hangulComp_lvt _ _ key.1 key.2.1 key.2.2.1 key.2.2.2.1, key.2.2.2.2]⟩

example : hangulDecomp 0xAC01 = some [0x1100, 0x1161, 0x11A8] ∧ hangulDecomp 0xD7A3 = some [0x1112, 0x1175, 0x11C2] ∧
    hangulDecomp 0xAC00 = some [0x1100, 0x1161] ∧ hangulDecomp 0xD7A4 = none := by decide +kernel

/-- The normalisation algorithm on a small extract of the character database (combining classes of three marks, the
    decompositions and primary composites of five letters): composition across a junction, three levels, canonical
    reordering, blocking, a composition exclusion, Hangul, and the evaluator on top of it. -/
def C04.ucdSample : Ucd :=
  ⟨[(0x301, 230), (0x302, 230), (0x323, 220), (0x93C, 7)],
   [(0xE9, [0x65, 0x301]), (0xF4, [0x6F, 0x302]), (0x1ED1, [0x6F, 0x302, 0x301]), (0x1EA1, [0x61, 0x323]), (0xE1, [0x61, 0x301]),
    (0x958, [0x915, 0x93C])],
   [((0x65, 0x301), 0xE9), ((0x6F, 0x302), 0xF4), ((0xF4, 0x301), 0x1ED1), ((0x61, 0x323), 0x1EA1), ((0x61, 0x301), 0xE1)]⟩

example : C04.ucdSample.nfc ([0x65] ++ [0x301]) = [0xE9] := by decide +kernel
example : C04.ucdSample.nfc [0x63, 0x61, 0x66, 0xE9] = C04.ucdSample.nfc [0x63, 0x61, 0x66, 0x65, 0x301] := by decide +kernel
example : C04.ucdSample.nfc [0x6F, 0x302, 0x301] = [0x1ED1] ∧ C04.ucdSample.nfd [0x1ED1] = [0x6F, 0x302, 0x301] := by decide +kernel
example : C04.ucdSample.nfc [0x61, 0x301, 0x323] = [0x1EA1, 0x301] := by decide +kernel          -- the dot below is ordered first
example : C04.ucdSample.nfc [0x6F, 0x302, 0x302, 0x301] = [0xF4, 0x302, 0x301] := by decide +kernel   -- the acute is blocked by a mark of its own class
example : C04.ucdSample.nfc [0x958] = [0x915, 0x93C] := by decide +kernel                       -- excluded from composition
example : Ucd.empty.nfc [0x1100, 0x1161, 0x11A8] = [0xAC01] ∧ Ucd.empty.nfd [0xAC01] = [0x1100, 0x1161, 0x11A8] := by decide +kernel
example : Ucd.empty.nfc [0x1100, 0x11A8] = [0x1100, 0x11A8] := by decide +kernel                -- a trailing consonant needs an LV syllable
example : @evalBin ⟨C04.ucdSample.nfc⟩ .eq (.str ([0x65] ++ [0x301])) (.str [0xE9]) = .ok (.bool true) := by decide +kernel
example : @eval ⟨C04.ucdSample.nfc⟩ [] (.bin .eq (.bin .add (.lit (.str "'e'")) (.lit (.str "'\\u0301'"))) (.lit (.str "'\\u00e9'"))) =
    .ok (.bool true) := by decide +kernel
example : @eval ⟨C04.ucdSample.nfc⟩ [] (.attr (.setLit [.lit (.str "'e\\u0301'"), .lit (.str "'\\u00e9'")]) "count") = .ok (.rat 1) := by
  decide +kernel                                                                        -- two spellings of one text are one element

/-! ## sets -/

/-- Set algebra: `|`, `&`, `^` are union, intersection and symmetric difference. -/
theorem C04.sets_algebra [StrNorm] (as bs r : List Scalar) :
    (evalBin .bor (.set as) (.set bs) = .ok (.set r) → ∀ x, x ∈ r ↔ x ∈ as ∨ x ∈ bs) ∧
    (evalBin .band (.set as) (.set bs) = .ok (.set r) → ∀ x, x ∈ r ↔ x ∈ as ∧ x ∈ bs) ∧
    (evalBin .bxor (.set as) (.set bs) = .ok (.set r) → ∀ x, x ∈ r ↔ (x ∈ as ∧ x ∉ bs) ∨ (x ∈ bs ∧ x ∉ as)) :=
  ⟨evalBin_union as bs r, evalBin_inter as bs r, evalBin_symdiff as bs r⟩

example : @evalBin StrNorm.plain .bxor (.set [.rat 1, .rat 2]) (.set [.rat 2, .rat 3]) = .ok (.set [.rat 1, .rat 3]) := by decide +kernel

/-- Set comparison: `==` extensional equality, `<=`/`>=` sub/superset, `<`/`>` proper sub/superset. -/
theorem C04.sets_compare [StrNorm] (op : BinOp) (as bs : List Scalar) (r : Bool) (h : evalBin op (.set as) (.set bs) = .ok (.bool r)) :
    (op = .eq → (r = true ↔ ∀ x, x ∈ as ↔ x ∈ bs)) ∧
    (op = .ne → (r = true ↔ ¬ ∀ x, x ∈ as ↔ x ∈ bs)) ∧
    (op = .le → (r = true ↔ ∀ x ∈ as, x ∈ bs)) ∧
    (op = .ge → (r = true ↔ ∀ x ∈ bs, x ∈ as)) ∧
    (op = .lt → (r = true ↔ (∀ x ∈ as, x ∈ bs) ∧ ¬ ∀ x, x ∈ as ↔ x ∈ bs)) ∧
    (op = .gt → (r = true ↔ (∀ x ∈ bs, x ∈ as) ∧ ¬ ∀ x, x ∈ as ↔ x ∈ bs)) :=
  evalBin_set_cmp op as bs r h

example : @evalBin StrNorm.plain .lt (.set [.rat 1]) (.set [.rat 2, .rat 1]) = .ok (.bool true) := by decide +kernel
example : @evalBin StrNorm.plain .lt (.set [.rat 1, .rat 2]) (.set [.rat 2, .rat 1]) = .ok (.bool false) := by decide +kernel

/-- Element-wise application of the arithmetic operators, operand order preserved on both sides; the results are
    identified as set elements (`normSc`: a string by its normal form, anything else by itself). -/
theorem C04.sets_elementwise [StrNorm] (op : BinOp) (s : List Scalar) (c : Scalar) (r : List Scalar) :
    (evalBin op (.set s) (.sc c) = .ok (.set r) → ∀ y, y ∈ r ↔ ∃ x ∈ s, ∃ z, scBin op x c = .ok z ∧ y = normSc z) ∧
    (evalBin op (.sc c) (.set s) = .ok (.set r) → ∀ y, y ∈ r ↔ ∃ x ∈ s, ∃ z, scBin op c x = .ok z ∧ y = normSc z) := by
  constructor
  · intro h y; rw [evalBin_elementwise_left op s c r h y]; simp only [scBinEl_ok]
  · intro h y; rw [evalBin_elementwise_right op c s r h y]; simp only [scBinEl_ok]

example : @evalBin StrNorm.plain .sub (.rat 10) (.set [.rat 1, .rat 2]) = .ok (.set [.rat 9, .rat 8]) := by decide +kernel

/-- Set literals: an empty literal and a literal of mixed kinds are rejected; otherwise the literal is the set of its
    elements, a string being identified by its normal form. -/
theorem C04.sets_literal [StrNorm] (vs : List Scalar) :
    (vs = [] → mkSet (vs.map .sc) = .error (.invalid .emptySet)) ∧
    ((∃ x ∈ vs, ∃ y ∈ vs, x.kind ≠ y.kind) → mkSet (vs.map .sc) = .error (.invalid .hetero)) ∧
    (vs ≠ [] → (∀ x ∈ vs, ∀ y ∈ vs, x.kind = y.kind) →
      ∃ r, mkSet (vs.map .sc) = .ok (.set r) ∧ ∀ x, x ∈ r ↔ ∃ y ∈ vs, x = normSc y) := by
  rw [mkSet_scalars]
  refine ⟨?_, ?_, fun hne hk => ?_⟩
  · rintro rfl; rfl
  · rintro ⟨x, hx, y, hy, hxy⟩
    have hne : vs.map normSc ≠ [] := by rintro h; rw [List.map_eq_nil_iff.mp h] at hx; cases hx
    have hk : ¬ sameKinds (vs.map normSc) = true := by
      rw [sameKinds_map_normSc, sameKinds_iff]; exact fun h => hxy (h x hx y hy)
    rw [mkSetS, if_neg (by simpa using hne), if_neg hk]; rfl
  · refine ⟨_, mkSetS_ok_of _ (by simpa using hne) ?_, fun x => ?_⟩
    · rw [sameKinds_map_normSc]; exact (sameKinds_iff vs).mpr hk
    · rw [mem_dedup, List.mem_map]
      exact ⟨fun ⟨y, hy, h⟩ => ⟨y, hy, h.symm⟩, fun ⟨y, hy, h⟩ => ⟨y, hy, h.symm⟩⟩

/-- Sets of strings: two spellings are one element exactly when their normal forms are equal - `{a} == {b}` holds
    exactly when `a == b` does, and `{a, b}.count` is 1 or 2 accordingly. -/
theorem C04.sets_of_strings [StrNorm] (a b : List Nat) :
    mkSet [.str a] = .ok (.set [.str (StrNorm.nfc a)]) ∧
    evalBin .eq (.set [.str (StrNorm.nfc a)]) (.set [.str (StrNorm.nfc b)]) = .ok (.bool (decide (StrNorm.nfc a = StrNorm.nfc b))) ∧
    (∀ s, mkSet [.str a, .str b] = .ok s →
      evalAttr s "count" = .ok (.rat (if StrNorm.nfc a = StrNorm.nfc b then 1 else 2))) := by
  refine ⟨mkSet_scalars [.str a], ?_, fun s hs => ?_⟩
  · by_cases h : StrNorm.nfc a = StrNorm.nfc b <;>
      simp [evalBin, setSet, setKind, Scalar.kind, setEq, subsetL, h, eq_comm]
  · rw [show [Val.str a, .str b] = [Scalar.str a, .str b].map .sc from rfl, mkSet_scalars] at hs
    obtain ⟨_, _, rfl⟩ := (mkSetS_ok_iff _ s).mp hs
    by_cases h : StrNorm.nfc a = StrNorm.nfc b <;> simp [evalAttr, normSc, dedup, h]

example : @eval StrNorm.plain [] (.setLit []) = .error (.invalid .emptySet) := by decide +kernel

/-- `.min` / `.max` of a set of rationals are its least / greatest element, `.count` its cardinality. -/
theorem C04.sets_attributes [StrNorm] (a : Rat) (l : List Scalar) (hl : ∀ x ∈ l, ∃ q, x = .rat q) :
    (∃ m : Rat, evalAttr (.set (.rat a :: l)) "min" = .ok (.rat m) ∧ Scalar.rat m ∈ (Scalar.rat a :: l) ∧
        ∀ q, Scalar.rat q ∈ (Scalar.rat a :: l) → m ≤ q) ∧
    (∃ m : Rat, evalAttr (.set (.rat a :: l)) "max" = .ok (.rat m) ∧ Scalar.rat m ∈ (Scalar.rat a :: l) ∧
        ∀ q, Scalar.rat q ∈ (Scalar.rat a :: l) → q ≤ m) ∧
    evalAttr (.set (.rat a :: l)) "count" = .ok (.rat ((l.length + 1 : Nat) : Rat)) := by
  refine ⟨?_, ?_, ?_⟩
  · obtain ⟨m, hm, hmem, hall⟩ := reduceCmp_best false a l hl
    exact ⟨m, by simp [evalAttr, hm, Except.map], hmem, hall⟩
  · obtain ⟨m, hm, hmem, hall⟩ := reduceCmp_best true a l hl
    exact ⟨m, by simp [evalAttr, hm, Except.map], hmem, hall⟩
  · simp [evalAttr]

example : @evalAttr StrNorm.plain (.set [.rat 3, .rat 1, .rat 2]) "min" = .ok (.rat 1) := by decide +kernel

/-! ## literals -/

/-- Integer literals in the prefixed bases, with digit separators anywhere the grammar admits them and either letter
    case, denote the number their digits denote in that base. -/
theorem C04.literals_prefixed (radix : Nat) (p : Char) (ws : List DigitW) (hne : ws ≠ [])
    (hp : (radix = 2 ∧ (p = 'b' ∨ p = 'B')) ∨ (radix = 8 ∧ (p = 'o' ∨ p = 'O')) ∨ (radix = 16 ∧ (p = 'x' ∨ p = 'X')))
    (h : ∀ w ∈ ws, w.d < radix) :
    decodeInt ('0' :: p :: writeDigits ws) = .ok (numeral radix (ws.map (·.d))) :=
  decodeInt_prefixed radix p ws hne hp h

example : decodeInt "0x_Ff_0".toList = .ok 4080 := by decide +kernel

/-- Decimal integer literals (within CPython's 4300-digit conversion limit) denote their digits in base ten. -/
theorem C04.literals_decimal (ws : List DigitW) (hne : ws ≠ []) (h : ∀ w ∈ ws, w.d < 10) (hlen : ws.length ≤ pyIntMaxDigits) :
    decodeInt (writeDigits ws) = .ok (numeral 10 (ws.map (·.d))) :=
  decodeInt_decimal ws hne h hlen

example : decodeInt "1_000_000".toList = .ok 1000000 := by decide +kernel

/-! ## precedence and associativity -/

/-- The grammar's rule layering realises exactly the precedence table by which the printer places parentheses:
    printing any expression tree with minimal parentheses and parsing the tokens with the PEG gives the tree back.
    This covers `-2**2`, `2**-1`, `!a == b`, `||`/`&&` on one level, left-associative chains and the
    right-associative `**`, for every tree. -/
theorem C04.precedence (e : Expr) : parseTokens (toks e) = some e := roundtrip_min e

example : toks (.un .neg (.bin .pow (.lit (.int "2")) (.lit (.int "2"))))
    = [.sym .minus, .lit (.int "2"), .sym .starstar, .lit (.int "2")] := by decide +kernel
example : toks (.bin .pow (.un .neg (.lit (.int "2"))) (.lit (.int "2")))
    = [.lp, .sym .minus, .lit (.int "2"), .rp, .sym .starstar, .lit (.int "2")] := by decide +kernel

/-- the same for the printer that parenthesises every compound sub-expression -/
def C04.precedence_full_statement : Prop := ∀ e : Expr, parseTokens (toksFull e) = some e

theorem C04.precedence_full : C04.precedence_full_statement := roundtrip_full

example : toksFull (.un .neg (.bin .pow (.lit (.int "2")) (.lit (.int "2"))))
    = [.lp, .sym .minus, .lp, .lit (.int "2"), .sym .starstar, .lit (.int "2"), .rp, .rp] := by decide +kernel

/-- **Precedence is independent of redundant parentheses.**  `Paren 0 e ts` (Proofs/ExprParen.lean) is the family of all
    token lists obtained from the minimal rendering `toks e` by additionally wrapping any sub-expression -- compound or
    atomic, the whole expression included -- in any number of pairs of parentheses (rule `Paren.wrap`; the other rules
    are the clauses of `toksAt`, so the parentheses the precedence table requires are always present).  Every member
    of the family is parsed back to `e` by the PEG. -/
theorem C04.precedence_any_parens {e : Expr} {ts : List Tok} (h : Paren 0 e ts) : parseTokens ts = some e :=
  paren_roundtrip h

/-- the two printers of the model belong to the family, and the family is closed under wrapping the whole rendering in
    any number of pairs -/
theorem C04.precedence_family (e : Expr) :
    Paren 0 e (toks e) ∧ Paren 0 e (toksFull e) ∧
    (∀ ts, Paren 0 e ts → ∀ n, Paren 0 e (wrapN (n+1) ts)) :=
  ⟨paren_toks e, paren_toksFull 0 e, fun _ h n => h.wrapN n 0⟩

/-- `((1)) + (2 * ((3)))` is an admissible rendering of `1 + 2 * 3` -/
example : Paren 0 (.bin .add (.lit (.int "1")) (.bin .mul (.lit (.int "2")) (.lit (.int "3"))))
    [.lp, .lp, .lit (.int "1"), .rp, .rp, .sym .plus, .lp, .lit (.int "2"), .sym .star, .lp, .lp, .lit (.int "3"), .rp, .rp, .rp] :=
  Paren.bin 0 .add _ _ [.lp, .lp, .lit (.int "1"), .rp, .rp] [.lp, .lit (.int "2"), .sym .star, .lp, .lp, .lit (.int "3"), .rp, .rp, .rp]
    (by decide)
    (Paren.wrap _ _ [.lp, .lit (.int "1"), .rp] (Paren.wrap _ _ [.lit (.int "1")] (Paren.lit _ _)))
    (Paren.wrap _ _ [.lit (.int "2"), .sym .star, .lp, .lp, .lit (.int "3"), .rp, .rp]
      (Paren.bin 0 .mul _ _ [.lit (.int "2")] [.lp, .lp, .lit (.int "3"), .rp, .rp] (by decide) (Paren.lit _ _)
        (Paren.wrap _ _ [.lp, .lit (.int "3"), .rp] (Paren.wrap _ _ [.lit (.int "3")] (Paren.lit _ _)))))

/-- The parentheses the table requires cannot be dropped: no token list is an admissible rendering of two different
    trees (so `1 + 2 * 3` without parentheses is no rendering of `(1 + 2) * 3`). -/
theorem C04.precedence_unambiguous {e e' : Expr} {ts : List Tok} (h : Paren 0 e ts) (h' : Paren 0 e' ts) : e = e' :=
  paren_unique h h'

/-! ## characters -/

/-- **The terminals of the grammar, longest match included, invert the renderer.**  For every list of well-formed
    tokens (`Tok.ok`: the text of the token is one terminal that denotes it -- decidable) and every spacing `σ` (any run
    of spaces and tabs before each token and at the end; a single space is put where two neighbours would fuse into
    other terminals: `*`+`*`, `<`+`==`, `1`+`.`, name+name …), lexing the rendered characters gives the tokens back.
    This covers `<=` before `<`, `**` before `*`, `||`, `&&`, `==`, `!=`, `>=`, identifiers and `true`/`false`,
    integer literals in the four bases, real literals in every form, and both kinds of string literals. -/
theorem C04.lexer_roundtrip (σ : Spacing) (ts : List Tok) (hok : ∀ t ∈ ts, t.ok = true) :
    lex (renderToks σ ts) = some ts := lex_render σ ts hok

example : (∀ t ∈ [Tok.id "a", .sym .le, .sym .minus, .lit (.int "0x_fF"), .sym .starstar, .lit (.real "1.5e-3"), .sym .oror,
      .sym .bang, .lit (.bool true), .sym .neq, .lit (.str "'it\\'s'"), .dot, .id "count"], t.ok = true) := by decide +kernel
example : renderToks (fun _ => []) [Tok.sym .star, .sym .starstar, .sym .lt, .sym .eqeq, .lit (.int "1"), .dot, .id "a", .id "b"]
    = "* **< ==1 .a b".toList := by decide +kernel
example : renderToks (fun i => if i = 2 then [true, false] else []) [Tok.id "a", .sym .le, .sym .minus, .lit (.int "1")]
    = "a<=\t -1".toList := by decide +kernel
example : renderToks (fun _ => []) [Tok.lit (.int "0xE"), .sym .plus, .lit (.real "1e+1"), .sym .minus, .lit (.int "2")]
    = "0xE+1e+1-2".toList := by decide +kernel
/-- what is not a terminal of its kind: an identifier the grammar reads as a literal or a type, a literal with a stray
    separator -/
example : (Tok.id "trueish").ok = false ∧ (Tok.id "uint8x").ok = false ∧ (Tok.lit (.int "1_")).ok = false ∧
    (Tok.lit (.int "0x")).ok = false ∧ (Tok.lit (.real "1")).ok = false := by decide +kernel

/-- Characters → value for integer literals: the text of a prefixed literal as the grammar writes it (`0b` / `0o` / `0x`,
    either case, digit separators), followed by anything that is no name character and no `.`, is ONE terminal, lexed as
    an integer literal of exactly that text, and that text denotes the number of its digits. -/
theorem C04.lexer_literals_prefixed (radix : Nat) (p : Char) (ws : List DigitW) (hne : ws ≠ [])
    (hp : (radix = 2 ∧ (p = 'b' ∨ p = 'B')) ∨ (radix = 8 ∧ (p = 'o' ∨ p = 'O')) ∨ (radix = 16 ∧ (p = 'x' ∨ p = 'X')))
    (h : ∀ w ∈ ws, w.d < radix) (R : List Char) (hR : ∀ c ∈ R.head?, isIdentChar c = false ∧ c ≠ '.') :
    lexOne ('0' :: p :: writeDigits ws ++ R) = some (.lit (.int (String.ofList ('0' :: p :: writeDigits ws))), R) ∧
    evalLit (.int (String.ofList ('0' :: p :: writeDigits ws))) = .ok (.rat ((numeral radix (ws.map (·.d)) : Nat) : Rat)) := by
  refine ⟨lexOne_prefixed radix p ws hne hp h R (fun c hc => by simp [qNum, (hR c hc).1, (hR c hc).2]), ?_⟩
  simp [evalLit, decodeInt_prefixed radix p ws hne hp h, Except.map]

/-- … and the same for decimal literals `[1-9](_?[0-9])*` within CPython's conversion limit. -/
theorem C04.lexer_literals_decimal (w : DigitW) (ws : List DigitW) (hus : w.us = false) (h0 : w.d ≠ 0)
    (h : ∀ x ∈ w :: ws, x.d < 10) (hlen : (w :: ws).length ≤ pyIntMaxDigits)
    (R : List Char) (hR : ∀ c ∈ R.head?, isIdentChar c = false ∧ c ≠ '.') :
    lexOne (writeDigits (w :: ws) ++ R) = some (.lit (.int (String.ofList (writeDigits (w :: ws)))), R) ∧
    evalLit (.int (String.ofList (writeDigits (w :: ws)))) = .ok (.rat ((numeral 10 ((w :: ws).map (·.d)) : Nat) : Rat)) := by
  refine ⟨lexOne_decimal w ws hus h0 h R (fun c hc => by simp [qNum, (hR c hc).1, (hR c hc).2]), ?_⟩
  simp only [evalLit, String.toList_ofList, decodeInt_decimal (w :: ws) (by simp) h hlen, Except.map]

example : lexOne "0x_fF+1".toList = some (.lit (.int "0x_fF"), "+1".toList) := by decide +kernel
example : lexOne "1_000<=".toList = some (.lit (.int "1_000"), "<=".toList) := by decide +kernel
example : lexOne "1.e5)".toList = some (.lit (.real "1.e5"), ")".toList) := by decide +kernel

/-- **Characters → tree.**  Any admissible parenthesisation of any tree whose literals and names are terminals
    (`Expr.lexOk`, decidable), rendered with any blanks, is lexed and parsed back to the tree. -/
theorem C04.chars_roundtrip {e : Expr} {ts : List Tok} (h : Paren 0 e ts) (hok : e.lexOk = true) (σ : Spacing) :
    parseChars (renderToks σ ts) = some e := parseChars_render h hok σ

/-- … in particular for the two printers of the model -/
theorem C04.chars_roundtrip_printers (e : Expr) (hok : e.lexOk = true) (σ : Spacing) :
    parseChars (renderToks σ (toks e)) = some e ∧ parseChars (renderToks σ (toksFull e)) = some e :=
  ⟨parseChars_render (paren_toks e) hok σ, parseChars_render (paren_toksFull 0 e) hok σ⟩

example : (Expr.bin .lt (.lit (.int "1")) (.un .neg (.attr (.lit (.int "1")) "count"))).lexOk = true := by decide +kernel
example : renderToks (fun i => if i = 1 then [false, true] else [])
    (toks (.bin .lt (.lit (.int "1")) (.un .neg (.attr (.lit (.int "1")) "count")))) = "1 \t<-1 .count".toList := by decide +kernel

/-! ## real literals -/

/-- Point notation `digits? . digits?` (digit separators anywhere the grammar admits them): the decoded rational is
    exactly the digits' number divided by ten to the number of fraction digits. -/
theorem C04.literals_real_point (ip fp : List DigitW) (hne : ip ≠ [] ∨ fp ≠ [])
    (hi : ∀ w ∈ ip, w.d < 10) (hf : ∀ w ∈ fp, w.d < 10) (hlen : ip.length + fp.length ≤ pyIntMaxDigits) :
    decodeReal (writeDigits ip ++ '.' :: writeDigits fp)
      = .ok ((numeral 10 ((ip ++ fp).map (·.d)) : Rat) * (10 : Rat) ^ (- (fp.length : Int))) :=
  decodeReal_point_zpow ip fp hne hi hf hlen

example : decodeReal "1_0.2_5".toList = .ok (41/4) := by decide +kernel

/-- Exponent notation `(digits | point notation) (e|E) [+-] digits`: the decoded rational is exactly
    mantissa × 10^(±exponent − number of fraction digits). -/
theorem C04.literals_real_exponent (ip fp : List DigitW) (dot : Bool) (E : Char) (sign : Option Bool) (ed : List DigitW)
    (hE : E = 'e' ∨ E = 'E') (hne : ip ≠ [] ∨ (dot = true ∧ fp ≠ [])) (hdot : dot = false → fp = []) (hed : ed ≠ [])
    (hi : ∀ w ∈ ip, w.d < 10) (hf : ∀ w ∈ fp, w.d < 10) (he : ∀ w ∈ ed, w.d < 10)
    (hlen : ip.length + fp.length ≤ pyIntMaxDigits) :
    decodeReal (writeDigits ip ++ (if dot then '.' :: writeDigits fp else []) ++ E :: signChars sign ++ writeDigits ed)
      = .ok ((numeral 10 ((ip ++ fp).map (·.d)) : Rat)
          * (10 : Rat) ^ ((if sign = some true then - (numeral 10 (ed.map (·.d)) : Int) else (numeral 10 (ed.map (·.d)) : Int))
                - (fp.length : Int))) :=
  decodeReal_exp_zpow ip fp dot E sign ed hE hne hdot hed hi hf he hlen

example : decodeReal ".5e-3".toList = .ok (1/2000) := by decide +kernel
example : decodeReal "1e10".toList = .ok 10000000000 := by decide +kernel
example : decodeReal "1_0.2_5E+0_3".toList = .ok 10250 := by decide +kernel
