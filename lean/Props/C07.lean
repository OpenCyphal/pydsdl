import Proofs.WireExt
import Proofs.WireExtConv
import Proofs.WireTotal
import Proofs.WireValid
import Props.C06
/-! C07 — deserialization is total, obeys implicit truncation and zero extension, and rejects illegal lengths,
    tags and headers.  `dec`/`deserialize` of `Model/Wire.lean` are total functions by construction (Lean
    definitions by structural recursion), and pure: the result depends on the given bits only. -/
open Wire

/-- `deserialize` is `dec` on the whole input from offset 0, unless a header is asked of a type that has none -/
theorem Wire.deserialize_ok {t : Ty} {bits : List Bool} {hdr : Bool} {v : Val} :
    deserialize t bits hdr = .ok v ↔
      (hdr && !t.isDelimited) = false ∧ ∃ q, dec (if hdr = true then t else t.inner) ⟨0, bits⟩ = .ok (v, q) := by
  unfold deserialize
  cases hdr && !t.isDelimited
  · simp only [Bool.false_eq_true, if_false, bind_ok, true_and]
    constructor
    · rintro ⟨⟨w, q⟩, hd, he⟩
      cases he
      exact ⟨q, hd⟩
    · rintro ⟨q, hd⟩
      exact ⟨(v, q), hd, rfl⟩
  · simp

/-- Totality with the error classes: `deserialize` returns a value or fails with one of the four decode errors
    (ArrayLengthError / UnionTagError / DelimiterHeaderError — SerDesError — or ValueError); the model's other
    error classes (TypeError, UnionFieldError) cannot come out of it. -/
theorem C07.total (t : Ty) (bits : List Bool) (hdr : Bool) :
    (∃ v, deserialize t bits hdr = .ok v) ∨ (∃ e, deserialize t bits hdr = .error e ∧ e.isDecodeError = true) := by
  unfold deserialize
  split
  · exact Or.inr ⟨_, rfl, rfl⟩
  · cases h : dec (if hdr = true then t else t.inner) ⟨0, bits⟩ with
    | ok p => exact Or.inl ⟨p.1, rfl⟩
    | error e => exact Or.inr ⟨e, rfl, dec_err _ _ _ h⟩

example : deserialize (.struct [.varr .byte 2] .sealed) (natBits 8 3) false = .error .arrayLength := rfl

/-- Whatever `dec` returns is valid for the type and is a fixed point: encoding it and decoding again (with
    anything appended) returns it. -/
theorem C07.valid_result (t : Ty) (r : R) (v : Val) (q : R) (hw : t.wf = true) (h : dec t r = .ok (v, q)) :
    valid t v = true ∧
      ∀ (o : Nat) (junk : List Bool), o % t.align = 0 →
        dec t ⟨o, enc t v o ++ junk⟩ = .ok (v, ⟨o + (enc t v o).length, junk⟩) :=
  ⟨dec_valid t r v q hw h, fun o junk ho => dec_enc t v hw (dec_valid t r v q hw h) o junk ho⟩

/-- The same at the entry points: a deserialized object re-serializes to a representation that deserializes to
    the same object. -/
theorem C07.fixed_point (t : Ty) (bits : List Bool) (hdr : Bool) (v : Val) (hw : t.wf = true)
    (h : deserialize t bits hdr = .ok v) :
    valid t v = true ∧
      ∀ junk, deserialize t (enc (if hdr = true then t else t.inner) v 0 ++ junk) hdr = .ok v := by
  obtain ⟨hc, q, hd⟩ := deserialize_ok.mp h
  cases hdr with
  | true =>
    have hv := dec_valid t _ _ _ hw hd
    exact ⟨hv, fun junk => deserialize_ok.mpr ⟨hc, _, dec_enc t _ hw hv 0 junk (Nat.zero_mod _)⟩⟩
  | false =>
    have hv := dec_valid t.inner _ _ _ (wf_inner t hw) hd
    exact ⟨by rw [← valid_inner]; exact hv,
      fun junk => deserialize_ok.mpr ⟨hc, _, dec_enc t.inner _ (wf_inner t hw) hv 0 junk (Nat.zero_mod _)⟩⟩

/-- Implicit truncation: bits after a complete representation are ignored. -/
theorem C07.truncation (t : Ty) (v : Val) (junk : List Bool) (hw : t.wf = true) (hv : valid t v = true) :
    deserialize t (enc t.inner v 0 ++ junk) false = .ok v :=
  deserialize_ok.mpr ⟨rfl, _, dec_enc t.inner v (wf_inner t hw) (by rw [valid_inner]; exact hv) 0 junk (Nat.zero_mod _)⟩

set_option maxRecDepth 4000 in
example : deserialize C06.exT (enc C06.exT C06.exV 0 ++ [true, false, true]) false = .ok C06.exV :=
  C07.truncation C06.exT C06.exV _ (by decide) (by decide)

/-- Implicit zero extension: if `b` decodes, `b` followed by zeros decodes to the same object. -/
theorem C07.zero_ext (t : Ty) (bits : List Bool) (k : Nat) (hdr : Bool) (v : Val)
    (h : deserialize t bits hdr = .ok v) : deserialize t (bits ++ zeros k) hdr = .ok v := by
  obtain ⟨hc, q, hd⟩ := deserialize_ok.mp h
  obtain ⟨q', h1, _⟩ := dec_ext _ ⟨0, bits⟩ ⟨0, bits ++ zeros k⟩ _ _ ⟨rfl, k, rfl⟩ hd
  exact deserialize_ok.mpr ⟨hc, q', h1⟩

/-- Converse: if `b` followed by zeros decodes, then `b` decodes to the same object — unless a delimiter header
    exceeds the data available in `b` (the exception the property names). -/
theorem C07.zero_ext_conv (t : Ty) (bits : List Bool) (k : Nat) (hdr : Bool) (v : Val)
    (h : deserialize t (bits ++ zeros k) hdr = .ok v) :
    deserialize t bits hdr = .ok v ∨ deserialize t bits hdr = .error .delimiterHeader := by
  obtain ⟨hc, q', hd⟩ := deserialize_ok.mp h
  rcases dec_extConv _ ⟨0, bits⟩ ⟨0, bits ++ zeros k⟩ _ _ ⟨rfl, k, rfl⟩ hd with ⟨q, h1, _⟩ | herr
  · exact Or.inl (deserialize_ok.mpr ⟨hc, q, h1⟩)
  · right
    unfold deserialize
    rw [hc, herr]
    rfl

example : deserialize (.struct [.uint 8 .sat] (.delimited 8)) (natBits 32 1) true = .error .delimiterHeader ∧
    deserialize (.struct [.uint 8 .sat] (.delimited 8)) (natBits 32 1 ++ zeros 8) true = .ok (.recd [.int 0]) :=
  ⟨rfl, rfl⟩

/-- … at any position inside any container: stability of every decoding step under zero extension of the
    readable window (this is what makes the bounded sub-reader of nested delimited objects consistent). -/
theorem C07.zero_ext_step (t : Ty) (r r' : R) (v : Val) (q : R) (he : Ext r r') (h : dec t r = .ok (v, q)) :
    ∃ q', dec t r' = .ok (v, q') ∧ Ext q q' :=
  dec_ext t r r' v q he h

example : Ext ⟨3, [true]⟩ ⟨3, [true, false, false]⟩ := ⟨rfl, 2, rfl⟩

/-- An array length prefix above the capacity is rejected, not clamped. -/
theorem C07.rejects_length (e : Ty) (cap : Nat) (r : R)
    (h : bitsNat (r.read (lenBits cap)).1 > cap) : dec (.varr e cap) r = .error .arrayLength := by
  simp only [dec, h, if_true]

/-- A union tag that does not name a variant is rejected (sealed union; for a delimited one the same happens
    inside the sub-reader). -/
theorem C07.rejects_tag (fs : List Ty) (r : R)
    (h : bitsNat (r.read (tagBits fs.length)).1 ≥ fs.length) : dec (.union fs .sealed) r = .error .unionTag := by
  have hv : ∀ (ts : List Ty) (n : Nat) (q : R), n ≥ ts.length → decVariant ts n q = .error .unionTag := by
    intro ts
    induction ts with
    | nil => intro n q _; simp [decVariant]
    | cons t ts ih =>
      intro n q hn
      cases n with
      | zero => simp at hn
      | succ n => simp only [decVariant]; exact ih n q (by simpa using hn)
  simp only [dec, unwrapDelim, hv _ _ _ h]
  rfl

/-- A delimiter header that announces more bytes than remain in the current window is rejected. -/
theorem C07.rejects_header (body : R → Except Err (Val × R)) (x : Nat) (r : R)
    (h : bitsNat (r.read headerBits).1 * 8 > (r.read headerBits).2.s.length) :
    unwrapDelim (.delimited x) r body = .error .delimiterHeader := by
  have : shorter (r.read headerBits).2.s (bitsNat (r.read headerBits).1 * 8) = true := by
    rw [shorter_iff]; exact decide_eq_true h
  simp only [unwrapDelim, this, if_true]

example : dec (.struct [.uint 8 .sat] (.delimited 8)) ⟨0, natBits 32 2 ++ natBits 8 7⟩ = .error .delimiterHeader := rfl
