import Bridge.CompositeName
import Bridge.Rules
import Props.C05
/-!
# C05 over the name-shape guards and the version / port-ID guards generated from `CompositeType.__init__`

The identity that `DSDLDefinition.__init__` reads from a file path (`Props/C15Gen.lean`) is handed to `CompositeType.__init__`,
whose guards - translated from the working tree of /repo on every run - reject what the file-name layer lets through:
an empty name, a name without root namespace, a name longer than 255 characters (`Gen/CompositeName.lean`), version 0.0,
version numbers above 255, port-IDs above 8191 / 511 (`Gen/Rules.lean`).  `check_name` on each component (regular
expressions) is tied elsewhere.
-/
open Rules Bridge Bridge.CompositeName

/-- the name rule of the model = the generated shape guards accept the joined name, and `check_name` every component -/
theorem C05.gen_composite_name (comps : List String) :
    compositeNameOk comps = true ↔
      (Gen.CompositeType.check_name_shape (fullName comps) = .ok () ∧ comps.all checkName = true) :=
  compositeNameOk_iff comps

example : compositeNameOk ["ns", "node", "Heartbeat"] = true ∧
    Gen.CompositeType.check_name_shape (fullName ["ns", "node", "Heartbeat"]) = .ok () := by decide +kernel

/-- the shape guards alone: non-empty, a separator (= a root namespace is specified), at most 255 characters;
    every rejection is an `InvalidNameError` -/
theorem C05.gen_name_shape (name : String) :
    Gen.CompositeType.check_name_shape name =
      if name.toList ≠ [] ∧ '.' ∈ name.toList ∧ name.length ≤ 255 then .ok () else .error (.other "InvalidNameError") :=
  check_name_shape_eq name

example : Gen.CompositeType.check_name_shape "Heartbeat" = .error (.other "InvalidNameError") ∧
    Gen.CompositeType.check_name_shape "" = .error (.other "InvalidNameError") ∧
    Gen.CompositeType.check_name_shape "a.B" = .ok () := by decide +kernel

/-- on names joined from components without separator (what `DSDLDefinition.__init__` produces): at least two components
    and at most 255 characters in total -/
theorem C05.gen_name_shape_joined (comps : List String) (h : ∀ c ∈ comps, '.' ∉ c.toList) :
    Gen.CompositeType.check_name_shape (fullName comps) = .ok () ↔ (2 ≤ comps.length ∧ (fullName comps).length ≤ 255) :=
  check_name_shape_fullName h

example : ¬ Gen.CompositeType.check_name_shape (fullName ["Heartbeat"]) = .ok () := by
  rw [C05.gen_name_shape_joined _ (by decide)]
  decide

/-- `self._name_components`: splitting the joined name gives the components back (on which `check_name` then runs) -/
theorem C05.gen_name_components (comps : List String) (hne : comps ≠ []) (h : ∀ c ∈ comps, '.' ∉ c.toList) :
    Gen.CompositeType.name_components (fullName comps) = .ok comps := by
  rw [name_components_eq, toList_fullName, splitChars_intercalate (by simpa using hne) (by simpa using h)]
  simp [List.map_map, Function.comp_def, String.ofList_toList]

example : Gen.CompositeType.name_components "ns.node.Heartbeat" = .ok ["ns", "node", "Heartbeat"] := by decide +kernel

/-- The version / port-ID guards with their exception classes: version 0.0 and version numbers above 255 are an
    `InvalidVersionError`; then a subject-ID above 8191 / service-ID above 511 an `InvalidFixedPortIDError`. -/
theorem C05.gen_version_port_classes (major minor : Nat) (srv : Bool) (pid : Option Nat) :
    Gen.CompositeType.check_version_and_port major minor srv pid =
      if versionOk major minor = true then
        (if ∀ p, pid = some p → (if srv then p ≤ 511 else p ≤ 8191) then .ok () else .error (.other "InvalidFixedPortIDError"))
      else .error (.other "InvalidVersionError") :=
  version_port_classes major minor srv pid

example : Gen.CompositeType.check_version_and_port 0 0 false none = .error (.other "InvalidVersionError") ∧
    Gen.CompositeType.check_version_and_port 256 0 false none = .error (.other "InvalidVersionError") ∧
    Gen.CompositeType.check_version_and_port 1 0 false (some 8192) = .error (.other "InvalidFixedPortIDError") ∧
    Gen.CompositeType.check_version_and_port 1 0 true (some 511) = .ok () := by decide +kernel
