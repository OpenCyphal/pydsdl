import Bridge.Symbolic
/-!
# C01 over the code generated from `_symbolic.py`

`Gen/Symbolic.lean` is rewritten from `/repo/pydsdl/_bit_length_set/_symbolic.py` by `tools/py2lean.py` on every
run of the check; `Bridge.iface o` is the object graph that the Python constructors build for the operator tree
`o`, seen through the generated methods.  The theorems below are therefore statements about what the Python
source says *now*: for every well-formed tree (no bound on nesting, repetition counts, values) and every divisor
`d ≥ 1`, every generated method terminates without raising — no `assert` fires, nothing is divided by zero, no
`min()`/`max()` of an empty set, the naturals are never left — and returns exactly the answer of the
mathematically defined set `Bls.den o`.
-/
open scoped Pointwise
open Bls Bridge

/-- The generated methods refine the hand-written model (sets compared as finite sets). -/
theorem C01.gen_refines_model (o : Op) (h : o.wf = true) : Refines (iface o) o := refines o h

/-- `modulo(d)` of the generated code: returns normally, with exactly the residues of the defined set. -/
theorem C01.gen_modulo_exact (o : Op) (h : o.wf = true) (d : ℕ) (hd : 1 ≤ d) :
    ∃ s, (iface o).modulo d = .ok s ∧ s.toFinset = (den o).image (· % d) := by
  obtain ⟨s, hs, hset⟩ := (refines o h).modulo d hd
  exact ⟨s, hs, by rw [hset, Bls.modulo_exact o h d hd]⟩

/-- `min` / `max` of the generated code are the least / greatest element of the defined set. -/
theorem C01.gen_min_max_exact (o : Op) (h : o.wf = true) :
    (iface o).min = .ok ((den o).min' (den_nonempty o h)) ∧ (iface o).max = .ok ((den o).max' (den_nonempty o h)) := by
  obtain ⟨e1, e2⟩ := (minMax_exact o h).eq_min'_max' (den_nonempty o h)
  exact ⟨by rw [(refines o h).min, e1], by rw [(refines o h).max, e2]⟩

/-- `expand()` of the generated code returns exactly the defined set. -/
theorem C01.gen_expand_exact (o : Op) (h : o.wf = true) :
    ∃ s, (iface o).expand () = .ok s ∧ s.toFinset = den o := by
  obtain ⟨s, hs, hset⟩ := (refines o h).expand
  exact ⟨s, hs, by rw [hset, Bls.expand_exact o]⟩

/-- No method of the generated code can raise on a well-formed tree: in particular neither the `equivalent_k`
    congruence asserts nor `assert x <= mx and x < lcm` can fire, for any divisor `d ≥ 1`. -/
theorem C01.gen_never_raises (o : Op) (h : o.wf = true) (d : ℕ) (hd : 1 ≤ d) :
    (∃ m, (iface o).min = .ok m) ∧ (∃ m, (iface o).max = .ok m) ∧
    (∃ s, (iface o).modulo d = .ok s) ∧ (∃ s, (iface o).expand () = .ok s) := by
  obtain ⟨s, hs, _⟩ := (refines o h).modulo d hd
  obtain ⟨e, he, _⟩ := (refines o h).expand
  exact ⟨⟨_, (refines o h).min⟩, ⟨_, (refines o h).max⟩, ⟨s, hs⟩, ⟨e, he⟩⟩

/-! ### Non-vacuity and a sanity run of the generated code itself -/

example : (Op.pad (.rep (.uni [.leaf [1, 3], .leaf [7]]) (2 ^ 63)) 8).wf = true ∧ (1 : ℕ) ≤ 12 := by decide
example : (iface (Op.pad (.rrep (.leaf [1, 3]) 2) 4)).min = .ok 0 ∧
    (iface (Op.pad (.rrep (.leaf [1, 3]) 2) 4)).max = .ok 8 := by decide
