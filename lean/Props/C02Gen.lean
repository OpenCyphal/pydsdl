import Bridge.Layout
/-!
# C02 over the code generated from `_serializable/_array.py` and `_composite.py`

`Gen/Layout.lean` is rewritten from the working tree of /repo by `tools/py2lean.py` on every run: the constructor
slices that compute the bit length set of fixed / variable-length arrays, structures, unions and delimited types,
`CompositeType.alignment_requirement`, `UnionType._compute_tag_bit_length`, both `aggregate_bit_length_sets`.
`Bridge.genTy` builds a type tree with them, the way the Python constructors nest.  The theorems are therefore about
what the source says now, for every constructible type (no bound on nesting, capacities up to 2⁶⁴−1, any extent).
-/
open scoped Pointwise
open Bls Layout Bridge

/-- Building any constructible type with the generated constructor code succeeds — no `if …: raise` guard and no
    `assert` fires — and yields exactly the model's alignment, bit length set expression and extent. -/
theorem C02.gen_constructors_refine_model (t : Ty) (h : t.wf = true) : genTy t = .ok (tyI t) := genTy_ok t h

/-- The set denoted by the generated bit length set expression of a type is the Specification's set of lengths,
    and all of them are multiples of the generated alignment. -/
theorem C02.gen_bls_is_spec (t : Ty) (h : t.wf = true) :
    ∃ ti, genTy t = .ok ti ∧ den ti.bit_length_set = specLens t ∧ ∀ l ∈ specLens t, ti.alignment_requirement ∣ l :=
  ⟨tyI t, genTy_ok t h, den_bls t h, align_dvd_len t h⟩

/-- The generated length-prefix computation (`2 ** ceil(log2(max(8, capacity.bit_length())))`, then `max` with the
    alignment) yields the smallest standard width that can hold the capacity. -/
theorem C02.gen_length_prefix (e : Ty) (cap : ℕ) (h : (Ty.varr e cap).wf = true) :
    ∃ w, Gen.VariableLengthArrayType.length_field_length (tyI e) cap = .ok (max w e.align) ∧ smallestStd cap = some w := by
  obtain ⟨w, hw, hl⟩ := (C02.length_prefix e cap).1 h
  exact ⟨w, by rw [length_field_ok e cap h, hl], hw⟩

/-- The generated `_compute_tag_bit_length` yields the smallest standard width that can hold the largest tag. -/
theorem C02.gen_union_tag (fs : List Ty) (h : (Ty.union fs).wf = true) :
    Gen.UnionType.compute_tag_bit_length (fs.map tyI) = .ok (tagBits fs) ∧ tagBits fs ∈ [8, 16, 32, 64] := by
  obtain ⟨_, h2, h64⟩ := Ty.wf_union.mp h
  exact ⟨compute_tag_ok fs h2 h64, tagBits_mem fs h64⟩

/-- The generated constructor of a delimited type: accepted extents give `header + {0, a, 2a, …, extent}`, irrespective of
    the fields of the inner type. -/
theorem C02.gen_delimited (inner : Ty) (ext : ℕ) (h : (Ty.delim inner ext).wf = true) :
    Gen.DelimitedType.bls inner.align (tyI inner) ext
      = .ok (.cat [.leaf [hdrBits inner], .rrep (.leaf [inner.align]) (ext / inner.align)]) := by
  rw [delim_bls_ok inner ext h]; simp only [Ty.bls]

/-! ### Non-vacuity -/
example : (Ty.struct [.prim 3, .varr (.union [.prim 8, .farr (.prim 64) 2]) (2 ^ 32), .void 5]).wf = true := by decide +kernel
example : (Ty.delim (.union [.prim 8, .farr (.prim 64) 2]) 256).wf = true := by
  simp only [Ty.wf, wfList, Ty.bls, aggUnion, blsList, Op.max, sumMax, maxMax, maxL, tagBits, maxAlign, Ty.align]
  decide +kernel
