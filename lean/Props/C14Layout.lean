import Proofs.LayoutAlign
import Proofs.LayoutCongr
/-!
# C14 (layout half) — delimited types evolve without breaking their containers

`erase` forgets everything about a nested delimited type except its extent.  A container's bit length set
expression, alignment, extent and the offsets of all its fields are functions of the erased type only, so
replacing a nested delimited type `D` by any revision `D'` with the same extent (fields appended, removed or
changed — at any position: field, array element, union variant, nested delimited) leaves them unchanged.
-/
open scoped Pointwise
open Bls Layout

namespace C14

mutual
/-- forget the contents of every delimited member, keep its extent -/
def erase : Ty → Ty
  | .prim n => .prim n
  | .void n => .void n
  | .farr e cap => .farr (erase e) cap
  | .varr e cap => .varr (erase e) cap
  | .struct fs => .struct (eraseList fs)
  | .union fs => .union (eraseList fs)
  | .delim _ ext => .delim (.struct []) ext
def eraseList : List Ty → List Ty
  | [] => []
  | f :: fs => erase f :: eraseList fs
end

theorem eraseList_eq (fs : List Ty) : eraseList fs = fs.map erase := by
  induction fs with
  | nil => rfl
  | cons f fs ih => simp [eraseList, ih]

end C14
open C14

theorem structOffsetsFrom_congr {fs gs : List Ty} (h : FieldsRel Eq fs gs) (cur : Op) :
    structOffsetsFrom cur fs = structOffsetsFrom cur gs := by
  induction h generalizing cur with
  | nil => rfl
  | cons hfg _ ih => rw [structOffsetsFrom, structOffsetsFrom, hfg.1, hfg.2, ih]

/-- Erasing the contents of delimited members changes neither the bit length set expression nor the alignment. -/
theorem erase_sig : ∀ t : Ty, t.wf = true → (erase t).bls = t.bls ∧ (erase t).align = t.align := by
  have fields : ∀ fs : List Ty, (∀ f ∈ fs, (erase f).bls = f.bls ∧ (erase f).align = f.align) →
      FieldsRel Eq (eraseList fs) fs := fun fs ih => by
    rw [eraseList_eq]
    exact List.forall₂_map_left_iff.mpr (List.forall₂_same.mpr fun f hf => ⟨(ih f hf).2, (ih f hf).1⟩)
  exact Ty.wf_induct
    (prim := fun n => ⟨rfl, rfl⟩)
    (void := fun n => ⟨rfl, rfl⟩)
    (farr := fun e cap _ _ ih => by rw [erase, Ty.bls, Ty.bls, Ty.align, Ty.align, ih.1]; exact ⟨rfl, ih.2⟩)
    (varr := fun e cap _ _ _ ih => by
      rw [erase, Ty.bls, Ty.bls, Ty.align, Ty.align, lenBits, lenBits, ih.1, ih.2]; exact ⟨rfl, rfl⟩)
    (struct := fun fs _ ih => by
      obtain ⟨ha, hs, _⟩ := composite_congr opCongr_eq (fields fs ih)
      rw [erase, Ty.align, Ty.align, ha]; exact ⟨hs, rfl⟩)
    (union := fun fs _ _ _ ih => by
      obtain ⟨ha, _, hu⟩ := composite_congr opCongr_eq (fields fs ih)
      rw [erase, Ty.align, Ty.align, ha]; exact ⟨hu, rfl⟩)
    (delim := fun inner ext h _ _ => by
      have ha := delim_inner_align h
      exact ⟨by simp [erase, Ty.bls, hdrBits, Ty.align, maxAlign, ha], by simp [erase, Ty.align, maxAlign, ha]⟩)

theorem erase_extent (t : Ty) (h : t.wf = true) : (erase t).extent = t.extent := by
  have hb := (erase_sig t h).1
  cases t <;> simp only [erase, Ty.extent] at hb ⊢ <;> rw [hb]

/-- **Container invariance.**  Two containers that agree after erasing the contents of their delimited members —
    in particular a container before and after replacing a nested delimited type by a revision with the same
    extent — have the same bit length set expression, alignment and extent. -/
theorem C14.container_layout_invariant (c c' : Ty) (hc : c.wf = true) (hc' : c'.wf = true)
    (h : erase c = erase c') : c.bls = c'.bls ∧ c.align = c'.align ∧ c.extent = c'.extent := by
  obtain ⟨h1, h2⟩ := erase_sig c hc
  obtain ⟨h1', h2'⟩ := erase_sig c' hc'
  exact ⟨by rw [← h1, ← h1', h], by rw [← h2, ← h2', h], by rw [← erase_extent c hc, ← erase_extent c' hc', h]⟩

/-- … and every field of the container keeps its offset, for every base offset set. -/
theorem C14.field_offsets_invariant (base : Op) (fs fs' : List Ty)
    (hf : ∀ f ∈ fs, f.wf = true) (hf' : ∀ f ∈ fs', f.wf = true) (h : fs.map erase = fs'.map erase) :
    fieldOffsets base (.struct fs) = fieldOffsets base (.struct fs') ∧
    fieldOffsets base (.union fs) = fieldOffsets base (.union fs') ∧
    (∀ e, fieldOffsets base (.delim (.struct fs) e) = fieldOffsets base (.delim (.struct fs') e)) ∧
    (∀ e, fieldOffsets base (.delim (.union fs) e) = fieldOffsets base (.delim (.union fs') e)) := by
  have e : ∀ gs : List Ty, (∀ f ∈ gs, f.wf = true) →
      gs.map (fun f => (f.align, id f.bls)) = (gs.map erase).map (fun f => (f.align, id f.bls)) := fun gs hg => by
    rw [List.map_map]
    exact List.map_congr_left fun f hf => by
      obtain ⟨h1, h2⟩ := erase_sig f (hg f hf)
      simp only [Function.comp, h1, h2]
  have hs : FieldsRel Eq fs fs' := fieldsRel_of_map_eq id (by rw [e fs hf, e fs' hf', h])
  have ha := maxAlign_congr hs
  have hl := hs.length_eq
  have ht := tagBits_congr hs
  have hso := structOffsetsFrom_congr hs
  have hm : ∀ (o : Op), (fs.map fun _ => o) = (fs'.map fun _ => o) := fun o => by
    rw [List.map_const', List.map_const', hl]
  refine ⟨?_, ?_, ?_, ?_⟩
  · simp only [fieldOffsets, ha, hso]
  · simp only [fieldOffsets, ha, ht, hm]
  · intro e; simp only [fieldOffsets, ha, hso, hdrBits, Ty.align]
  · intro e; simp only [fieldOffsets, ha, ht, hm, hdrBits, Ty.align]

/-- A revision that appends (or removes) trailing fields and keeps the extent is such a replacement. -/
theorem C14.revision_same_erasure (fs extra : List Ty) (kind : Bool) (ext : ℕ) :
    erase (.delim (if kind then .struct (fs ++ extra) else .union (fs ++ extra)) ext)
      = erase (.delim (if kind then .struct fs else .union fs) ext) := by
  cases kind <;> rfl

/-! ### Non-vacuity: a container with a nested delimited type and a longer revision of it -/
example :
    let d  := Ty.delim (.struct [.prim 8]) 64
    let d' := Ty.delim (.struct [.prim 8, .prim 16, .varr (.prim 8) 3]) 64
    erase (.struct [.prim 3, .farr d 4, .prim 7]) = erase (.struct [.prim 3, .farr d' 4, .prim 7]) := by
  rfl
