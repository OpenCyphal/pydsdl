import Proofs.Funnel
/-!
# C13 — bad input yields InvalidDefinitionError with a path, never a crash / InternalError

What is a theorem here: the exception funnel as a decision function (`Ex.parseFunnel`, `Ex.readFunnel`, mirroring
`_parser.parse`, `DSDLDefinition.read`, `_read_definitions`) and the *hazard model* of expression evaluation: every
Python operation on the evaluation path that can raise something that is not a pydsdl `Error` is an explicit outcome
(`Ex.Hazard`) of `Ex.eval` / `Ex.constCheck` / `Ex.observePrint`.  The completeness of the hazard list, the
parsimonious engine and CPython's limits are validated by the differential suite `garbage` only.
-/
open Ex

/-- An inner `invalid` outcome (any `InvalidDefinitionError` raised while visiting or building, or a grammar-level
    `ParseError`) surfaces as `invalid` carrying the path of the file. -/
theorem C13.funnel {α} (r : Ex.R α) (k : InvKind) (h : r = .error (.invalid k)) :
    surface (innerOf r) = .invalid true ∧ surface .parseError = .invalid true ∧
    ∀ p, surface (.invalidDef p) = .invalid true := by
  subst h; exact ⟨rfl, rfl, fun _ => rfl⟩

example : surface (innerOf (@eval StrNorm.plain [] (.bin .div (.lit (.int "1")) (.lit (.int "0"))))) = .invalid true := by decide +kernel

/-- The funnel lets nothing but the deliberately passed `MemoryError`/`SystemError` reach the caller as a foreign
    exception, and whatever it reports carries the path; a foreign exception inside a visitor or the builder becomes
    `InternalError` (which is what the property forbids: see `C13.no_foreign`). -/
theorem C13.funnel_total (i : Inner) :
    (∃ c, i = .fatal c ∧ surface i = .foreign c) ∨ surface i = .ok ∨ surface i = .invalid true ∨ surface i = .internal true := by
  cases i <;> simp [surface, parseFunnel, readFunnel]

/-- `InternalError` surfaces exactly for a foreign exception raised inside a visitor / the builder or a deliberate
    internal error. -/
theorem C13.funnel_internal (i : Inner) :
    surface i = .internal true ↔ (i = .internalDef ∨ (∃ c, i = .visitorRaised c) ∨ ∃ c, i = .builderRaised c) := by
  cases i <;> simp [surface, parseFunnel, readFunnel]

/-- On the hazard model: an expression inside the bounds of the property (literals within CPython's conversion limit,
    escapes within Unicode, exponents integral by syntax) evaluates to a value or is rejected — no hazardous Python
    operation is reached, so the surfaced outcome is `ok` or `invalid` with the path, for every environment. -/
theorem C13.no_foreign [StrNorm] (env : Env) (e : Expr) (hb : e.bounded = true) :
    ((∃ v, eval env e = .ok v) ∨ (∃ k, eval env e = .error (.invalid k)) ∨ eval env e = .error .unsupported) ∧
    (surface (innerOf (eval env e)) = .ok ∨ surface (innerOf (eval env e)) = .invalid true) := by
  cases h : eval env e with
  | ok v => exact ⟨Or.inl ⟨v, rfl⟩, Or.inl rfl⟩
  | error x =>
    have := eval_bounded env e hb x h
    cases x with
    | invalid k => exact ⟨Or.inr (Or.inl ⟨k, rfl⟩), Or.inr rfl⟩
    | unsupported => exact ⟨Or.inr (Or.inr rfl), Or.inl rfl⟩
    | hazard hz => exact absurd this (by simp [Err.benign])
    | inexact => exact absurd this (by simp [Err.benign])

example : (Expr.bin .pow (.un .neg (.lit (.int "2"))) (.un .neg (.lit (.int "3")))).bounded = true := by decide
example : (Expr.bin .pow (.lit (.int "2")) (.lit (.real "0.5"))).bounded = false := by decide

/-- Conversely every hazard of the model is one of the listed operations: evaluating a binary operator on values
    reaches a hazard only through a power with a non-integral exponent. -/
theorem C13.hazard_sources [StrNorm] (op : BinOp) (a b : Val) (h : Hazard) (hh : evalBin op a b = .error (.hazard h)) :
    ¬ intExpV op b := by
  intro hexp
  obtain ⟨k, hk⟩ := evalBin_err_invalid op a b hexp _ hh
  cases hk

example : @evalBin StrNorm.plain .pow (.rat (-1)) (.rat (1/2)) = .error (.hazard .powComplex) := by decide +kernel

/-- `Constant.__init__` reaches no hazardous operation: a string initializer is encoded with `errors="surrogatepass"`, so a
    lone surrogate is three bytes - not one ASCII character - and the constant is rejected as an invalid definition. -/
theorem C13.const_hazard (ty : CTy) (v : Val) (h : Hazard) : constCheck ty v ≠ .error (.hazard h) := by
  intro hh
  obtain ⟨k, hk⟩ := constCheck_err hh
  cases hk

example : constCheck (.uint 8 .saturated) (.str [0xD800]) = .error (.invalid .constant) := by decide +kernel

/-- Every file name under a namespace directory either has the shape `[port.]name.major.minor.ext` with integer
    fields, or is a `FileNameFormatError` (an `InvalidDefinitionError` carrying the path). -/
theorem C13.filename (n : String) :
    fileNameOutcome n = .formatError ∨ ∃ p, fileNameOutcome n = .parsed p := by
  cases h : fileNameOutcome n with
  | formatError => exact Or.inl rfl
  | parsed p => exact Or.inr ⟨p, rfl⟩

example : fileNameOutcome "7000.A.1.0.dsdl" = .parsed true := by decide +kernel
example : fileNameOutcome "A.x.0.dsdl" = .formatError := by decide +kernel
