import Proofs.LayoutAlign
import Props.C01
/-!
# C08 — field offsets and in-language layout intrinsics equal the real bit positions

Positions are specified directly: in a structure the first field starts at the origin padded to the composite's
and the field's alignment; the next field starts where the previous one ended (start + any of its lengths)
padded to its own alignment.  All variants of a union start after the tag; a delimited type first adds its
header.  `_offset_` after `j` fields is the set of lengths of everything before that point, with no padding for
the next field.  The theorems relate the operator trees built by `iterate_fields_with_offsets`,
`enumerate_elements_with_offsets` and `DataSchemaBuilder.offset` (Model/Layout.lean) to these sets, for every
composite, every base offset set and every field position.
-/
open scoped Pointwise
open Bls Layout

namespace C08spec

/-- start positions of the fields of a structure whose first field may start at any element of `cur`
    (already padded to the composite's alignment) -/
def structStarts (cur : Finset ℕ) : List Ty → List (Finset ℕ)
  | [] => []
  | f :: fs =>
      let o := cur.image (padTo f.align)
      o :: structStarts (o + specLens f) fs

/-- the specified start positions of every field, for origin set `base` -/
def fieldStarts (base : Finset ℕ) : Ty → List (Finset ℕ)
  | .struct fs => structStarts (base.image (padTo 8)) fs
  | .union fs => fs.map fun _ => base.image (padTo 8) + {max (stdOf (fs.length - 1)) 8}
  | .delim (.struct fs) _ => structStarts ((base + {32}).image (padTo 8)) fs
  | .delim (.union fs) _ => fs.map fun _ => (base + {32}).image (padTo 8) + {max (stdOf (fs.length - 1)) 8}
  | _ => []

end C08spec
open C08spec

theorem den_structOffsetsFrom (fs : List Ty) (h : ∀ f ∈ fs, f.wf = true) (cur : Op) :
    (structOffsetsFrom cur fs).map den = structStarts (den cur) fs := by
  induction fs generalizing cur with
  | nil => rfl
  | cons f fs ih =>
    rw [structOffsetsFrom, structStarts, List.map_cons, ih (fun x hx => h x (List.mem_cons_of_mem _ hx)), den_cat2, den,
      den_bls f (h f List.mem_cons_self)]

/-- `iterate_fields_with_offsets` yields every field exactly once, in order, with exactly the specified set of
    start positions — for every composite and every base offset set. -/
theorem C08.field_offsets_exact (t : Ty) (h : t.wf = true) (base : Op) :
    (fieldOffsets base t).map den = fieldStarts (den base) t := by
  -- all variants of a union start after the tag
  have union : ∀ (fs : List Ty) (b : Op), tagBits fs ≤ 64 →
      (fs.map fun _ => Op.cat [.pad b (max 8 (maxAlign fs)), .leaf [tagBits fs]]).map den
        = fs.map fun _ => (den b).image (padTo 8) + {max (stdOf (fs.length - 1)) 8} := fun fs b ht => by
    rw [List.map_map]
    exact List.map_congr_left fun _ _ => by
      rw [Function.comp, den_cat2, den_leaf1, den, comp_align, tagBits_eq fs ht]
  cases t with
  | struct fs => rw [fieldOffsets, fieldStarts, comp_align, den_structOffsetsFrom fs (Ty.wf_struct.mp h), den]
  | union fs => rw [fieldOffsets, fieldStarts]; exact union fs base (Ty.wf_union.mp h).2.2
  | delim inner ext =>
    obtain ⟨hin, ⟨fs, rfl⟩ | ⟨fs, rfl⟩, _⟩ := Ty.wf_delim.mp h
    · rw [fieldOffsets, fieldStarts, comp_align, den_structOffsetsFrom fs (Ty.wf_struct.mp hin), den, den_cat2, den_leaf1,
        hdrBits, Ty.align, comp_align]
      rfl
    · rw [fieldOffsets, fieldStarts, union fs _ (Ty.wf_union.mp hin).2.2, den_cat2, den_leaf1, hdrBits, Ty.align, comp_align]
      rfl
  | _ => rfl
/-- One offset per field: none missing, none duplicated. -/
theorem C08.one_offset_per_field (base : Op) (fs : List Ty) :
    (fieldOffsets base (.struct fs)).length = fs.length ∧ (fieldOffsets base (.union fs)).length = fs.length := by
  constructor
  · simp only [fieldOffsets]
    generalize (Op.pad base (max 8 (maxAlign fs))) = cur
    induction fs generalizing cur with
    | nil => rfl
    | cons f fs ih => simp [structOffsetsFrom, ih]
  · simp [fieldOffsets]

/-- All variants of a union share one offset: base padded to the union's alignment plus the tag width. -/
theorem C08.union_variants_share_offset (base : Op) (fs : List Ty) :
    ∀ o ∈ fieldOffsets base (.union fs), o = .cat [.pad base (max 8 (maxAlign fs)), .leaf [tagBits fs]] := by
  intro o ho
  simp only [fieldOffsets, List.mem_map] at ho
  obtain ⟨_, _, rfl⟩ := ho
  rfl

/-- A delimited type adds its header to the base and then behaves like the wrapped composite. -/
theorem C08.delimited_adds_header (base : Op) (inner : Ty) (ext : ℕ)
    (hk : (∃ fs, inner = .struct fs) ∨ (∃ fs, inner = .union fs)) :
    (fieldOffsets base (.delim inner ext)).map den
      = (fieldOffsets (.cat [base, .leaf [hdrBits inner]]) inner).map den := by
  rcases hk with ⟨fs, rfl⟩ | ⟨fs, rfl⟩ <;> rfl

/-- running positions of `structStarts` are the lengths of everything before (`specSeq`) -/
theorem structStarts_get (fs : List Ty) (cur : Finset ℕ) (j : ℕ) (hj : j < fs.length) :
    (structStarts cur fs)[j]? = some ((specSeq cur (fs.take j)).image (padTo (fs[j]).align)) := by
  induction fs generalizing cur j with
  | nil => simp at hj
  | cons f fs ih =>
    cases j with
    | zero => simp [structStarts, specSeq]
    | succ j =>
      simp only [structStarts, List.getElem?_cons_succ, List.take_succ_cons, specSeq, List.getElem_cons_succ]
      exact ih _ j (by simpa using hj)

/-- `_offset_` evaluated after `j` fields of a structure is the set of lengths of everything before that point
    (no padding for the next field), and the API offset of field `j` (base `{0}`) is that set padded to the
    field's alignment: the intrinsic and `iterate_fields_with_offsets` agree. -/
theorem C08.offset_intrinsic_struct (fs : List Ty) (h : ∀ f ∈ fs, f.wf = true) (j : ℕ) (hj : j < fs.length) :
    den (offsetIntrinsic false (fs.take j)) = specSeq {0} (fs.take j) ∧
    ((fieldOffsets (.leaf [0]) (.struct fs)).map den)[j]?
      = some ((den (offsetIntrinsic false (fs.take j))).image (padTo (fs[j]).align)) := by
  have h1 : den (offsetIntrinsic false (fs.take j)) = specSeq {0} (fs.take j) := by
    simp only [offsetIntrinsic, Bool.false_eq_true, if_false]
    exact den_aggStruct _ fun f hf => den_bls f (h f (List.mem_of_mem_take hf))
  refine ⟨h1, ?_⟩
  rw [C08.field_offsets_exact (.struct fs) (by simpa [Ty.wf, wfList_iff] using h), h1]
  simp only [fieldStarts, den, List.toFinset_cons, List.toFinset_nil, insert_empty_eq, Finset.image_singleton,
    padTo_zero 8 (by omega)]
  exact structStarts_get fs {0} j hj

/-- After the last field of a structure `_offset_` is the unpadded length set, whose padding to a byte is the
    structure's bit length set. -/
theorem C08.offset_intrinsic_total (fs : List Ty) (h : ∀ f ∈ fs, f.wf = true) :
    specLens (.struct fs) = (den (offsetIntrinsic false fs)).image (padTo 8) := by
  simp only [offsetIntrinsic, Bool.false_eq_true, if_false, specLens]
  rw [den_aggStruct fs fun f hf => den_bls f (h f hf)]

/-- After the last variant of a union `_offset_` is tag + union of the variants. -/
theorem C08.offset_intrinsic_union (fs : List Ty) (h : (Ty.union fs).wf = true) :
    den (offsetIntrinsic true fs) = {tagBits fs} + specUnion fs ∧
    specLens (.union fs) = (den (offsetIntrinsic true fs)).image (padTo 8) := by
  obtain ⟨hf, hl, ht⟩ := Ty.wf_union.mp h
  have h1 : den (offsetIntrinsic true fs) = {tagBits fs} + specUnion fs := by
    rw [offsetIntrinsic, if_pos rfl, aggUnion_of_two_le hl, den_cat2, den_leaf1, den,
      denUnion_blsList _ fun x hx => den_bls x (hf x hx)]
  exact ⟨h1, by rw [h1, tagBits_eq fs ht, specLens]⟩

/-- `T._bit_length_` is `T.bit_length_set` (both are the Specification's set) and `T._extent_` is `T.extent`
    (the intrinsics read the same attributes; stated here for the model's expansion). -/
theorem C08.bit_length_intrinsic (t : Ty) (h : t.wf = true) : (t.bls.expand).toFinset = specLens t := by
  rw [Bls.expand_exact, den_bls t h]

/-- Elements of a fixed-length array: element `i` starts at the padded base plus `i` element lengths; one offset
    per index, in order. -/
theorem C08.element_offsets_exact (base : Op) (e : Ty) (cap : ℕ) (h : e.wf = true) :
    (elementOffsets base e cap).length = cap ∧
    ∀ i (hi : i < cap), ((elementOffsets base e cap).map den)[i]?
      = some ((den base).image (padTo e.align) + i • specLens e) := by
  refine ⟨by simp [elementOffsets], ?_⟩
  intro i hi
  simp only [elementOffsets, List.map_map, List.getElem?_map, List.getElem?_range hi, Option.map_some,
    Function.comp, den, denSum, den_bls e h]
  rw [Finset.singleton_zero, add_zero]

/-- Every offset handed out for a field is aligned to that field's alignment requirement (the `assert`s in the
    iterators cannot fire). -/
theorem C08.offsets_aligned (fs : List Ty) (cur : Finset ℕ) (j : ℕ) (hj : j < fs.length) :
    ∀ s, (structStarts cur fs)[j]? = some s → ∀ x ∈ s, (fs[j]).align ∣ x := by
  intro s hs x hx
  rw [structStarts_get fs cur j hj] at hs
  cases hs
  obtain ⟨y, _, rfl⟩ := Finset.mem_image.mp hx
  exact padTo_dvd _ _

/-! ### Non-vacuity -/
example : (Ty.struct [.prim 3, .varr (.struct [.prim 8]) 300, .void 5]).wf = true := by decide +kernel
