import Proofs.Const
/-!
# C12 — constants are always compliant with their declared type

`Ex.constCheck` mirrors `Constant.__init__` (pydsdl/_serializable/_attribute.py) on top of the constructor checks and
`inclusive_value_range` of the primitive types (pydsdl/_serializable/_primitive.py).  `Spec.constOk` is the rule of the
property, stated without reference to the code.
-/
open Ex

namespace Spec

/-- largest finite value of IEEE 754 binary16 / binary32 / binary64: `(2 - 2^(1-p)) * 2^emax` -/
def maxFinite : Nat → Rat
  | 16 => 65504
  | 32 => ((2:Rat)^24 - 1) * 2^104
  | 64 => ((2:Rat)^53 - 1) * 2^971
  | _ => 0

/-- `constOk ty v v'`: the initializer value `v` is acceptable for a constant of type `ty`, and `v'` is what the
    model stores.  Nothing else is acceptable. -/
def constOk (ty : CTy) (v v' : Val) : Prop :=
  match ty, v with
  | .bool, .sc (.bool _) => v' = v
  | .uint n _, .sc (.rat q) =>
      1 ≤ n ∧ n ≤ 64 ∧ (∃ z : Int, q = z ∧ 0 ≤ z ∧ z ≤ 2 ^ n - 1) ∧ v' = v
  | .int n m, .sc (.rat q) =>
      2 ≤ n ∧ n ≤ 64 ∧ m = .saturated ∧ (∃ z : Int, q = z ∧ -2 ^ (n - 1) ≤ z ∧ z ≤ 2 ^ (n - 1) - 1) ∧ v' = v
  | .float n _, .sc (.rat q) =>
      (n = 16 ∨ n = 32 ∨ n = 64) ∧ -maxFinite n ≤ q ∧ q ≤ maxFinite n ∧ v' = v
  | .uint n _, .sc (.str cs) =>
      n = 8 ∧ ∃ c : Nat, cs = [c] ∧ c < 128 ∧ v' = .rat (c : Nat)
  | _, _ => False

end Spec

/-- The value range of a signed integer type, as the code computes it (`((1 << n) - 1) // 2`), is the two's
    complement range, for every width `n ≥ 1`. -/
theorem C12.ranges_signed (n : Nat) (h : 1 ≤ n) : intRange n = (-(2:Int) ^ (n - 1), (2:Int) ^ (n - 1) - 1) :=
  intRange_eq n h

example : intRange 8 = (-128, 127) := by decide

/-- The value range of an unsigned integer type is `[0, 2^n - 1]` for every width. -/
theorem C12.ranges_unsigned (n : Nat) : uintRange n = (0, (2:Int) ^ n - 1) := uintRange_eq n

example : uintRange 64 = (0, 18446744073709551615) := by decide

/-- The float ranges are `± largest finite value` of the three IEEE formats, as exact rationals. -/
theorem C12.ranges_float :
    floatMagnitude 16 = Spec.maxFinite 16 ∧ floatMagnitude 32 = Spec.maxFinite 32 ∧ floatMagnitude 64 = Spec.maxFinite 64 :=
  ⟨floatMagnitude_16, floatMagnitude_32, floatMagnitude_64⟩

example : Spec.maxFinite 32 = 340282346638528859811704183484516925440 := by norm_num [Spec.maxFinite]

/-- membership of an integer in a range with integer bounds -/
private theorem inRange_cast {ty : CTy} {lo hi : Int} (h : ty.range = some ((lo : Rat), (hi : Rat))) (z : Int) :
    inRange ty (z : Rat) = true ↔ lo ≤ z ∧ z ≤ hi := by
  simp only [inRange, h, decide_eq_true_eq, Int.cast_le]

private theorem inRange_uint (n : Nat) (m : CastMode) (z : Int) :
    inRange (.uint n m) (z : Rat) = true ↔ 0 ≤ z ∧ z ≤ 2 ^ n - 1 :=
  inRange_cast (by rw [CTy.range, uintRange_eq]) z

private theorem inRange_int (n : Nat) (hn : 1 ≤ n) (m : CastMode) (z : Int) :
    inRange (.int n m) (z : Rat) = true ↔ -2 ^ (n - 1) ≤ z ∧ z ≤ 2 ^ (n - 1) - 1 :=
  inRange_cast (by rw [CTy.range, intRange_eq n hn]) z

private theorem magnitude_eq (n : Nat) (h : n = 16 ∨ n = 32 ∨ n = 64) : floatMagnitude n = Spec.maxFinite n := by
  rcases h with rfl | rfl | rfl
  · exact floatMagnitude_16
  · exact floatMagnitude_32
  · exact floatMagnitude_64

private theorem ok_ite (p : Prop) [Decidable p] (a v' : Val) (k : InvKind) :
    ((if p then (Except.ok a : Ex.R Val) else inval k) = Except.ok v') ↔ (p ∧ v' = a) := by
  by_cases h : p <;> simp [h, eq_comm, inval]

private theorem wf_uint (n : Nat) (m : CastMode) : (CTy.uint n m).wf = true ↔ 1 ≤ n ∧ n ≤ 64 := by simp [CTy.wf]
private theorem wf_int (n : Nat) (m : CastMode) : (CTy.int n m).wf = true ↔ (2 ≤ n ∧ n ≤ 64) ∧ m = .saturated := by
  cases m <;> simp [CTy.wf]
private theorem wf_float (n : Nat) (m : CastMode) : (CTy.float n m).wf = true ↔ (n = 16 ∨ n = 32 ∨ n = 64) := by
  simp [CTy.wf, or_assoc]

/-- the constructor constraints of the type are part of the rule -/
private theorem constOk_wf {ty : CTy} {v v' : Val} (h : Spec.constOk ty v v') : ty.wf = true := by
  unfold Spec.constOk at h
  split at h
  · rfl
  · exact (wf_uint _ _).mpr ⟨h.1, h.2.1⟩
  · exact (wf_int _ _).mpr ⟨⟨h.1, h.2.1⟩, h.2.2.1⟩
  · exact (wf_float _ _).mpr h.1
  · exact (wf_uint _ _).mpr (by omega)
  · exact h.elim

/-- A constant initializer is accepted if and only if it satisfies the rule of the property, and what is stored is
    the initializer itself (never rounded or converted) — except that a one-character ASCII string on an 8-bit
    unsigned type is stored as its code point.  Only bool / integer / float types carry constants; the constructor
    constraints of the type (widths 1..64, signed ≥ 2 and saturated only, float 16/32/64) are part of the rule. -/
theorem C12.iff (ty : CTy) (v v' : Val) : constCheck ty v = .ok v' ↔ Spec.constOk ty v v' := by
  by_cases hwf : ty.wf = true
  swap
  · exact iff_of_false (by simp [constCheck, hwf, inval]) fun h => hwf (constOk_wf h)
  · cases v with
    | set es => cases ty <;> simp [constCheck, Spec.constOk, inval, hwf]
    | sc s =>
      cases ty with
      | bool => cases s <;> simp [constCheck, Spec.constOk, inval, hwf, eq_comm]
      | other => cases s <;> simp [constCheck, Spec.constOk, inval, hwf]
      | uint n m =>
        have hn := (wf_uint n m).mp hwf
        cases s with
        | bool b => simp [constCheck, Spec.constOk, inval, hwf]
        | rat q =>
          simp only [constCheck, hwf, Bool.not_true, Bool.false_eq_true, ↓reduceIte, Spec.constOk,
            ok_ite, Bool.and_eq_true, isInt'_iff']
          constructor
          · rintro ⟨⟨⟨z, rfl⟩, hr⟩, rfl⟩
            exact ⟨hn.1, hn.2, ⟨z, rfl, (inRange_uint n m z).mp hr⟩, rfl⟩
          · rintro ⟨_, _, ⟨z, rfl, hz⟩, rfl⟩
            exact ⟨⟨⟨z, rfl⟩, (inRange_uint n m z).mpr hz⟩, rfl⟩
        | str cs =>
          simp only [constCheck, hwf, Bool.not_true, Bool.false_eq_true, ↓reduceIte, Spec.constOk]
          by_cases hl : (cs.map utf8Len).sum = 1
          · obtain ⟨c, rfl, hc⟩ := (utf8_sum_eq_one cs).mp hl
            have hl' : (([c].map utf8Len).sum != 1) = false := by simpa using hl
            simp only [hl', Bool.false_eq_true, ↓reduceIte]
            by_cases h8 : n = 8
            · subst h8
              simp only [bne_self_eq_false, Bool.false_eq_true, ↓reduceIte, Except.ok.injEq, true_and]
              constructor
              · rintro rfl; exact ⟨c, rfl, hc, rfl⟩
              · rintro ⟨c', hc', _, rfl⟩
                simp only [List.cons.injEq, and_true] at hc'; subst hc'; rfl
            · have h8' : (n != 8) = true := by simpa using h8
              simp only [h8', ↓reduceIte, inval, reduceCtorEq, false_iff, not_and]
              intro h; exact absurd h h8
          · have hl' : ((cs.map utf8Len).sum != 1) = true := by simpa using hl
            simp only [hl', ↓reduceIte, inval, reduceCtorEq, false_iff, not_and, not_exists]
            rintro _ c rfl hc _
            exact hl ((utf8_sum_eq_one [c]).mpr ⟨c, rfl, hc⟩)
      | int n m =>
        obtain ⟨hn, rfl⟩ := (wf_int n m).mp hwf
        have hn1 : 1 ≤ n := by omega
        cases s with
        | bool b => simp [constCheck, Spec.constOk, inval, hwf]
        | str cs => simp [constCheck, Spec.constOk, inval, hwf]
        | rat q =>
          simp only [constCheck, hwf, Bool.not_true, Bool.false_eq_true, ↓reduceIte, Spec.constOk,
            ok_ite, Bool.and_eq_true, isInt'_iff']
          constructor
          · rintro ⟨⟨⟨z, rfl⟩, hr⟩, rfl⟩
            exact ⟨hn.1, hn.2, trivial, ⟨z, rfl, (inRange_int n hn1 _ z).mp hr⟩, rfl⟩
          · rintro ⟨_, _, _, ⟨z, rfl, hz⟩, rfl⟩
            exact ⟨⟨⟨z, rfl⟩, (inRange_int n hn1 _ z).mpr hz⟩, rfl⟩
      | float n m =>
        have hn := (wf_float n m).mp hwf
        cases s with
        | bool b => simp [constCheck, Spec.constOk, inval, hwf]
        | str cs => simp [constCheck, Spec.constOk, inval, hwf]
        | rat q =>
          simp only [constCheck, hwf, Bool.not_true, Bool.false_eq_true, ↓reduceIte, Spec.constOk,
            ok_ite, inRange, CTy.range, magnitude_eq n hn, decide_eq_true_eq]
          constructor
          · rintro ⟨⟨h1, h2⟩, rfl⟩; exact ⟨hn, h1, h2, rfl⟩
          · rintro ⟨_, h1, h2, rfl⟩; exact ⟨⟨h1, h2⟩, rfl⟩

example : Spec.constOk (.uint 8 .saturated) (.str [97]) (.rat 97) := ⟨rfl, 97, rfl, by omega, rfl⟩
example : constCheck (.int 8 .saturated) (.rat (-128)) = .ok (.rat (-128)) := by decide +kernel
example : ¬ Spec.constOk (.int 8 .saturated) (.rat 128) (.rat 128) := by
  rintro ⟨_, _, _, ⟨z, hz, _, h2⟩, _⟩
  have : z = 128 := by exact_mod_cast hz.symm
  omega
