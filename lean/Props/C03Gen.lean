import Bridge.Reader
import Props.C03
/-!
# C03 over the comment / attribute automaton generated from `_parser.py`, `_data_type_builder.py`, `_data_schema_builder.py`

`Gen/Reader.lean` is translated from the working tree of /repo on every run: the visitor `_ParseTreeProcessor` (comment
accumulation, `_flush_comment`, `visit_line`, `visit_end_of_line`, the statement visitors, `visit_identifier`, the string literal
visitors), the function `parse` (with the end-of-text flush), `DataTypeBuilder` (the lazily committed attribute, the directives, the
`---` marker), `DataSchemaBuilder`, `Error.set_error_location_if_unknown`.  `Bridge/Reader.lean` proves that running the generated
`parse` over the event stream of a document (`docEvents`: the grammar nodes the visitors react to, children first) computes what the
hand-written `Reader.runLines` + `Reader.flush` computes.  The theorems here restate the C03 theorems over the generated code.

`genRead` is `DSDLDefinition.read` with the GENERATED `parse` in the middle (grammar check and `finalize` are the model's); `LineOk` is
what the grammar guarantees of a line (names are not empty, a `@print` without expression has no text, string literals only in
statements) plus `fault ≠ emit` (a fault phase that no text and no generated case has).
-/
open Reader Gen.Reader Bridge.Rd
open Py hiding M Err

/-- **The generated `parse` computes the model.**  For every context, every initial world and every document of well-formed
    lines: the generated `parse`, run over the event stream of the document on the builder of the initial model state, returns
    exactly the visitor + builder that correspond to the model state after `runLines` and the end-of-text `flush` -- the same schemas,
    the same attributes in the same order with the same doc comments, the same header comments, the same queue, the same `@print`
    deliveries --, with the line counter on the last line; when the model fails, the generated code raises an `_error.Error` with the
    model's location and world. -/
theorem C03.gen_parse_is_model (c : Ctx) (strict : Bool) (ls : List Line) (w : W) (hls : ∀ l ∈ ls, LineOk l) :
    match runLines c 1 (St.init w) ls >>= fun s => flush c (lastLine 1 ls) s with
    | .ok s' => parse (env c) (ext c) (docEvents 1 ls) (ofB c (St.init w)) strict = (.ok (), ofSt c strict s' (lastLine 1 ls) (lastInner ls))
    | .error (e, w') => ∃ ge g', parse (env c) (ext c) (docEvents 1 ls) (ofB c (St.init w)) strict = (.error (.dsdl ge), g') ∧
        readErr c ge = e ∧ worldOf g' = w' :=
  gen_parse c strict ls w hls

/-- **`read` over the generated automaton is `readText`**, for every document of well-formed lines: same acceptance, same
    composite, same error location, same world. -/
theorem C03.gen_read_is_model (c : Ctx) (strict : Bool) (ls : List Line) (w : W) (hls : ∀ l ∈ ls, LineOk l) :
    genRead c strict ls w = readText c ls w :=
  genRead_eq c strict ls w hls

/-- the schemas of an accepted definition are the schema builders the GENERATED `DataTypeBuilder` holds when the generated
    `parse` has returned, in order (one for a message, request and response for a service) -/
theorem C03.gen_schemas_are_builders (c : Ctx) (strict : Bool) (ls : List Line) (w w' : W) (comp : Composite)
    (h : genRead c strict ls w = .ok (comp, w')) :
    ∃ g, parse (env c) (ext c) (docEvents 1 ls) (ofB c (St.init w)) strict = (.ok (), g) ∧
      comp.schemas = g.statement_stream_processor.structs.dropLast.map toSchema ++
        [(g.statement_stream_processor.structs.getLast?.map toSchema).getD Schema.empty] ∧
      comp.deprecated = g.statement_stream_processor.is_deprecated ∧ w' = worldOf g :=
  genRead_ok c strict ls w w' comp h

/-- **The generated automaton mirrors the source**: an accepted definition yields exactly its statements, per schema the
    fields / paddings in source order and the constants in source order, the flags and the request / response split as written. -/
theorem C03.gen_mirror (c : Ctx) (strict : Bool) (ls : List Line) (w w' : W) (comp : Composite) (hls : ∀ l ∈ ls, LineOk l)
    (h : genRead c strict ls w = .ok (comp, w')) :
    comp.schemas.map Schema.view = (Spec.of ls).schemas ∧ comp.deprecated = (Spec.of ls).deprecated := by
  rw [genRead_eq c strict ls w hls] at h
  exact C03.mirror c ls w w' comp h

/-- **Doc comment attachment by the generated automaton**: every attribute carries exactly the comment run that follows its
    statement (its trailing comment and the comment lines up to the next statement or empty line), every schema the run at its
    start; nothing is lost into a neighbour, nothing attached twice -- wherever blank lines and comments stand. -/
theorem C03.gen_docs (c : Ctx) (strict : Bool) (ls : List Line) (w w' : W) (comp : Composite) (hls : ∀ l ∈ ls, LineOk l)
    (hwf : ∀ l ∈ ls, l.wf) (h : genRead c strict ls w = .ok (comp, w')) :
    comp.schemas.flatMap (fun sc => sc.fields.map fun a => (a.core, a.doc)) = (attrDocs ls).filter (fun p => !isConst p) ∧
    comp.schemas.flatMap (fun sc => sc.consts.map fun a => (a.core, a.doc)) = (attrDocs ls).filter isConst ∧
    comp.schemas.map (·.doc) = commentRun "" ls :: markerDocs ls := by
  rw [genRead_eq c strict ls w hls] at h
  exact C03.docs c ls w w' comp hwf h

/-- **Presence or absence of the final newline** (the end-of-text flush of the generated `parse`): an additional empty last
    line changes neither acceptance nor the result, docs included. -/
theorem C03.gen_final_newline (c : Ctx) (strict : Bool) (ls : List Line) (w : W) (crlf : Bool) (hls : ∀ l ∈ ls, LineOk l) :
    okPart (genRead c strict (ls ++ [emptyLine crlf]) w) = okPart (genRead c strict ls w) := by
  have h2 : ∀ l ∈ ls ++ [emptyLine crlf], LineOk l := by
    intro l hl
    rcases List.mem_append.mp hl with h | h
    · exact hls l h
    · rw [List.mem_singleton.mp h]; exact lineOk_emptyLine crlf
  rw [genRead_eq c strict _ w h2, genRead_eq c strict ls w hls]
  exact C03.final_newline c ls w crlf

/-- **Extra comment / blank lines, over the generated automaton**: inserting a line without a statement -- a comment line, a
    blank line, an empty line -- anywhere changes neither acceptance nor the model up to doc strings. -/
theorem C03.gen_blank_comment_lines (c : Ctx) (strict : Bool) (hc : c.lineBlind) (ls₁ ls₂ : List Line) (l : Line) (w : W)
    (hls : ∀ x ∈ ls₁ ++ ls₂, LineOk x) (hwf : ∀ x ∈ ls₁ ++ ls₂, x.offsWf) (hl : l.stmt = none) (hf : l.fault = none) (hi : l.inner = 0) :
    C03.obs (okPart (genRead c strict (ls₁ ++ l :: ls₂) w)) = C03.obs (okPart (genRead c strict (ls₁ ++ ls₂) w)) := by
  have hlo : LineOk l := ⟨by rw [hf]; simp, fun _ => hi, by rw [hl]; trivial⟩
  have h2 : ∀ x ∈ ls₁ ++ l :: ls₂, LineOk x := by
    intro x hx
    simp only [List.mem_append, List.mem_cons] at hx
    rcases hx with h | rfl | h
    · exact hls x (List.mem_append.mpr (Or.inl h))
    · exact hlo
    · exact hls x (List.mem_append.mpr (Or.inr h))
  rw [genRead_eq c strict _ w h2, genRead_eq c strict _ w hls]
  exact C03.blank_comment_lines c hc ls₁ ls₂ l w hwf hl (by rw [hf]; simp)

/-- **Formatting independence over the generated automaton**: two documents with the same statement sequence -- whatever their
    line structure -- are both rejected, or both accepted with the same model up to doc strings. -/
theorem C03.gen_formatting_independence (c : Ctx) (strict : Bool) (hc : c.lineBlind) (ls₁ ls₂ : List Line)
    (ho₁ : ∀ l ∈ ls₁, LineOk l) (ho₂ : ∀ l ∈ ls₂, LineOk l)
    (hwf₁ : ∀ l ∈ ls₁, l.offsWf) (hwf₂ : ∀ l ∈ ls₂, l.offsWf) (hit : items ls₁ = items ls₂) (w : W) :
    C03.obs (okPart (genRead c strict ls₁ w)) = C03.obs (okPart (genRead c strict ls₂ w)) := by
  rw [genRead_eq c strict _ w ho₁, genRead_eq c strict _ w ho₂]
  exact C03.formatting_independence c hc ls₁ ls₂ hwf₁ hwf₂ hit w

/-- **The text of a doc comment**, for every instantiation of the generated code (no model involved): the comment node `#t`
    appends `t` without ONE leading blank to the pending comment, behind a line feed unless the pending comment is empty. -/
theorem C03.gen_comment_text {P T V A L H : Type} (en : Env P T V A H) (g : ParserS P T V A L H) (t : Str) :
    (ParseTreeProcessor.visit_comment en ('#' :: t)).run g =
      (.ok (), { g with comment := g.comment ++ (if g.comment = [] then [] else ['\n']) ++ stripComment t }) :=
  visit_comment_run en g t

namespace C03.GenExamples
open C03.Examples
/-- the visitor + builder after the generated `parse` has run over the example service of `Props/C03.lean` -/
def after : Res GParser GExc Unit := parse (env ctx) (ext ctx) (docEvents 1 svc) (ofB ctx (St.init W.init)) false
end C03.GenExamples

open C03.Examples C03.GenExamples in
/-- non-vacuity: the lines of the example service are well formed; the generated `parse` returns normally on its 44 events; the
    generated `DataTypeBuilder` then holds two schema builders whose fields carry the doc comments `da⏎da2`, ``, ``, `last` (the
    last one committed by the end-of-text flush: the text ends without a newline), whose constants carry `c`, whose header
    comments are `hdr` and ``; nothing is left in the queue; the line counter stands on line 12 -/
example : (∀ l ∈ svc, LineOk l) ∧ (docEvents 1 svc).length = 44 ∧ after.1 = .ok () ∧
    after.2.statement_stream_processor.structs.map (fun sc => sc.fields.map fun a => (a.core.name, a.doc)) =
      [[("a", "da\nda2"), ("", "")], [("x", ""), ("y", "last")]] ∧
    after.2.statement_stream_processor.structs.map (fun sc => sc.constants.map fun a => (a.core.name, a.doc)) = [[("B", "c")], []] ∧
    after.2.statement_stream_processor.structs.map (fun sc => String.ofList sc.doc) = ["hdr", ""] ∧
    after.2.statement_stream_processor.element_callback = none ∧ after.2.current_line_number = 12 := by
  refine ⟨by decide, by decide +kernel⟩

open C03.Examples in
/-- non-vacuity of `gen_read_is_model` / `gen_final_newline` / `gen_blank_comment_lines`: accepted texts -/
example : (okPart (genRead ctx false svc W.init)).isSome = true ∧
    (okPart (genRead ctx false (svc ++ [emptyLine false]) W.init)).isSome = true ∧
    (∀ x ∈ [fld "a"] ++ [dir "sealed"], LineOk x) ∧ LineOk (ln none (some " c")) ∧
    (okPart (genRead ctx false ([fld "a"] ++ ln none (some " c") :: [dir "sealed"]) W.init)).isSome = true := by
  decide +kernel

/-- non-vacuity of `gen_comment_text`: `# a` and `#  b` (two blanks) and `#c` on an empty pending comment and behind one -/
example : stripComment " a".toList = "a".toList ∧ stripComment "  b".toList = " b".toList ∧ stripComment "c".toList = "c".toList := by
  decide
