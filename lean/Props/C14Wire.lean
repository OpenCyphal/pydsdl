import Proofs.WireCtxRt
import Props.C06
/-! C14, wire half — data written with one revision of a delimited structure and read with another
    (same extent or not: the wire does not depend on it), on the model `Model/Wire.lean`. -/
open Wire

/-- Fields appended (`D' = D ++ gs`), old writer, new reader: common leading fields keep their values, fields
    unknown to the writer read as their defaults, and the reader ends exactly where the writer's representation
    ends — at any byte-aligned offset, with anything following (so every later field or array element of any
    container is read from the right position). -/
theorem C14.wire_appended (fs gs : List Ty) (x x' : Nat) (vs : List Val) (o : Nat) (junk : List Bool)
    (hw : (Ty.struct fs (.delimited x)).wf = true) (hw' : (Ty.struct (fs ++ gs) (.delimited x')).wf = true)
    (hv : valid (.struct fs (.delimited x)) (.recd vs) = true) (ho : o % 8 = 0) :
    dec (.struct (fs ++ gs) (.delimited x')) ⟨o, enc (.struct fs (.delimited x)) (.recd vs) o ++ junk⟩
      = .ok (.recd (vs ++ dfltFields gs),
             ⟨o + (enc (.struct fs (.delimited x)) (.recd vs) o).length, junk⟩) :=
  rev_appended fs gs x x' vs o junk hw hw' hv ho

example : (Ty.struct [.uint 3 .sat] (.delimited 64)).wf = true ∧
    (Ty.struct ([.uint 3 .sat] ++ [.sint 16 .sat, .varr .utf8 3]) (.delimited 64)).wf = true ∧
    valid (.struct [.uint 3 .sat] (.delimited 64)) (.recd [.int 5]) = true := by decide

/-- Fields removed, new writer, old reader: common leading fields keep their values, fields unknown to the
    reader are skipped, and the reader again ends exactly where the writer's representation ends. -/
theorem C14.wire_removed (fs gs : List Ty) (x x' : Nat) (vs ws : List Val) (o : Nat) (junk : List Bool)
    (hw : (Ty.struct (fs ++ gs) (.delimited x)).wf = true) (hlen : vs.length = fs.length)
    (hv : valid (.struct (fs ++ gs) (.delimited x)) (.recd (vs ++ ws)) = true) (ho : o % 8 = 0) :
    dec (.struct fs (.delimited x')) ⟨o, enc (.struct (fs ++ gs) (.delimited x)) (.recd (vs ++ ws)) o ++ junk⟩
      = .ok (.recd vs, ⟨o + (enc (.struct (fs ++ gs) (.delimited x)) (.recd (vs ++ ws)) o).length, junk⟩) :=
  rev_removed fs gs x x' vs ws o junk hw hlen hv ho

example : (Ty.struct ([.uint 3 .sat] ++ [.sint 16 .sat]) (.delimited 64)).wf = true ∧
    valid (.struct ([.uint 3 .sat] ++ [.sint 16 .sat]) (.delimited 64)) (.recd ([.int 5] ++ [.int (-2)])) = true := by
  decide

/-- "Zero / empty" made precise: the default of a type is what an exhausted (all-zero) window decodes to. -/
theorem C14.unknown_fields_read_as_zero (gs : List Ty) (hw : wfFields gs = true) (o k : Nat) :
    ∃ o' k', decFields gs ⟨o, zeros k⟩ = .ok (dfltFields gs, ⟨o', zeros k'⟩) :=
  decFields_zeros gs hw o k

/-- The full statement: the same at every nesting position `C` (field, variant, array element, nested in
    sealed or delimited composites, to any depth). -/
def C14.wire_statement : Prop :=
  ∀ (C : Ctx) (fs gs : List Ty) (x x' : Nat) (v : Val) (o : Nat) (junk : List Bool),
    (C.fill (.struct fs (.delimited x))).wf = true → (C.fill (.struct (fs ++ gs) (.delimited x'))).wf = true →
    o % 8 = 0 →
    (valid (C.fill (.struct fs (.delimited x))) v = true →
      dec (C.fill (.struct (fs ++ gs) (.delimited x'))) ⟨o, enc (C.fill (.struct fs (.delimited x))) v o ++ junk⟩
        = .ok (C.map (appendDefaults gs) v, ⟨o + (enc (C.fill (.struct fs (.delimited x))) v o).length, junk⟩)) ∧
    (valid (C.fill (.struct (fs ++ gs) (.delimited x'))) v = true →
      dec (C.fill (.struct fs (.delimited x))) ⟨o, enc (C.fill (.struct (fs ++ gs) (.delimited x'))) v o ++ junk⟩
        = .ok (C.map (dropFields fs.length) v,
               ⟨o + (enc (C.fill (.struct (fs ++ gs) (.delimited x'))) v o).length, junk⟩))

/-- C14, wire half, at full strength: both directions, at every nesting position. -/
theorem C14.wire : C14.wire_statement := by
  intro C fs gs x x' v o junk hw hw' ho
  have hfs := (wf_struct.mp (wf_fill C _ hw)).1
  constructor
  · intro hv
    refine fill_rt C _ _ (appendDefaults gs) ?_ (fun u hu => ?_) v hw hw' hv o junk (mod_align_zero _ ho)
    · simp only [Evolves]; exact evolvesPrefix_append_right fs fs gs (evolvesAll_refl fs)
    · obtain ⟨vs, rfl, hvs⟩ := valid_struct.mp hu
      simp only [adapt, appendDefaults, adaptFields_append_right fs gs vs hfs hvs]
  · intro hv
    refine fill_rt C _ _ (dropFields fs.length) ?_ (fun u hu => ?_) v hw' hw hv o junk (mod_align_zero _ ho)
    · simp only [Evolves]; exact evolvesPrefix_append_left fs fs gs (evolvesAll_refl fs)
    · obtain ⟨us, rfl, hus⟩ := valid_struct.mp hu
      have hlen := validFields_length _ _ hus
      obtain ⟨vs, ws, rfl, hvl⟩ : ∃ vs ws, us = vs ++ ws ∧ vs.length = fs.length :=
        ⟨us.take fs.length, us.drop fs.length, (List.take_append_drop _ _).symm, by
          simp only [List.length_take, List.length_append] at hlen ⊢; omega⟩
      rw [validFields_append fs gs vs ws hvl, Bool.and_eq_true] at hus
      simp only [adapt, dropFields, adaptFields_append_left fs gs vs ws hfs hus.1, ← hvl, List.take_left']

/-- a nested instance of the hypotheses: `D` as element of a variable array that is the second field of a
    structure, followed by another field -/
example :
    let C : Ctx := .field [.uint 3 .sat] (.varr .hole 3) [.uint 8 .sat] .sealed
    (C.fill (.struct [.uint 8 .sat] (.delimited 64))).wf = true ∧
    (C.fill (.struct ([.uint 8 .sat] ++ [.sint 16 .sat]) (.delimited 64))).wf = true ∧
    valid (C.fill (.struct [.uint 8 .sat] (.delimited 64)))
      (.recd [.int 5, .arr [.recd [.int 1], .recd [.int 2]], .int 77]) = true := by decide
