import Bridge.ExprOps
import Props.C04
/-!
# C04 over the operator functions generated from `pydsdl/_expression`

`Gen.Ex.add`, `Gen.Ex.divide`, `Gen.Ex.less`, `Gen.Ex.bitwise_or`, … are translated from `_operator.py` (the dispatchers with
`_auto_swap`), `_primitive.py` (`Boolean`, `Rational`, `String`), `_container.py` (`Set`) and `_any.py` of the working tree of
/repo on every run (`tools/py2lean_expr.py`); `lean/PyLib/Expr.lean` is the meaning of the Python they use.  `Bridge/ExprOps.lean`
proves that on every pair of model values they return what the model's `evalBin` returns.  Below, the operator statements of
`Props/C04.lean` are restated over the generated functions.

Notation: `ratObj q`, `boolObj b`, `strObj s` are the instances of `Rational`, `Boolean`, `String`; `setObj raw` is the instance of
`Set` with the given primitives as elements; `env` is the late-binding environment of the generated module (any environment for
the primitives; `Gen.Ex.env nfc (n + 1)` - any call budget of at least one - where sets take part).
-/
open Ex Py BridgeEx PyEx
set_option linter.unusedSimpArgs false
set_option linter.unusedVariables false

namespace C04Gen

def ratObj (q : Rat) : Obj := embS (.rat q)
def boolObj (b : Bool) : Obj := embS (.bool b)
def strObj (s : List Nat) : Obj := embS (.str s)

/-- the exception is an `InvalidDefinitionError` (by the `class` statements of `_any.py`) -/
def isInvalidDefinition (e : Exc) : Bool := Gen.Ex.excMatch e [.InvalidDefinitionError]

end C04Gen
open C04Gen

/-! ## exact arithmetic -/

/-- `+ - *` on `Rational`s are the field operations of ℚ (no rounding, no overflow). -/
theorem C04.gen_exact_ring (env : Py.Env) (a b : Rat) :
    Gen.Ex.add env (ratObj a) (ratObj b) = .ok (ratObj (a + b)) ∧
    Gen.Ex.subtract env (ratObj a) (ratObj b) = .ok (ratObj (a - b)) ∧
    Gen.Ex.multiply env (ratObj a) (ratObj b) = .ok (ratObj (a * b)) :=
  ⟨gen_scBin env .add (.rat a) (.rat b), gen_scBin env .sub (.rat a) (.rat b), gen_scBin env .mul (.rat a) (.rat b)⟩

example (env : Py.Env) : Gen.Ex.add env (ratObj (1/3)) (ratObj (1/6)) = .ok (ratObj (1/2)) := by
  rw [(C04.gen_exact_ring env (1/3) (1/6)).1]; norm_num

/-- Division is exact; division by zero raises `InvalidOperandError`, an `InvalidDefinitionError`. -/
theorem C04.gen_exact_div (env : Py.Env) (a b : Rat) :
    (b ≠ 0 → Gen.Ex.divide env (ratObj a) (ratObj b) = .ok (ratObj (a / b))) ∧
    (b = 0 → Gen.Ex.divide env (ratObj a) (ratObj b) = .error .InvalidOperandError) ∧
    isInvalidDefinition .InvalidOperandError = true := by
  have h : Gen.Ex.divide env (ratObj a) (ratObj b) = convS (@scBin ⟨env.nfc⟩ .div (.rat a) (.rat b)) :=
    gen_scBin env .div (.rat a) (.rat b)
  refine ⟨fun hb => ?_, fun hb => ?_, rfl⟩
  · rw [h]; simp [scBin, hb, convS]; rfl
  · rw [h]; simp [scBin, hb, convS, inval, excOf]

example (env : Py.Env) : Gen.Ex.divide env (ratObj 1) (ratObj 3) = .ok (ratObj (1/3)) := by
  rw [(C04.gen_exact_div env 1 3).1 (by norm_num)]

example (env : Py.Env) : Gen.Ex.divide env (ratObj 1) (ratObj 0) = .error .InvalidOperandError :=
  (C04.gen_exact_div env 1 0).2.1 rfl

/-- `%` is the floored modulo on rationals (`a = k*b + r`, `r` between zero and the divisor, with the divisor's sign); modulo
    zero raises `InvalidOperandError`. -/
theorem C04.gen_exact_mod (env : Py.Env) (a b : Rat) :
    (b ≠ 0 → ∃ r : Rat, Gen.Ex.modulo env (ratObj a) (ratObj b) = .ok (ratObj r) ∧ (∃ k : Int, a = k * b + r) ∧
        (0 < b → 0 ≤ r ∧ r < b) ∧ (b < 0 → b < r ∧ r ≤ 0)) ∧
    (b = 0 → Gen.Ex.modulo env (ratObj a) (ratObj b) = .error .InvalidOperandError) := by
  have h : Gen.Ex.modulo env (ratObj a) (ratObj b) = convS (@scBin ⟨env.nfc⟩ .mod (.rat a) (.rat b)) :=
    gen_scBin env .mod (.rat a) (.rat b)
  constructor
  · intro hb
    refine ⟨ratMod a b, ?_, ratMod_spec a b⟩
    rw [h]; simp [scBin, hb, convS]; rfl
  · intro hb
    rw [h]; simp [scBin, hb, convS, inval, excOf]

example (env : Py.Env) : ∃ r : Rat, Gen.Ex.modulo env (ratObj (-7)) (ratObj 3) = .ok (ratObj r) ∧ 0 ≤ r ∧ r < 3 := by
  obtain ⟨r, h1, _, h3, _⟩ := (C04.gen_exact_mod env (-7) 3).1 (by norm_num)
  exact ⟨r, h1, h3 (by norm_num)⟩

/-- A power with an integral exponent is the exact power, negative exponents included; `0 ** negative` raises
    `InvalidOperandError`. -/
theorem C04.gen_exact_pow (env : Py.Env) (a : Rat) (n : Int) :
    ((a ≠ 0 ∨ 0 ≤ n) → Gen.Ex.power env (ratObj a) (ratObj (n : Rat)) = .ok (ratObj (a ^ n))) ∧
    ((a = 0 ∧ n < 0) → Gen.Ex.power env (ratObj a) (ratObj (n : Rat)) = .error .InvalidOperandError) := by
  have h : Gen.Ex.power env (ratObj a) (ratObj (n : Rat)) = convS (@scBin ⟨env.nfc⟩ .pow (.rat a) (.rat (n : Rat))) :=
    gen_scBin env .pow (.rat a) (.rat (n : Rat))
  constructor
  · intro hn
    rw [h]; simp [scBin, scPow_int a n hn, convS, Except.map]; rfl
  · rintro ⟨rfl, hn⟩
    rw [h]; simp [scBin, scPow_zero_neg n hn, convS, Except.map, excOf]

example (env : Py.Env) : Gen.Ex.power env (ratObj 2) (ratObj ((-1 : Int) : Rat)) = .ok (ratObj (2 ^ (-1 : Int))) :=
  (C04.gen_exact_pow env 2 (-1)).1 (Or.inl (by norm_num))

/-- Comparisons of `Rational`s are the order of ℚ. -/
theorem C04.gen_exact_cmp (env : Py.Env) (a b : Rat) :
    Gen.Ex.equal env (ratObj a) (ratObj b) = .ok (boolObj (decide (a = b))) ∧
    Gen.Ex.less env (ratObj a) (ratObj b) = .ok (boolObj (decide (a < b))) ∧
    Gen.Ex.less_or_equal env (ratObj a) (ratObj b) = .ok (boolObj (decide (a ≤ b))) ∧
    Gen.Ex.greater env (ratObj a) (ratObj b) = .ok (boolObj (decide (b < a))) ∧
    Gen.Ex.greater_or_equal env (ratObj a) (ratObj b) = .ok (boolObj (decide (b ≤ a))) ∧
    Gen.Ex.not_equal env (ratObj a) (ratObj b) = .ok (boolObj (decide (a ≠ b))) := by
  have h := fun op => gen_scBin env op (.rat a) (.rat b)
  refine ⟨(h .eq).trans ?_, (h .lt).trans ?_, (h .le).trans ?_, (h .gt).trans ?_, (h .ge).trans ?_, (h .ne).trans ?_⟩ <;>
    simp [scBin, convS, boolObj, beq_eq_decide, bne]

example (env : Py.Env) : Gen.Ex.less env (ratObj (1/3)) (ratObj (1/2)) = .ok (boolObj true) := by
  rw [(C04.gen_exact_cmp env (1/3) (1/2)).2.1]; norm_num

/-- `|`, `^`, `&` are defined on integers only (Python's operators on unbounded two's complement integers, `Ex.ior` …);
    a non-integral operand raises `InvalidOperandError`. -/
theorem C04.gen_bitwise (env : Py.Env) (a b : Rat) :
    (a.den = 1 ∧ b.den = 1 →
      Gen.Ex.bitwise_or env (ratObj a) (ratObj b) = .ok (ratObj ((ior a.num b.num : Int) : Rat)) ∧
      Gen.Ex.bitwise_xor env (ratObj a) (ratObj b) = .ok (ratObj ((ixor a.num b.num : Int) : Rat)) ∧
      Gen.Ex.bitwise_and env (ratObj a) (ratObj b) = .ok (ratObj ((iand a.num b.num : Int) : Rat))) ∧
    (¬ (a.den = 1 ∧ b.den = 1) →
      Gen.Ex.bitwise_or env (ratObj a) (ratObj b) = .error .InvalidOperandError ∧
      Gen.Ex.bitwise_xor env (ratObj a) (ratObj b) = .error .InvalidOperandError ∧
      Gen.Ex.bitwise_and env (ratObj a) (ratObj b) = .error .InvalidOperandError) := by
  have h := fun op => gen_scBin env op (.rat a) (.rat b)
  constructor
  · rintro ⟨ha, hb⟩
    refine ⟨(h .bor).trans ?_, (h .bxor).trans ?_, (h .band).trans ?_⟩ <;>
      simp [scBin, bitwise, Rat.isInt', ha, hb, convS, ratObj]
  · intro hn
    have : (Rat.isInt' a && Rat.isInt' b) = false := by
      rw [Bool.eq_false_iff]; intro h'; apply hn; simpa [Rat.isInt'] using h'
    refine ⟨(h .bor).trans ?_, (h .bxor).trans ?_, (h .band).trans ?_⟩ <;>
      simp [scBin, bitwise, this, convS, inval, excOf]

example (env : Py.Env) : Gen.Ex.bitwise_and env (ratObj 12) (ratObj 10) = .ok (ratObj 8) := by
  have := ((C04.gen_bitwise env 12 10).1 ⟨rfl, rfl⟩).2.2
  rw [this]; rfl

example (env : Py.Env) : Gen.Ex.bitwise_or env (ratObj (1/2)) (ratObj 1) = .error .InvalidOperandError :=
  ((C04.gen_bitwise env (1/2) 1).2 (by decide +kernel)).1

/-- … and on integers they act bit by bit on the two's complement representation with an infinite sign extension
    (`Int.testBit`), as Python's `&`, `|`, `^` do. -/
theorem C04.gen_bitwise_bits (env : Py.Env) (a b : Int) :
    ∃ x o y : Int,
      Gen.Ex.bitwise_and env (ratObj a) (ratObj b) = .ok (ratObj x) ∧
      Gen.Ex.bitwise_or env (ratObj a) (ratObj b) = .ok (ratObj o) ∧
      Gen.Ex.bitwise_xor env (ratObj a) (ratObj b) = .ok (ratObj y) ∧
      ∀ k : Nat, x.testBit k = (a.testBit k && b.testBit k) ∧ o.testBit k = (a.testBit k || b.testBit k) ∧
        y.testBit k = xor (a.testBit k) (b.testBit k) := by
  obtain ⟨h1, h2, h3⟩ := (C04.gen_bitwise env (a : Rat) (b : Rat)).1 ⟨by simp, by simp⟩
  simp only [Rat.num_intCast] at h1 h2 h3
  refine ⟨iand a b, ior a b, ixor a b, h3, h1, h2, fun k => ?_⟩
  have := testBit_int_ops a b k
  rw [intAnd_eq, intOr_eq, intXor_eq] at this
  exact this

example (env : Py.Env) : ∃ x : Int, Gen.Ex.bitwise_and env (ratObj ((-4 : Int) : Rat)) (ratObj ((6 : Int) : Rat)) = .ok (ratObj x) ∧
    x.testBit 2 = true ∧ x.testBit 1 = false := by
  obtain ⟨x, _, _, h, _, _, hk⟩ := C04.gen_bitwise_bits env (-4) 6
  exact ⟨x, h, by rw [(hk 2).1]; decide, by rw [(hk 1).1]; decide⟩

/-! ## booleans and strings -/

/-- `||`, `&&`, `!`, `==`, `!=` on `Boolean`s. -/
theorem C04.gen_booleans (env : Py.Env) (a b : Bool) :
    Gen.Ex.logical_or env (boolObj a) (boolObj b) = .ok (boolObj (a || b)) ∧
    Gen.Ex.logical_and env (boolObj a) (boolObj b) = .ok (boolObj (a && b)) ∧
    Gen.Ex.logical_not env (boolObj a) = .ok (boolObj (!a)) ∧
    Gen.Ex.equal env (boolObj a) (boolObj b) = .ok (boolObj (a == b)) ∧
    Gen.Ex.not_equal env (boolObj a) (boolObj b) = .ok (boolObj (a != b)) := by
  refine ⟨gen_scBin env .lor (.bool a) (.bool b), gen_scBin env .land (.bool a) (.bool b), ?_,
    gen_scBin env .eq (.bool a) (.bool b), gen_scBin env .ne (.bool a) (.bool b)⟩
  exact gen_evalUn env .not (.bool a)

example (env : Py.Env) : Gen.Ex.logical_or env (boolObj false) (boolObj true) = .ok (boolObj true) :=
  (C04.gen_booleans env false true).1

/-- `+` on `String`s concatenates the code points and nothing else; `==` holds exactly when the NFC forms are equal. -/
theorem C04.gen_strings (env : Py.Env) (a b : List Nat) :
    Gen.Ex.add env (strObj a) (strObj b) = .ok (strObj (a ++ b)) ∧
    Gen.Ex.equal env (strObj a) (strObj b) = .ok (boolObj (env.nfc a == env.nfc b)) ∧
    Gen.Ex.not_equal env (strObj a) (strObj b) = .ok (boolObj (env.nfc a != env.nfc b)) :=
  ⟨gen_scBin env .add (.str a) (.str b), gen_scBin env .eq (.str a) (.str b), gen_scBin env .ne (.str a) (.str b)⟩

example (env : Py.Env) : Gen.Ex.add env (strObj [97]) (strObj [98, 99]) = .ok (strObj [97, 98, 99]) :=
  (C04.gen_strings env [97] [98, 99]).1

/-! ## every operator on every pair of values -/

section
variable (nfc : List Nat → List Nat) (n : Nat)

/-- **The generated operators are the model's operators.**  For every binary operator, every two model values and every two
    Python objects that denote them (`Abs`: a primitive by the instance with exactly that value; a set by an instance whose
    elements are primitives with the given normal forms), the translated function of `_operator.py` returns an object that
    denotes the model's result, or raises the exception class of the model's error (`excOf`). -/
theorem C04.gen_operators_agree (hl : NfcLaws nfc) (op : BinOp) (oa ob : Obj) (a b : Val)
    (ha : Abs nfc oa a) (hb : Abs nfc ob b) :
    Agree nfc (genBin op (Gen.Ex.env nfc (n + 1)) oa ob) (@evalBin ⟨nfc⟩ op a b) :=
  gen_evalBin nfc n hl op oa ob a b ha hb

example : Agree id (Gen.Ex.subtract (Gen.Ex.env id 1) (ratObj 10) (setObj [.rat 1, .rat 2]))
    (@evalBin StrNorm.plain .sub (.rat 10) (.set [.rat 1, .rat 2])) :=
  C04.gen_operators_agree id 0 (nfcLaws_id) .sub _ _ _ _ (Abs.sc _) (Abs.set [.rat 1, .rat 2] (by simp))

/-- **Tokens.**  What the parser applies for an operator token (the `visit_op…` members of `_ParseTreeProcessor` with the
    terminals of grammar.parsimonious, read from the working tree) is the translated function of the model operator with that
    token; together with `C04.gen_operators_agree` / `C04.gen_unary_agree`: the function behind every operator token computes the
    model's operator. -/
theorem C04.gen_operator_tokens (env : Py.Env) :
    (∀ op : BinOp, Gen.Ex.binaryOperator env (String.ofList op.sym.text) = some (genBin op env)) ∧
    (∀ op : UnOp, Gen.Ex.unaryOperator env (String.ofList op.sym.text) = some (genUn op env)) ∧
    (∀ t : String, (∀ op : BinOp, t ≠ String.ofList op.sym.text) → Gen.Ex.binaryOperator env t = none) := by
  refine ⟨(operator_table env).1, (operator_table env).2, fun t ht => ?_⟩
  have h := fun op => ht op
  have e : ∀ (op : BinOp) (lit : String), String.ofList op.sym.text = lit → t ≠ lit := fun op lit hl => hl ▸ h op
  unfold Gen.Ex.binaryOperator
  simp only [e .lor "||" rfl, e .land "&&" rfl, e .eq "==" rfl, e .ne "!=" rfl, e .le "<=" rfl, e .ge ">=" rfl, e .lt "<" rfl,
    e .gt ">" rfl, e .bor "|" rfl, e .bxor "^" rfl, e .band "&" rfl, e .add "+" rfl, e .sub "-" rfl, e .mul "*" rfl, e .div "/" rfl,
    e .mod "%" rfl, e .pow "**" rfl, ↓reduceIte]

example (env : Py.Env) : Gen.Ex.binaryOperator env "**" = some (Gen.Ex.power env) := rfl

/-- Unary `+`, `-`, `!`. -/
theorem C04.gen_unary_agree (env : Py.Env) (op : UnOp) (oa : Obj) (a : Val) (ha : Abs nfc oa a) :
    Agree nfc (genUn op env oa) (evalUn op a) := gen_evalUn' nfc env op oa a ha

/-- every error of the model that the operators can produce is, in the generated code, an `InvalidDefinitionError` of
    `_any.py` (`UndefinedOperatorError`, `UndefinedAttributeError` or their base `InvalidOperandError`) -/
theorem C04.gen_invalid_is_invalid (k : InvKind) : isInvalidDefinition (excOf (.invalid k)) = true := by
  cases k <;> rfl

/-- **Definedness.**  On values satisfying the set invariant and integral exponents, a generated operator returns a value
    exactly for the operand combinations of the table (`Ex.defined`: Appendix E of DESIGN.md), and raises an
    `InvalidDefinitionError` for every other combination: type mismatches, division and modulo by zero, non-integral bitwise
    operands, sets of different element types, empty results. -/
theorem C04.gen_defined (hl : NfcLaws nfc) (op : BinOp) (oa ob : Obj) (a b : Val) (ha : Abs nfc oa a) (hb : Abs nfc ob b)
    (hwa : a.wf) (hwb : b.wf) (hexp : intExpV op b) :
    ((∃ o, genBin op (Gen.Ex.env nfc (n + 1)) oa ob = .ok o) ↔ Ex.defined op a b) ∧
    (∀ e, genBin op (Gen.Ex.env nfc (n + 1)) oa ob = .error e → isInvalidDefinition e = true) := by
  have hag := gen_evalBin nfc n hl op oa ob a b ha hb
  have hdef := @C04.defined ⟨nfc⟩ op a b hwa hwb hexp
  cases hm : @evalBin ⟨nfc⟩ op a b with
  | ok v =>
    rw [hm] at hag
    obtain ⟨o, ho, _⟩ := hag
    refine ⟨⟨fun _ => hdef.1.mp ⟨v, hm⟩, fun _ => ⟨o, ho⟩⟩, ?_⟩
    intro e he; rw [ho] at he; cases he
  | error e =>
    rw [hm] at hag
    have hg : genBin op (Gen.Ex.env nfc (n + 1)) oa ob = .error (excOf e) := hag
    obtain ⟨k, rfl⟩ := hdef.2 e hm
    refine ⟨⟨fun ⟨o, ho⟩ => (by rw [hg] at ho; cases ho), fun hd => ?_⟩, ?_⟩
    · obtain ⟨v, hv⟩ := hdef.1.mpr hd
      rw [hm] at hv; cases hv
    · intro e' he'
      rw [hg] at he'
      cases he'
      exact C04.gen_invalid_is_invalid k

example : ∃ e, Gen.Ex.add (Gen.Ex.env id 1) (ratObj 1) (strObj []) = .error e ∧ isInvalidDefinition e = true := by
  have h := C04.gen_defined id 0 nfcLaws_id .add (ratObj 1) (strObj []) (.rat 1) (.str []) (Abs.sc _) (Abs.sc _) trivial trivial
    (by intro h; cases h)
  have hnd : ¬ Ex.defined .add (.rat 1) (.str []) := by simp [Ex.defined, definedSc]
  cases hg : Gen.Ex.add (Gen.Ex.env id 1) (ratObj 1) (strObj []) with
  | ok o => exact absurd (h.1.mp ⟨o, hg⟩) hnd
  | error e => exact ⟨e, rfl, h.2 e hg⟩

/-! ## sets -/

local notation "env1" => Gen.Ex.env nfc (n + 1)
local notation "normS" => @normSc (StrNorm.mk nfc)

/-- Set algebra: the result of `|`, `&`, `^` on two `Set`s denotes the union, the intersection, the symmetric difference of
    the element sets (elements identified by their normal forms). -/
theorem C04.gen_sets_algebra (hl : NfcLaws nfc) (ra rb : List Scalar) (ha : ra ≠ []) (hb : rb ≠ []) (o : Obj) :
    (Gen.Ex.bitwise_or env1 (setObj ra) (setObj rb) = .ok o →
      ∃ r, Abs nfc o (.set r) ∧ ∀ x, x ∈ r ↔ x ∈ ra.map normS ∨ x ∈ rb.map normS) ∧
    (Gen.Ex.bitwise_and env1 (setObj ra) (setObj rb) = .ok o →
      ∃ r, Abs nfc o (.set r) ∧ ∀ x, x ∈ r ↔ x ∈ ra.map normS ∧ x ∈ rb.map normS) ∧
    (Gen.Ex.bitwise_xor env1 (setObj ra) (setObj rb) = .ok o →
      ∃ r, Abs nfc o (.set r) ∧
        ∀ x, x ∈ r ↔ (x ∈ ra.map normS ∧ x ∉ rb.map normS) ∨ (x ∈ rb.map normS ∧ x ∉ ra.map normS)) := by
  have key : ∀ op : BinOp, (op = .bor ∨ op = .band ∨ op = .bxor) → genBin op env1 (setObj ra) (setObj rb) = .ok o →
      ∃ r, @evalBin ⟨nfc⟩ op (.set (ra.map normS)) (.set (rb.map normS)) = .ok (.set r) ∧ Abs nfc o (.set r) := by
    intro op hop h
    obtain ⟨v, hv, habs⟩ := agree_ok_inv nfc (gen_evalBin nfc n hl op _ _ _ _ (Abs.set ra ha) (Abs.set rb hb)) h
    have hv' : setSet op (ra.map normS) (rb.map normS) = .ok v := hv
    -- the model's result comes from `mkSetS`: it is a set
    have : ∃ r, v = .set r := by
      rcases hop with rfl | rfl | rfl <;>
      · simp only [setSet] at hv'
        split at hv'
        · cases hv'
        · exact ⟨_, ((mkSetS_ok_iff _ v).mp hv').2.2⟩
    obtain ⟨r, rfl⟩ := this
    exact ⟨r, hv, habs⟩
  refine ⟨fun h => ?_, fun h => ?_, fun h => ?_⟩
  · obtain ⟨r, hv, habs⟩ := key .bor (by simp) h
    exact ⟨r, habs, (@C04.sets_algebra ⟨nfc⟩ _ _ r).1 hv⟩
  · obtain ⟨r, hv, habs⟩ := key .band (by simp) h
    exact ⟨r, habs, (@C04.sets_algebra ⟨nfc⟩ _ _ r).2.1 hv⟩
  · obtain ⟨r, hv, habs⟩ := key .bxor (by simp) h
    exact ⟨r, habs, (@C04.sets_algebra ⟨nfc⟩ _ _ r).2.2 hv⟩

example : ∃ o, Gen.Ex.bitwise_xor (Gen.Ex.env id 1) (setObj [.rat 1, .rat 2]) (setObj [.rat 2, .rat 3]) = .ok o := by
  have := gen_evalBin id 0 nfcLaws_id .bxor _ _ _ _ (Abs.set [.rat 1, .rat 2] (by simp)) (Abs.set [.rat 2, .rat 3] (by simp))
  have hm : @evalBin StrNorm.plain .bxor (.set ([Scalar.rat 1, .rat 2].map (@normSc StrNorm.plain)))
      (.set ([Scalar.rat 2, .rat 3].map (@normSc StrNorm.plain))) = .ok (.set [.rat 1, .rat 3]) := by decide +kernel
  rw [hm] at this
  obtain ⟨o, ho, _⟩ := this
  exact ⟨o, ho⟩

/-- Set comparison: `==` / `!=` extensional equality, `<=` / `>=` sub- / superset, `<` / `>` proper sub- / superset of the
    element sets; sets of different element types are rejected with `InvalidOperandError`. -/
theorem C04.gen_sets_compare (ra rb : List Scalar) (ha : ra ≠ []) (hb : rb ≠ []) (op : BinOp)
    (hop : op = .eq ∨ op = .ne ∨ op = .le ∨ op = .ge ∨ op = .lt ∨ op = .gt) :
    (setKind ra ≠ setKind rb → genBin op env1 (setObj ra) (setObj rb) = .error .InvalidOperandError) ∧
    (setKind ra = setKind rb → ∃ r : Bool, genBin op env1 (setObj ra) (setObj rb) = .ok (boolObj r) ∧
      (op = .eq → (r = true ↔ ∀ x, x ∈ ra.map normS ↔ x ∈ rb.map normS)) ∧
      (op = .ne → (r = true ↔ ¬ ∀ x, x ∈ ra.map normS ↔ x ∈ rb.map normS)) ∧
      (op = .le → (r = true ↔ ∀ x ∈ ra.map normS, x ∈ rb.map normS)) ∧
      (op = .ge → (r = true ↔ ∀ x ∈ rb.map normS, x ∈ ra.map normS)) ∧
      (op = .lt → (r = true ↔ (∀ x ∈ ra.map normS, x ∈ rb.map normS) ∧ ¬ ∀ x, x ∈ ra.map normS ↔ x ∈ rb.map normS)) ∧
      (op = .gt → (r = true ↔ (∀ x ∈ rb.map normS, x ∈ ra.map normS) ∧ ¬ ∀ x, x ∈ ra.map normS ↔ x ∈ rb.map normS))) := by
  have hg := gen_set_cmp nfc n ra rb ha hb op hop
  constructor
  · intro hk
    have : (setKind ra != setKind rb) = true := by simpa using hk
    rw [hg]; unfold homoRes; rw [if_pos this]
  · intro hk
    have hk' : (setKind ra != setKind rb) = false := by simpa using hk
    refine ⟨cmpRes nfc op ra rb, ?_, ?_⟩
    · rw [hg]; unfold homoRes; simp only [hk', Bool.false_eq_true, ↓reduceIte]; rfl
    · have hm : @evalBin ⟨nfc⟩ op (.set (ra.map normS)) (.set (rb.map normS)) = .ok (.bool (cmpRes nfc op ra rb)) := by
        show setSet op (ra.map normS) (rb.map normS) = _
        rcases hop with rfl | rfl | rfl | rfl | rfl | rfl <;>
          simp only [setSet, setKind_map, hk', Bool.false_eq_true, ↓reduceIte, setEq, subsetL_map, cmpRes]
      exact @C04.sets_compare ⟨nfc⟩ op _ _ _ hm

example : genBin .le (Gen.Ex.env id 1) (setObj [.rat 1]) (setObj [.rat 2, .rat 1]) = .ok (boolObj true) := by
  obtain ⟨r, hr, _, _, hle, _⟩ := (C04.gen_sets_compare id 0 [.rat 1] [.rat 2, .rat 1] (by simp) (by simp) .le (by simp)).2 rfl
  have : r = true := (hle rfl).mpr (by simp [normSc])
  rw [hr, this]

/-- Element-wise application of the arithmetic operators with a primitive on either side, operand order preserved: the
    elements of the result are the (normal forms of the) results of the operator on the elements. -/
theorem C04.gen_sets_elementwise (hl : NfcLaws nfc) (op : BinOp) (raw : List Scalar) (hne : raw ≠ []) (c : Scalar) (o : Obj) :
    (genBin op env1 (setObj raw) (embS c) = .ok o →
      ∃ r, Abs nfc o (.set r) ∧ ∀ y, y ∈ r ↔ ∃ x ∈ raw.map normS, ∃ z, @scBin ⟨nfc⟩ op x c = .ok z ∧ y = normS z) ∧
    (genBin op env1 (embS c) (setObj raw) = .ok o →
      ∃ r, Abs nfc o (.set r) ∧ ∀ y, y ∈ r ↔ ∃ x ∈ raw.map normS, ∃ z, @scBin ⟨nfc⟩ op c x = .ok z ∧ y = normS z) := by
  -- a value of an element-wise operator comes from `mkSetS`: it is a set
  have isSet : ∀ (f : Scalar → R Scalar) (v : Val),
      (if op.isArith then (mapR f (raw.map normS)).bind mkSetS else inval .undefinedOp) = .ok v → ∃ r, v = .set r := by
    intro f v hm
    split at hm
    · cases hx : mapR f (raw.map normS) with
      | error e => rw [hx] at hm; cases hm
      | ok ys => rw [hx] at hm; exact ⟨_, ((mkSetS_ok_iff ys v).mp hm).2.2⟩
    · cases hm
  constructor
  · intro h
    obtain ⟨v, hv, habs⟩ := agree_ok_inv nfc (gen_evalBin nfc n hl op _ _ _ _ (Abs.set raw hne) (Abs.sc c)) h
    obtain ⟨r, rfl⟩ := isSet _ v hv
    exact ⟨r, habs, (@C04.sets_elementwise ⟨nfc⟩ op _ c r).1 hv⟩
  · intro h
    obtain ⟨v, hv, habs⟩ := agree_ok_inv nfc (gen_evalBin nfc n hl op _ _ _ _ (Abs.sc c) (Abs.set raw hne)) h
    obtain ⟨r, rfl⟩ := isSet _ v hv
    exact ⟨r, habs, (@C04.sets_elementwise ⟨nfc⟩ op _ c r).2 hv⟩

example : ∃ o, genBin .sub (Gen.Ex.env id 1) (ratObj 10) (setObj [.rat 1, .rat 2]) = .ok o ∧
    Abs id o (.set [.rat 9, .rat 8]) := by
  have := gen_evalBin id 0 nfcLaws_id .sub _ _ _ _ (Abs.sc (.rat 10)) (Abs.set [.rat 1, .rat 2] (by simp))
  have hm : @evalBin StrNorm.plain .sub (.sc (.rat 10)) (.set ([Scalar.rat 1, .rat 2].map (@normSc StrNorm.plain))) =
      .ok (.set [.rat 9, .rat 8]) := by decide +kernel
  rw [hm] at this
  exact this

/-- `.count` of a `Set` is the number of its elements; `.min` / `.max` of a `Set` of `Rational`s are its least / greatest
    element; any other attribute, and any attribute of a primitive, raises `UndefinedAttributeError`. -/
theorem C04.gen_sets_attributes (a : Rat) (l : List Scalar) (hl : ∀ x ∈ l, ∃ q, x = .rat q) :
    (∃ m : Rat, Gen.Ex.attribute env1 (setObj (.rat a :: l)) (nameObj "min") = .ok (ratObj m) ∧
        Scalar.rat m ∈ (Scalar.rat a :: l) ∧ ∀ q, Scalar.rat q ∈ (Scalar.rat a :: l) → m ≤ q) ∧
    (∃ m : Rat, Gen.Ex.attribute env1 (setObj (.rat a :: l)) (nameObj "max") = .ok (ratObj m) ∧
        Scalar.rat m ∈ (Scalar.rat a :: l) ∧ ∀ q, Scalar.rat q ∈ (Scalar.rat a :: l) → q ≤ m) ∧
    Gen.Ex.attribute env1 (setObj (.rat a :: l)) (nameObj "count") = .ok (ratObj ((l.length + 1 : Nat) : Rat)) := by
  have hnorm : ∀ x ∈ (Scalar.rat a :: l), normS x = x := by
    intro x hx
    rcases List.mem_cons.mp hx with rfl | h
    · rfl
    · obtain ⟨q, rfl⟩ := hl x h; rfl
  have hmap : (Scalar.rat a :: l).map normS = Scalar.rat a :: l := map_normS_id nfc _ hnorm
  have hag := fun name => gen_attr_set nfc n (.rat a :: l) (by simp) name (fun _ => hnorm)
  obtain ⟨⟨m1, h1, hm1, hle1⟩, ⟨m2, h2, hm2, hle2⟩, h3⟩ := @C04.sets_attributes ⟨nfc⟩ a l hl
  have conv : ∀ (name : String) (q : Rat), @evalAttr ⟨nfc⟩ (.set (.rat a :: l)) name = .ok (.rat q) →
      Gen.Ex.attribute env1 (setObj (.rat a :: l)) (nameObj name) = .ok (ratObj q) := by
    intro name q hq
    have := hag name
    rw [hmap, hq] at this
    obtain ⟨o, ho, habs⟩ := this
    rw [ho]
    cases habs with
    | sc s => rfl
  exact ⟨⟨m1, conv _ _ h1, hm1, hle1⟩, ⟨m2, conv _ _ h2, hm2, hle2⟩, conv _ _ h3⟩

example : ∃ m : Rat, Gen.Ex.attribute (Gen.Ex.env id 1) (setObj [.rat 3, .rat 1, .rat 2]) (nameObj "min") = .ok (ratObj m) ∧
    ∀ q, Scalar.rat q ∈ [Scalar.rat 3, .rat 1, .rat 2] → m ≤ q := by
  obtain ⟨m, h, _, hle⟩ := (C04.gen_sets_attributes id 0 3 [.rat 1, .rat 2] (by simp)).1
  exact ⟨m, h, hle⟩

/-- an unknown attribute of a set, and every attribute of a primitive, is `UndefinedAttributeError` -/
theorem C04.gen_attributes_undefined (raw : List Scalar) (hne : raw ≠ []) (s : Scalar) (name : String)
    (h1 : name ≠ "min") (h2 : name ≠ "max") (h3 : name ≠ "count") :
    Gen.Ex.attribute env1 (setObj raw) (nameObj name) = .error .UndefinedAttributeError ∧
    Gen.Ex.attribute env1 (embS s) (nameObj name) = .error .UndefinedAttributeError := by
  constructor
  · have := gen_attr_set nfc n raw hne name (by rintro (h | h) <;> contradiction)
    have hm : @evalAttr ⟨nfc⟩ (.set (raw.map normS)) name = inval .undefinedAttr := by
      unfold evalAttr
      split <;> first | rfl | exact absurd rfl h1 | exact absurd rfl h2 | exact absurd rfl h3
    rw [hm] at this
    exact this
  · exact attr_scalar nfc n s _

example : Gen.Ex.attribute (Gen.Ex.env id 1) (setObj [.rat 1]) (nameObj "size") = .error .UndefinedAttributeError :=
  (C04.gen_attributes_undefined id 0 [.rat 1] (by simp) (.rat 0) "size" (by decide) (by decide) (by decide)).1

/-- Set literals: an empty literal and a literal of mixed kinds are rejected (`InvalidOperandError`); otherwise `Set([...])`
    denotes the set of its elements, a string identified by its normal form. -/
theorem C04.gen_sets_literal (vs : List Scalar) :
    (vs = [] → Gen.Ex.Set.__new__ env1 (.list (vs.map embS)) = .error .InvalidOperandError) ∧
    ((∃ x ∈ vs, ∃ y ∈ vs, x.kind ≠ y.kind) → Gen.Ex.Set.__new__ env1 (.list (vs.map embS)) = .error .InvalidOperandError) ∧
    (vs ≠ [] → (∀ x ∈ vs, ∀ y ∈ vs, x.kind = y.kind) →
      ∃ o r, Gen.Ex.Set.__new__ env1 (.list (vs.map embS)) = .ok o ∧ Abs nfc o (.set r) ∧ ∀ x, x ∈ r ↔ ∃ y ∈ vs, x = normS y) := by
  have hag := gen_set_literal nfc n vs
  obtain ⟨l1, l2, l3⟩ := @C04.sets_literal ⟨nfc⟩ vs
  refine ⟨fun h => ?_, fun h => ?_, fun h1 h2 => ?_⟩
  · rw [l1 h] at hag; exact hag
  · rw [l2 h] at hag; exact hag
  · obtain ⟨r, hr, hmem⟩ := l3 h1 h2
    rw [hr] at hag
    obtain ⟨o, ho, habs⟩ := hag
    exact ⟨o, r, ho, habs, hmem⟩

example : Gen.Ex.Set.__new__ (Gen.Ex.env id 1) (.list ([Scalar.rat 1, .bool true].map embS)) = .error .InvalidOperandError :=
  (C04.gen_sets_literal id 0 [.rat 1, .bool true]).2.1 ⟨.rat 1, by simp, .bool true, by simp, by simp [Scalar.kind]⟩

end
