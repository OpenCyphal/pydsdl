import Proofs.WireCompleteDec
/-! C06 — the length set has no spurious element: every `L` with `HasLen T L` (= `L ∈ Layout.specLens T`, see
    `C06.length_set_is_layout_spec`; = the set denoted by the library's `bit_length_set`, see `C02`) is the bit
    length of a serialized representation.  Together with `C06.length` this makes the length set EXACTLY the set
    of lengths of the encodings of valid values. -/
open Wire

/-- Types without delimited members (at any depth; sealed composites, arrays, primitives): every element of the
    length set is the length of the encoding of some VALID value, at every aligned offset. -/
theorem C06.length_complete (t : Ty) (L o : Nat)
    (hw : t.wf = true) (hs : t.noDelim = true) (h : HasLen t L) (ho : o % t.align = 0) :
    ∃ v, valid t v = true ∧ (enc t v o).length = L :=
  enc_complete t L o hw hs h ho

/-- … hence, for such types, the length set is exactly the set of encoding lengths of valid values. -/
theorem C06.length_set_exact (t : Ty) (L o : Nat)
    (hw : t.wf = true) (hs : t.noDelim = true) (ho : o % t.align = 0) :
    HasLen t L ↔ ∃ v, valid t v = true ∧ (enc t v o).length = L :=
  ⟨fun h => enc_complete t L o hw hs h ho, fun ⟨v, hv, hl⟩ => hl ▸ enc_len t v o hw hv ho⟩

example : (Ty.struct [.uint 3 .trunc, .varr (.sint 5 .sat) 5, .void 2,
      .union [.bool, .float 16 .sat, .varr .utf8 4] .sealed, .farr (.struct [.bool] .sealed) 2] .sealed).wf = true ∧
    (Ty.struct [.uint 3 .trunc, .varr (.sint 5 .sat) 5, .void 2,
      .union [.bool, .float 16 .sat, .varr .utf8 4] .sealed, .farr (.struct [.bool] .sealed) 2] .sealed).noDelim = true := by
  decide +kernel

/-- A delimited type (structure or union) with extent `x`: every element `32 + 8k` of its length set is the length
    of the representation of a valid value of some conforming revision — a well-formed delimited structure with the
    same extent (no field for `k = 0`, else one array of `k` bytes).  The length set of a delimited type is by
    design the set of lengths of ALL its revisions, not of one of them. -/
theorem C06.length_complete_delimited (t : Ty) (L o : Nat)
    (hw : t.wf = true) (hd : t.isDelimited = true) (h : HasLen t L) :
    ∃ (x : Nat) (fs' : List Ty) (v : Val), t.maxLen = headerBits + x ∧
      (Ty.struct fs' (.delimited x)).wf = true ∧ valid (.struct fs' (.delimited x)) v = true ∧
      (enc (.struct fs' (.delimited x)) v o).length = L := by
  obtain ⟨k, hk, rfl⟩ := (hasLen_delimited hd).mp h
  obtain ⟨x, hx, h8, _, h32⟩ := extent_of_delimited hd hw
  rw [hx] at hk
  exact ⟨x, bytesRev k, bytesRevVal k, hx, bytesRev_wf x k h8 (Nat.le_of_add_le_add_left hk) h32,
    bytesRev_valid x k, bytesRev_len x k o⟩

example : (Ty.union [.uint 8 .sat, .varr .byte 5] (.delimited 64)).wf = true ∧
    HasLen (Ty.union [.uint 8 .sat, .varr .byte 5] (.delimited 64)) (32 + 8 * 3) := by
  refine ⟨by decide +kernel, ?_⟩
  simp only [HasLen]
  exact ⟨3, by decide, rfl⟩

/-- All well-formed types, delimited members at any depth included: every element `L` of the length set is the
    exact number of bits the type's own decoder consumes on some representation it accepts — there is an `L`-bit
    string `b` such that, whatever follows it, decoding succeeds with a valid value and stops right behind `b`
    (behind a delimiter header the witness is the representation a shorter / longer revision would have written). -/
theorem C06.length_complete_reader (t : Ty) (L o : Nat)
    (hw : t.wf = true) (h : HasLen t L) (ho : o % t.align = 0) :
    ∃ (b : List Bool) (v : Val), b.length = L ∧ valid t v = true ∧
      ∀ junk, dec t ⟨o, b ++ junk⟩ = .ok (v, ⟨o + L, junk⟩) := by
  obtain ⟨b, v, hl, hd⟩ := dec_consumes t L hw h o ho
  exact ⟨b, v, hl, dec_valid t _ v _ hw (hd []), hd⟩

example : (Ty.struct [.uint 3 .sat, .farr (.struct [.varr .utf8 9] (.delimited 128)) 2] .sealed).wf = true ∧
    HasLen (Ty.struct [.uint 3 .sat, .farr (.struct [.varr .utf8 9] (.delimited 128)) 2] .sealed) (8 + (32 + 0) + (32 + 8)) := by
  refine ⟨by decide +kernel, ?_⟩
  simp only [HasLen, FieldsLen, RepLen]
  exact ⟨80, ⟨3, rfl, 72, ⟨32, 32 + 8, ⟨0, by decide, rfl⟩, ⟨32 + 8, 0, ⟨1, by decide, rfl⟩, rfl, rfl⟩, rfl⟩, by decide⟩,
    by decide⟩

/-- The encoding is a prefix-free code on valid values (unique decodability): two representations of valid values
    of one type, each followed by anything, coincide as bit strings only if the values and the continuations coincide. -/
theorem C06.prefix_free (t : Ty) (v v' : Val) (o : Nat) (junk junk' : List Bool)
    (hw : t.wf = true) (hv : valid t v = true) (hv' : valid t v' = true) (ho : o % t.align = 0)
    (h : enc t v o ++ junk = enc t v' o ++ junk') : v = v' ∧ junk = junk' := by
  have h1 := dec_enc t v hw hv o junk ho
  have h2 := dec_enc t v' hw hv' o junk' ho
  rw [h, h2] at h1
  injection h1 with h1
  have := Prod.mk.inj h1
  exact ⟨this.1.symm, (R.mk.inj this.2).2.symm⟩

example : valid (Ty.varr (.uint 3 .sat) 4) (.arr [.int 1, .int 2]) = true ∧
    valid (Ty.varr (.uint 3 .sat) 4) (.arr [.int 1]) = true := by decide +kernel
