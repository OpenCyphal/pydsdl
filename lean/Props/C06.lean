import Proofs.WireInput
import Proofs.WireRev
/-! C06 — serialize/deserialize round trip and the wire format, on the model `Model/Wire.lean`
    (tied to pydsdl/_serdes.py by the correspondence suite `wire`). -/
open Wire

/-- A non-trivial instance used by the non-vacuity examples: nested sealed / delimited composites, a union,
    arrays, sub-byte fields, padding. -/
def C06.exT : Ty :=
  .struct [.uint 3 .trunc, .varr (.sint 5 .sat) 5, .void 2,
           .struct [.uint 16 .sat, .union [.bool, .float 16 .sat, .varr .utf8 4] .sealed] (.delimited 64),
           .farr (.struct [.bool] .sealed) 2] .sealed
def C06.exV : Val :=
  .recd [.int 5, .arr [.int (-16), .int 15], .unit,
         .recd [.int 65535, .var 2 (.arr [.int 0xC3, .int 0xA9])],
         .arr [.recd [.bool true], .recd [.bool false]]]

/-- Round trip with implicit truncation: decoding the encoding of a valid value, followed by anything, returns
    the value and stops exactly at the end of the encoding.  Holds at every offset that satisfies the type's
    alignment, hence for every nesting. -/
theorem C06.roundtrip (t : Ty) (v : Val) (o : Nat) (junk : List Bool)
    (hw : t.wf = true) (hv : valid t v = true) (ho : o % t.align = 0) :
    dec t ⟨o, enc t v o ++ junk⟩ = .ok (v, ⟨o + (enc t v o).length, junk⟩) :=
  dec_enc t v hw hv o junk ho

example : C06.exT.wf = true ∧ valid C06.exT C06.exV = true ∧ 16 % C06.exT.align = 0 := by decide +kernel

/-- The bit length of every encoding is an element of the type's length set, which is defined by recursion over
    the type (`HasLen`: concatenation with padding, repetition, ranged repetition, union; any whole number of
    bytes up to the extent behind the header of a delimited type) and not by the encoder. -/
theorem C06.length (t : Ty) (v : Val) (o : Nat)
    (hw : t.wf = true) (hv : valid t v = true) (ho : o % t.align = 0) :
    HasLen t (enc t v o).length :=
  enc_len t v o hw hv ho

example : C06.exT.wf = true ∧ valid C06.exT C06.exV = true := by decide +kernel

/-- Elements of the length set are multiples of the alignment and bounded by `maxLen` (= `bit_length_set.max`). -/
theorem C06.length_bounds (t : Ty) (L : Nat) (hw : t.wf = true) (h : HasLen t L) :
    L % t.align = 0 ∧ L ≤ t.maxLen :=
  ⟨hasLen_mod t L hw h, hasLen_le t L h⟩

example : HasLen (.varr (.uint 7 .sat) 3) (8 + 14) := by
  simp only [HasLen]
  exact ⟨2, 14, by decide, ⟨7, 7, rfl, ⟨7, 0, rfl, rfl, rfl⟩, rfl⟩, by decide⟩

/-- `serialize` then `deserialize` (same header flag, anything appended): whatever input `serialize` accepts —
    relaxed or explicit, out-of-range numbers, omitted fields — comes back as the canonical value it denotes. -/
theorem C06.serialize_roundtrip (t : Ty) (x : Inp) (hdr relaxed : Bool) (v : Val) (bits junk : List Bool)
    (hw : t.wf = true) (h : serialize t x hdr relaxed = .ok (v, bits)) :
    deserialize t (bits ++ junk) hdr = .ok v := by
  unfold serialize at h
  unfold deserialize
  split at h
  · cases h
  · rename_i hc
    obtain ⟨x', hcoerce, rfl⟩ :
        ∃ x', coerce t x' = .ok v ∧ bits = enc (if hdr = true then t else t.inner) v 0 := by
      cases relaxed
      all_goals
        simp only [Bool.false_eq_true, if_false, if_true, bind_ok] at h
        obtain ⟨x', _, w, hcoerce, hd⟩ := h
        cases hd
        exact ⟨x', hcoerce, rfl⟩
    have hv := coerce_valid t x' v hw hcoerce
    -- with the header the type itself is written and read, without it its sealed twin
    have hT : (if hdr = true then t else t.inner).wf = true ∧ valid (if hdr = true then t else t.inner) v = true := by
      cases hdr
      · exact ⟨wf_inner t hw, (valid_inner t v).trans hv⟩
      · exact ⟨hw, hv⟩
    simp only [hc, Bool.false_eq_true, if_false, bind_ok]
    exact ⟨_, dec_enc _ v hT.1 hT.2 0 junk (Nat.zero_mod _), rfl⟩

example : ∃ v bits, serialize C06.exT (.dict [(0, .int 13), (3, .dict [(1, .dict [(1, .flt 0x3C00)])])]) false false
    = .ok (v, bits) := ⟨_, _, rfl⟩

/-- Saturated unsigned fields clamp to `[0, 2^n - 1]`. -/
theorem C06.sat_unsigned (n : Nat) (i : Int) :
    coerce (.uint n .sat) (.int i)
      = .ok (.int (if i < 0 then 0 else if (2:Int)^n ≤ i then (2:Int)^n - 1 else i)) := by
  simp [coerce, Inp.num?, castU_sat]

/-- Truncated unsigned fields wrap: the stored value is the representative of `i` modulo `2^n` in `[0, 2^n)`. -/
theorem C06.trunc_unsigned (n : Nat) (i : Int) :
    ∃ w, coerce (.uint n .trunc) (.int i) = .ok (.int w) ∧ 0 ≤ w ∧ w < (2:Int)^n ∧ (w - i) % (2:Int)^n = 0 :=
  ⟨castU n .trunc i, by simp [coerce, Inp.num?], (castU_trunc_range n i).1, (castU_trunc_range n i).2,
    castU_trunc_congr n i⟩

/-- Saturated signed fields clamp to `[-2^(n-1), 2^(n-1) - 1]`. -/
theorem C06.sat_signed (n : Nat) (i : Int) :
    coerce (.sint n .sat) (.int i)
      = .ok (.int (if i < -((2:Int)^(n-1)) then -((2:Int)^(n-1))
                   else if (2:Int)^(n-1) ≤ i then (2:Int)^(n-1) - 1 else i)) := by
  simp [coerce, Inp.num?, castS_sat]

/-- Truncated signed fields (not constructible through pydsdl's public constructors, which reject the
    combination, but handled by `_serdes.py`): low `n` bits read as two's complement. -/
theorem C06.trunc_signed (n : Nat) (i : Int) (hn : 1 ≤ n) :
    ∃ w, coerce (.sint n .trunc) (.int i) = .ok (.int w) ∧ -((2:Int)^(n-1)) ≤ w ∧ w < (2:Int)^(n-1) ∧
      (w - i) % (2:Int)^n = 0 :=
  ⟨castS n .trunc i, by simp [coerce, Inp.num?], (castS_range n .trunc i hn).1, (castS_range n .trunc i hn).2,
    castS_trunc_congr n i⟩

example : coerce (.uint 3 .sat) (.int 9) = .ok (.int 7) ∧ coerce (.uint 3 .trunc) (.int 9) = .ok (.int 1) ∧
    coerce (.sint 3 .sat) (.int (-9)) = .ok (.int (-4)) := ⟨rfl, rfl, rfl⟩

/-- Structure fields omitted from the input dict take the default value of their type … -/
theorem C06.defaults (fs : List Ty) (m : Mode) (kvs : List (Nat × Inp)) (vs : List Val) (j : Nat) (t : Ty)
    (h : coerce (.struct fs m) (.dict kvs) = .ok (.recd vs)) (hj : fs[j]? = some t)
    (hk : lookupKey j kvs = none) : vs[j]? = some (dflt t) := by
  simp only [coerce] at h
  split at h
  · simp only [bind_ok] at h
    obtain ⟨ws, hws, hd⟩ := h
    cases hd
    exact coerceFields_omitted fs 0 kvs vs hws j t hj (by simpa using hk)
  · cases h

/-- … and the default value of a type is exactly what an all-zero representation decodes to: zero / false /
    empty array / first variant with its own default / delimited object with an empty payload. -/
theorem C06.default_is_zero (t : Ty) (hw : t.wf = true) (o k : Nat) :
    ∃ o' k', dec t ⟨o, zeros k⟩ = .ok (dflt t, ⟨o', zeros k'⟩) :=
  dec_zeros t hw o k

theorem C06.default_valid (t : Ty) (hw : t.wf = true) : valid t (dflt t) = true := dflt_valid t hw

example : coerce (.struct [.uint 8 .sat, .void 3, .varr .byte 4] .sealed) (.dict [(0, .int 300)])
    = .ok (.recd [.int 255, .unit, .arr []]) := rfl
