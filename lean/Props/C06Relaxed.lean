import Proofs.WireRelaxedFix
/-! C06 — relaxed input (`serialize(..., relaxed=True)`, `_normalize_relaxed_value`, model `Wire.normalize`).

Relaxed forms covered (these are all the forms `_normalize_relaxed_value` rewrites; everything else passes through):
  * structure given as a list / tuple of positional values for its non-padding fields (`C06.relaxed_positional`;
    for structures whose number of non-padding fields is not 1),
  * structure with exactly one non-padding field given as the bare value of that field — any non-dict value, or a
    non-empty dict that lacks the field's key (`C06.relaxed_bare`),
  * both forms nested to any depth inside dict values, union values and list elements (normalisation is entrywise /
    elementwise by definition; `C06.relaxed_explicit`, `C06.relaxed_idempotent` hold for whole values).
Not covered because it is outside the model: `str`/`bytes` leaves are not touched by normalisation. -/
open Wire

/-- Normalisation is idempotent: its output is an explicit form (a fixed point). -/
theorem C06.relaxed_idempotent (t : Ty) (x y : Inp) (h : normalize t x = .ok y) : normalize t y = .ok y :=
  normalize_idem t x y h

/-- Serialising a relaxed value is serialising its explicit form: if `y` is the normal form of `x`, then `x` in relaxed
    mode, `y` in strict mode and `y` in relaxed mode all give the same result (value and bits, or the same error). -/
theorem C06.relaxed_explicit (t : Ty) (x y : Inp) (hdr : Bool) (h : normalize t x = .ok y) :
    serialize t x hdr true = serialize t y hdr false ∧ serialize t y hdr true = serialize t y hdr false := by
  unfold serialize
  simp only [if_true, Bool.false_eq_true, if_false, h, normalize_idem t x y h]
  exact ⟨rfl, rfl⟩

/-- Relaxed mode is a conservative extension of strict mode: whatever strict mode accepts, relaxed mode accepts with
    the same result (dict keys distinct, as in every Python dict). -/
theorem C06.relaxed_conservative (t : Ty) (x : Inp) (hdr : Bool) (r : Val × List Bool)
    (hd : DistinctKeys t x) (h : serialize t x hdr false = .ok r) : serialize t x hdr true = .ok r := by
  unfold serialize at h ⊢
  split at h
  · cases h
  · rename_i hc
    simp only [hc]
    simp only [Bool.false_eq_true, if_false, bind_ok] at h
    obtain ⟨x', hx', v, hv, hr⟩ := h
    cases hx'
    have := normalize_strict t x v hd hv
    simp only [if_true, this, hv, bind, Except.bind]
    exact hr

/-- Positional form: a list of values for a structure is the dict that pairs them, in order, with the indices of
    the non-padding fields (`fields_except_padding`); longer lists are rejected. -/
theorem C06.relaxed_positional (fs : List Ty) (m : Mode) (xs : List Inp) (hdr : Bool)
    (hk : (nonPad fs 0).length ≠ 1) (hlen : xs.length ≤ (nonPad fs 0).length) :
    serialize (.struct fs m) (.list xs) hdr true
      = serialize (.struct fs m) (.dict (List.zip (nonPad fs 0) xs)) hdr true := by
  have hk' : ∀ k, nonPad fs 0 ≠ [k] := by
    intro k hc; rw [hc] at hk; exact hk rfl
  unfold serialize
  simp only [if_true, norm_positional fs m xs hk' hlen]

theorem C06.relaxed_positional_too_long (fs : List Ty) (m : Mode) (xs : List Inp)
    (hk : (nonPad fs 0).length ≠ 1) (hlen : (nonPad fs 0).length < xs.length) :
    normalize (.struct fs m) (.list xs) = .error .value := by
  have hk' : ∀ k, nonPad fs 0 ≠ [k] := by
    intro k hc; rw [hc] at hk; exact hk rfl
  rw [norm_struct_list fs m xs hk', if_pos hlen]

/-- Bare form: a structure with exactly one non-padding field `k` given as a value that is not a dict, or as a
    non-empty dict without the key `k`, is the dict `{k: value}`. -/
theorem C06.relaxed_bare (fs : List Ty) (m : Mode) (x : Inp) (k : Nat) (hdr : Bool) (hk : nonPad fs 0 = [k])
    (hx : (∀ kvs, x ≠ .dict kvs) ∨ ∃ kvs, x = .dict kvs ∧ (!kvs.isEmpty && !hasKey k kvs) = true) :
    serialize (.struct fs m) x hdr true = serialize (.struct fs m) (.dict [(k, x)]) hdr true := by
  unfold serialize
  simp only [if_true, norm_bare fs m x k hk hx]

/-! ### Non-vacuity: nested relaxed forms (positional inside bare inside a list) -/

def C06.rlxT : Ty :=
  .struct [.void 3, .varr (.struct [.uint 8 .sat, .void 4, .union [.bool, .struct [.sint 8 .sat] .sealed] .sealed] .sealed) 4] .sealed

-- one non-padding field (index 1) given bare as a list of positional structures; the union value holds a bare struct
def C06.rlxX : Inp := .list [.list [.int 7, .dict [(1, .int (-3))]], .list [.int 300]]
def C06.rlxY : Inp :=
  .dict [(1, .list [.dict [(0, .int 7), (2, .dict [(1, .dict [(0, .int (-3))])])], .dict [(0, .int 300)]])]

example : normalize C06.rlxT C06.rlxX = .ok C06.rlxY := rfl
example : ∃ r, serialize C06.rlxT C06.rlxX false true = .ok r ∧ serialize C06.rlxT C06.rlxY false false = .ok r :=
  ⟨_, rfl, rfl⟩
example : DistinctKeys C06.rlxT C06.rlxY := by
  simp only [C06.rlxT, C06.rlxY, DistinctKeys, DistinctKeysField, List.map_cons, List.map_nil, List.mem_cons,
    List.not_mem_nil, or_false, forall_eq_or_imp, forall_eq]
  simp
example : (nonPad [Ty.uint 8 .sat, .void 4, .bool] 0).length ≠ 1 ∧ nonPad [Ty.void 3, .bool] 0 = [1] := by decide
