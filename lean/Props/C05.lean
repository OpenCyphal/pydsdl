import Proofs.RulesMono
import Proofs.RulesCase
import Props.C02
/-!
C05 — a definition is accepted if and only if it obeys the static rules of DSDL.

`Rules.accept` (lean/Model/Rules.lean) is the model of the checks pydsdl performs on a definition whose expressions
are valid: type constructors, `check_name`, attribute constructors, the directive / marker handlers of the builder,
`CompositeType`/`UnionType`/`DelimitedType`/`ServiceType` constructors with the aggregation checks, the rejection of
non-serializable (service) types as attribute types, and the regulated
port-ID ranges.  `C05.Valid` is the conjunction of the named declarative rules (lean/Proofs/RulesSpec.lean).
-/
open Rules Rules.Spec

/-- what `finalize` has to find, stated on what the statements say (`summ`) -/
def C05.FinalValid (h : Header) (b : BState) : Prop :=
  VersionOk h.major h.minor ∧
  match b.done with
  | [] => SchemaValid (h.ns ++ [h.short]) b.deprecated b.cur ∧ PortOk h false
  | req :: _ =>
      SchemaValid (h.ns ++ [h.short] ++ ["Request"]) b.deprecated req ∧
      SchemaValid (h.ns ++ [h.short] ++ ["Response"]) b.deprecated b.cur ∧
      NameRule (h.ns ++ [h.short]) ∧ PortOk h true

/-- the version rule and the port rule, whichever kind of definition it is -/
theorem C05.FinalValid.version_port {h : Header} {b : BState} (hf : C05.FinalValid h b) :
    VersionOk h.major h.minor ∧ PortOk h (!b.done.isEmpty) := by
  obtain ⟨hv, hm⟩ := hf
  split at hm
  · next e => rw [e]; exact ⟨hv, hm.2⟩
  · next e => rw [e]; exact ⟨hv, hm.2.2.2⟩

/-- The static rules:
    * `statements`: every statement may stand where it stands (attribute rules: widths, capacities, names, constant type,
      no attribute after `@extent`; `@union` once and before the first attribute of its schema; `@deprecated` once, in the
      first schema, before the first attribute; at most one of `@sealed`/`@extent` per schema; at most one `---`);
    * `final`: version 0..255 and not 0.0; per schema: name syntax, reserved words and length of the full name, unique
      attribute names, void/utf8/byte placement and deprecation (through arrays), union arity, exactly one of
      `@sealed`/`@extent`, the extent a multiple of 8 not below the longest representation; fixed port-ID in range and, unless
      allowed, in the regulated range of the root namespace;
    * `noServiceField`: a service type is not a field type. -/
structure C05.Valid (d : Defn) : Prop where
  statements : ∀ pre st post, d.stmts = pre ++ st :: post → StmtOk pre st
  final : C05.FinalValid d.header (summ d.stmts)
  noServiceField : usesService (summ d.stmts) = false

theorem C05.finalOk_iff (h : Header) (b : BState) : finalOk h b = true ↔ C05.FinalValid h b := by
  unfold finalOk C05.FinalValid
  simp only [Bool.and_eq_true, versionOk_iff]
  cases b.done with
  | nil => simp [schemaOk_iff, portOk_iff]
  | cons req rest => simp [schemaOk_iff, portOk_iff, compositeNameOk_iff, and_assoc]

theorem C05.statements_iff (stmts : List RStmt) :
    Admissible [] stmts ↔ ∀ pre st post, stmts = pre ++ st :: post → StmtOk pre st := by
  rw [Admissible_iff]
  constructor
  · intro h pre st post e; have := h pre st post e; rw [List.nil_append, admissible_iff] at this; exact this
  · intro h a st b e; rw [List.nil_append, admissible_iff]; exact h a st b e

/-- accepted ⇔ every static rule holds -/
theorem C05.iff (d : Defn) : accept d = .ok ↔ C05.Valid d := by
  unfold accept
  constructor
  · intro h
    split at h
    · cases h
    · next b hb =>
      obtain ⟨hadm, rfl⟩ := (brun_init_iff d.stmts b).mp hb
      split at h
      · next hc =>
        rw [Bool.and_eq_true, Bool.not_eq_true'] at hc
        exact ⟨(C05.statements_iff d.stmts).mp hadm, (C05.finalOk_iff _ _).mp hc.1, hc.2⟩
      · cases h
  · intro hv
    rw [(brun_init_iff d.stmts _).mpr ⟨(C05.statements_iff d.stmts).mpr hv.statements, rfl⟩]
    simp [(C05.finalOk_iff _ _).mpr hv.final, hv.noServiceField]

/-- … and every rejection is an `InvalidDefinitionError`: a definition that breaks a rule is rejected -/
theorem C05.rejection (d : Defn) (h : ¬ C05.Valid d) : accept d = .invalid := by
  cases ha : accept d with
  | ok => exact absurd ((C05.iff d).mp ha) h
  | invalid => rfl

/-- every schema of a definition that obeys the rules obeys the schema rules (under the name it is checked with) -/
theorem C05.schemas_valid (d : Defn) (hv : C05.Valid d) (sc : RSchema) (hsc : sc ∈ (summ d.stmts).schemas) :
    ∃ comps, SchemaValid comps (summ d.stmts).deprecated sc := by
  obtain ⟨_, hf⟩ := hv.final
  simp only [BState.schemas, List.mem_append, List.mem_singleton] at hsc
  by_cases hm : d.stmts.contains .marker = true
  · have hd : (summ d.stmts).done = [segSummary (firstSeg d.stmts)] := by unfold summ; rw [if_pos hm]
    rw [hd] at hf hsc
    rcases hsc with hsc | rfl
    · simp only [List.mem_singleton] at hsc; subst hsc; exact ⟨_, hf.1⟩
    · exact ⟨_, hf.2.1⟩
  · have hd : (summ d.stmts).done = [] := by unfold summ; rw [if_neg hm]
    rw [hd] at hf hsc
    rcases hsc with hsc | rfl
    · cases hsc
    · exact ⟨_, hf.1⟩

/-! ### per-rule kernels, for all values -/

theorem C05.width_rule (s : Scalar) : s.ctorOk = true ↔ WidthOk s := Scalar.ctorOk_iff s
theorem C05.capacity_rule (t : Ty) : t.ctorOk = true ↔ TypeOk t := Ty.ctorOk_iff t
theorem C05.name_rule (s : String) : checkName s = true ↔ NameOk s := checkName_iff s
theorem C05.attribute_rule (st : RStmt) : attrCtorOk st = true ↔ AttrOk st := attrCtorOk_iff st
theorem C05.aggregation_rule (t : Ty) (union deprecated : Bool) :
    t.aggOk (if union then .union deprecated else .structure deprecated) = true ↔ PlaceOk t union deprecated :=
  Ty.aggOk_iff t union deprecated
theorem C05.unique_names_rule (names : List String) : namesUnique names = true ↔ (names.filter (· ≠ "")).Nodup :=
  namesUnique_iff names
theorem C05.version_rule (a b : Nat) : versionOk a b = true ↔ VersionOk a b := versionOk_iff a b
theorem C05.port_rule (h : Header) (service : Bool) : portOk h service = true ↔ PortOk h service := portOk_iff h service
theorem C05.schema_rule (comps : List String) (deprecated : Bool) (sc : RSchema) :
    schemaOk comps deprecated sc = true ↔ SchemaValid comps deprecated sc := schemaOk_iff comps deprecated sc
/-- the builder accepts a statement list exactly when every statement may stand where it stands, and then it has
    collected what the statements say -/
theorem C05.placement_rule (stmts : List RStmt) (b : BState) :
    brun BState.init stmts = some b ↔ (∀ pre st post, stmts = pre ++ st :: post → StmtOk pre st) ∧ b = summ stmts := by
  rw [brun_init_iff, C05.statements_iff]

namespace C05.Examples
def u8 : Ty := .scalar (.uint 8 .saturated)
def hdr : Header := ⟨["vendor", "node"], "Status", 1, 0, some 6144, false⟩
/-- `@deprecated`, `@union`, `uint8 a`, `vendor.X.1.0[<=2] b` (X deprecated), `float32 K = …`, `@extent 64`, `---`, `void3`, `utf8[<=9] s`, `@sealed` -/
def svc : Defn :=
  ⟨⟨["vendor", "node"], "GetStatus", 1, 0, some 256, false⟩,
   [.deprecated, .union, .field u8 "a", .field (.varArr (.comp ⟨true, false, 16⟩) 2) "b", .const (.scalar (.float 32 .saturated)) "K",
    .extent 64, .marker, .padding 3, .field (.varArr .utf8 9) "s", .sealed]⟩
/-- `dep.S.1.0 x`, `@sealed` where S is a service type -/
def serviceField : Defn := ⟨⟨["vendor"], "A", 1, 0, none, false⟩, [.field (.scalar (.comp ⟨false, true, 0⟩)) "x", .sealed]⟩

def dep16 : CompInfo := ⟨true, false, 16⟩
/-- the request schema of `svc`: `@union`, `uint8 a`, `vendor.X.1.0[<=2] b`, a constant, `@extent 64` -/
def req : RSchema :=
  ⟨[.field u8 "a", .field (.varArr (.comp dep16) 2) "b", .const (.scalar (.float 32 .saturated)) "K"], true, some (.extent 64)⟩
/-- the response schema of `svc`: `void3`, `utf8[<=9] s`, `@sealed` -/
def resp : RSchema := ⟨[.padding 3, .field (.varArr .utf8 9) "s"], false, some .sealed⟩

/-- the example service is accepted as written, and still with the smallest extent that covers its request (48 bits);
    one evaluation, the two definitions share all their names -/
theorem svc_accepted :
    accept svc = .ok ∧ accept { svc with stmts := svc.stmts.map fun s => if s = .extent 64 then .extent 48 else s } = .ok := by
  decide +kernel

theorem svc_schemas : (summ svc.stmts).schemas = [req, resp] := by decide +kernel
end C05.Examples

open C05.Examples in
/-- non-vacuity: a deprecated service with a union request (deprecated dependency through an array, extent exactly the
    longest representation 8 + 8 + 2*16 = 48 ≤ 64) and a structure response with padding and a string is valid -/
example : C05.Valid svc := (C05.iff svc).mp svc_accepted.1

open C05.Examples in
/-- both sides of boundaries: extent 40 is below the longest representation (48); port 255 is outside the vendor
    service range; version 0.0 -/
example : ¬ C05.Valid { svc with stmts := svc.stmts.map fun s => if s = .extent 64 then .extent 40 else s } ∧
    C05.Valid { svc with stmts := svc.stmts.map fun s => if s = .extent 64 then .extent 48 else s } ∧
    ¬ C05.Valid { svc with header := { svc.header with port := some 255 } } ∧
    ¬ C05.Valid { svc with header := { svc.header with major := 0, minor := 0 } } := by
  refine ⟨fun h => ?_, (C05.iff _).mp svc_accepted.2, fun h => ?_, fun h => ?_⟩
  · obtain ⟨_, hsv⟩ := C05.schemas_valid _ h { req with mode := some (.extent 40) } (by decide +kernel)
    exact absurd (hsv.longest_le rfl) (by decide)
  · exact absurd ((portOk_iff _ _).mpr h.final.version_port.2) (by decide)
  · exact absurd ((versionOk_iff _ _).mpr h.final.version_port.1) (by decide)

/-- reserved words and patterns in any letter case; near misses are allowed -/
example : ¬ NameOk "uInt7" ∧ ¬ NameOk "Bool" ∧ ¬ NameOk "Q1_2" ∧ ¬ NameOk "COM1" ∧ ¬ NameOk "_a_" ∧ ¬ NameOk "void" ∧ ¬ NameOk "9a" ∧ ¬ NameOk "" ∧
    NameOk "com10" ∧ NameOk "lpt" ∧ NameOk "q1_" ∧ NameOk "_a" ∧ NameOk "Bool1" ∧ NameOk "uintx" := by
  simp only [← checkName_iff, checkName_eq_chars, String.reduceToList]
  decide +kernel

open C05.Examples in
/-- a service type as a field type breaks a rule and is rejected -/
example : ¬ C05.Valid serviceField ∧ accept serviceField = .invalid :=
  have h : accept serviceField = .invalid := by decide +kernel
  ⟨fun hv => absurd (((C05.iff _).mpr hv).symm.trans h) nofun, h⟩


/-! ## The extent rule against the layout of C02 -/

/-! ### arithmetic kernels of the longest representation, for all values -/

/-- `padTo a x` (`pad_to_alignment`) is the least multiple of `a` that is not below `x` -/
theorem C05.padTo_spec (a x : Nat) (ha : 0 < a) :
    a ∣ padTo a x ∧ x ≤ padTo a x ∧ padTo a x < x + a ∧ ∀ m, a ∣ m → x ≤ m → padTo a x ≤ m :=
  Rules.padTo_spec a x ha

example : padTo 8 41 = 48 ∧ padTo 8 48 = 48 ∧ padTo 1 41 = 41 := by decide

/-- `bitLength n` (`int.bit_length()`) is the number of binary digits of `n` -/
theorem C05.bitLength_spec (n : Nat) : n < 2 ^ bitLength n ∧ (n ≠ 0 → 2 ^ (bitLength n - 1) ≤ n) :=
  Rules.bitLength_spec n

example : bitLength 0 = 0 ∧ bitLength 255 = 8 ∧ bitLength 256 = 9 := by decide

/-- for a width that fits 64 bits, `pow2ceil8 b` is the least power of two that is ≥ 8 and ≥ b -/
theorem C05.pow2ceil8_spec (b : Nat) (hb : b ≤ 64) :
    (∃ k, pow2ceil8 b = 2 ^ k) ∧ 8 ≤ pow2ceil8 b ∧ b ≤ pow2ceil8 b ∧
    ∀ k, 8 ≤ 2 ^ k → b ≤ 2 ^ k → pow2ceil8 b ≤ 2 ^ k :=
  Rules.pow2ceil8_spec b hb

example : pow2ceil8 0 = 8 ∧ pow2ceil8 9 = 16 ∧ pow2ceil8 33 = 64 := by decide

/-- the implicit length prefix / union tag before the alignment adjustment: for a capacity / variant index that fits
    64 bits, the smallest of the standard widths 8/16/32/64 whose unsigned range holds it -/
theorem C05.prefix_width_spec (cap : Nat) (h : cap < 2 ^ 64) :
    pow2ceil8 (bitLength cap) ∈ [8, 16, 32, 64] ∧ cap < 2 ^ pow2ceil8 (bitLength cap) ∧
    ∀ w ∈ [8, 16, 32, 64], cap < 2 ^ w → pow2ceil8 (bitLength cap) ≤ w :=
  Rules.pow2ceil8_bitLength_spec cap h

example : pow2ceil8 (bitLength 255) = 8 ∧ pow2ceil8 (bitLength 256) = 16 ∧ pow2ceil8 (bitLength (2 ^ 32)) = 64 := by decide

/-! ### the bridge -/

/-- The stand-in composite (a sealed structure of `maxBits / 8` bytes) interprets a reference faithfully whenever the
    recorded longest representation is a whole number of bytes — the hypotheses of the bridge are satisfiable. -/
theorem C05.standIn_faithful (i : CompInfo) (h : 8 ∣ i.maxBits) : Faithful standIn i := Rules.standIn_faithful i h

example : Faithful standIn ⟨true, false, 16⟩ ∧ Faithful standIn ⟨false, false, 0⟩ :=
  ⟨C05.standIn_faithful _ (by decide), C05.standIn_faithful _ (by decide)⟩

/-- **The number the extent rule compares against is the maximum of the length set of C02.**
    For every schema whose field types pass the constructor checks (widths, capacity ≥ 1), whose variable-length
    capacities fit the 64-bit length prefix, whose references are interpreted by any faithful `ρ`, and — for unions —
    that has 2 … 2^64 variants (`RSchema.LayoutOk`): the translated sealed composite is accepted by the layout
    constructors, `Spec.longest` is its `bit_length_set.max`, and that is the greatest element of the Specification's
    length set `specLens` (C02.bls_is_spec). -/
theorem C05.longest_is_layout_max (ρ : CompInfo → Layout.Ty) (sc : RSchema) (h : sc.LayoutOk ρ) :
    (sc.toLayout ρ).wf = true ∧ longest sc = (sc.toLayout ρ).bls.max ∧
    longest sc ∈ Layout.specLens (sc.toLayout ρ) ∧ ∀ l ∈ Layout.specLens (sc.toLayout ρ), l ≤ longest sc :=
  ⟨RSchema.toLayout_wf ρ sc h, longest_eq_bls_max ρ sc h, longest_is_greatest ρ sc h⟩

/-- The extent rule in declarative form: `longest ≤ e` says that every possible serialized length of the sealed
    composite (per the Specification, C02) fits the extent. -/
theorem C05.extent_rule (ρ : CompInfo → Layout.Ty) (sc : RSchema) (h : sc.LayoutOk ρ) (e : Int) :
    (longest sc : Int) ≤ e ↔ ∀ l ∈ Layout.specLens (sc.toLayout ρ), (l : Int) ≤ e := by
  obtain ⟨_, _, hmem, hmax⟩ := C05.longest_is_layout_max ρ sc h
  constructor
  · intro hle l hl
    exact Int.le_trans (Int.ofNat_le.mpr (hmax l hl)) hle
  · intro hall
    exact hall _ hmem

namespace C05.Examples
theorem req_layoutOk : req.LayoutOk standIn := by
  refine ⟨?_, fun _ => by decide⟩
  intro t ht
  have : t = u8 ∨ t = .varArr (.comp dep16) 2 := by
    have e : req.fieldTys = [u8, .varArr (.comp dep16) 2] := by decide
    simpa [e] using ht
  rcases this with rfl | rfl
  · exact ⟨⟨by decide, by decide⟩, trivial⟩
  · exact ⟨trivial, Rules.standIn_faithful _ (by decide), by decide, by decide⟩

theorem resp_layoutOk : resp.LayoutOk standIn := by
  refine ⟨?_, fun h => by cases h⟩
  intro t ht
  have : t = .scalar (.void 3) ∨ t = .varArr .utf8 9 := by
    have e : resp.fieldTys = [.scalar (.void 3), .varArr .utf8 9] := by decide
    simpa [e] using ht
  rcases this with rfl | rfl
  · exact ⟨⟨by decide, by decide⟩, trivial⟩
  · exact ⟨trivial, trivial, by decide, by decide⟩
end C05.Examples

open C05.Examples in
/-- non-vacuity: a union with a variable-length array of a referenced composite (tag 8 + prefix 8 + 2·16 = 48) and a
    structure with padding and a string (3 + prefix 8 + 9·8 = 83, padded to 88); the layout maxima are the same numbers -/
example : longest req = 48 ∧ (req.toLayout standIn).bls.max = 48 ∧ longest resp = 88 ∧ (resp.toLayout standIn).bls.max = 88 := by
  have h1 := (C05.longest_is_layout_max standIn req req_layoutOk).2.1
  have h2 := (C05.longest_is_layout_max standIn resp resp_layoutOk).2.1
  have e1 : longest req = 48 := by decide
  have e2 : longest resp = 88 := by decide
  exact ⟨e1, by rw [← h1, e1], e2, by rw [← h2, e2]⟩

open C05.Examples in
example : ((longest req : Int) ≤ 64 ↔ ∀ l ∈ Layout.specLens (req.toLayout standIn), (l : Int) ≤ 64) :=
  C05.extent_rule standIn req req_layoutOk 64

open C05.Examples in
example : req ∈ (summ svc.stmts).schemas ∧ resp ∈ (summ svc.stmts).schemas ∧ C05.Valid svc :=
  ⟨svc_schemas ▸ .head _, svc_schemas ▸ .tail _ (.head _), (C05.iff svc).mp svc_accepted.1⟩

/-- **End to end**: in every accepted definition, for every schema (request / response / message) whose references are
    interpreted faithfully and whose variant count fits 64 bits, the translated sealed
    composite is one the layout constructors accept, and the schema is either `@sealed` or carries an extent that is a
    whole number of bytes and is not below ANY serialized length the Specification (C02) gives that composite. -/
theorem C05.accepted_extent_covers_layout (d : Defn) (ha : accept d = .ok) (ρ : CompInfo → Layout.Ty) (sc : RSchema)
    (hsc : sc ∈ (summ d.stmts).schemas) (hfit : ∀ t ∈ sc.fieldTys, t.Fits ρ) (hlen : sc.fieldTys.length ≤ 2 ^ 64) :
    (sc.toLayout ρ).wf = true ∧
    (sc.mode = some .sealed ∨
      ∃ e, sc.mode = some (.extent e) ∧ e % 8 = 0 ∧ ∀ l ∈ Layout.specLens (sc.toLayout ρ), (l : Int) ≤ e) := by
  have hv := (C05.iff d).mp ha
  obtain ⟨comps, hsv⟩ := C05.schemas_valid d hv sc hsc
  have hok : sc.LayoutOk ρ :=
    RSchema.layoutOk_of ρ sc (schemas_typeOk hv.statements hsc) hfit hsv.unionArity hlen
  refine ⟨(C05.longest_is_layout_max ρ sc hok).1, ?_⟩
  rcases hsv.mode with hm | ⟨e, hm, h8, hle⟩
  · exact Or.inl hm
  · exact Or.inr ⟨e, hm, h8, (C05.extent_rule ρ sc hok e).mp hle⟩

open C05.Examples in
/-- non-vacuity on the service `svc`: its schemas are `req` and `resp`, all hypotheses hold with the stand-in
    interpretation -/
example : (summ svc.stmts).schemas = [req, resp] ∧ accept svc = .ok ∧
    (∀ t ∈ req.fieldTys, t.Fits standIn) ∧ (∀ t ∈ resp.fieldTys, t.Fits standIn) :=
  ⟨svc_schemas, svc_accepted.1, fun t ht => (req_layoutOk.fields t ht).fits, fun t ht => (resp_layoutOk.fields t ht).fits⟩

/-- The capacity of a variable-length array has to fit the widest length prefix: the rules model (`Ty.ctorOk`, like the
    real library: `UnsignedIntegerType(128)` → `InvalidBitLengthError`, an `InvalidDefinitionError`) accepts it exactly when
    the element type is legal and `1 ≤ cap < 2 ^ 64`; a fixed-length array has no prefix and no upper bound. -/
theorem C05.varArr_capacity_rule (e : Scalar) (cap : Int) :
    ((Ty.varArr e cap).ctorOk = true ↔ WidthOk e ∧ 1 ≤ cap ∧ cap < 2 ^ 64) ∧
    ((Ty.fixedArr e cap).ctorOk = true ↔ WidthOk e ∧ 1 ≤ cap) :=
  ⟨Ty.ctorOk_iff (.varArr e cap), Ty.ctorOk_iff (.fixedArr e cap)⟩

/-- … which is exactly when the length prefix `2 ** ceil(log2(max(8, bit_length(cap))))` has a legal unsigned width -/
theorem C05.varArr_capacity_prefix (cap : Nat) : pow2ceil8 (bitLength cap) ≤ 64 ↔ cap < 2 ^ 64 := by
  refine ⟨fun h => Nat.lt_of_not_le fun hc => ?_, pow2ceil8_le cap⟩
  have := pow2ceil8_bitLength_big cap hc
  omega

/-- both sides of the boundary, in the rules model and in the layout model of C02 -/
theorem C05.varArr_capacity_boundary :
    accept ⟨⟨["vendor"], "A", 1, 0, none, false⟩, [.field (.varArr (.uint 8 .saturated) (2 ^ 64)) "a", .sealed]⟩ = .invalid ∧
    (Layout.Ty.varr (.prim 8) (2 ^ 64)).wf = false ∧
    accept ⟨⟨["vendor"], "A", 1, 0, none, false⟩, [.field (.varArr (.uint 8 .saturated) (2 ^ 64 - 1)) "a", .sealed]⟩ = .ok ∧
    (Layout.Ty.varr (.prim 8) (2 ^ 64 - 1)).wf = true ∧
    accept ⟨⟨["vendor"], "A", 1, 0, none, false⟩, [.field (.fixedArr (.uint 8 .saturated) (2 ^ 70)) "a", .sealed]⟩ = .ok := by
  decide +kernel

/-- … and beyond 128 bits even the prefix widths of the two models differ (both far outside what is accepted) -/
example : pow2ceil8 (bitLength (2 ^ 128)) = 128 ∧ Layout.stdWidth (2 ^ 128) = 256 := by decide +kernel

/-! ## Letter case -/

/-- `lowerChar` is ASCII lower-casing: `A..Z` move by 32 code points, every other character (of all of Unicode) is
    unchanged -/
theorem C05.lowerChar_spec (c : Char) :
    (isUpper c = true → lowerChar c = Char.ofNat (c.toNat + 32)) ∧ (isUpper c = false → lowerChar c = c) :=
  Rules.lowerChar_spec c

example : lowerChar 'Q' = 'q' ∧ lowerChar 'q' = 'q' ∧ lowerChar '_' = '_' ∧ lowerChar 'İ' = 'İ' ∧ lowerChar '\u212A' = '\u212A' := by decide +kernel

/-- lowering is idempotent, so "reserved in any letter case" is a property of the lowered name alone -/
theorem C05.lower_idempotent (n : List Char) : lower (lower n) = lower n ∧ (Reserved (lower (lower n)) ↔ Reserved (lower n)) :=
  ⟨lower_idem n, by rw [lower_idem]⟩

example : lower "uInT8".toList = "uint8".toList ∧ Reserved (lower "uInT8".toList) :=
  ⟨by decide +kernel, (reserved_iff _).mp (by rw [reservedWords_any]; decide +kernel)⟩

/-- **`check_name` does not look at the letter case**: two names of the same length that agree position by position up
    to ASCII letter case get the same verdict, the same `NameOk`, and the same reservedness. -/
theorem C05.name_case_insensitive (a b : String) (h : sameUpToCase a.toList b.toList) :
    checkName a = checkName b ∧ (NameOk a ↔ NameOk b) ∧ (Reserved (lower a.toList) ↔ Reserved (lower b.toList)) :=
  ⟨checkName_sameUpToCase a b h, NameOk_sameUpToCase a b h, Reserved_sameUpToCase _ _ h⟩

example : sameUpToCase "OpTiOnAl".toList "optional".toList ∧ sameUpToCase "Abc_9".toList "aBC_9".toList ∧
    ¬ sameUpToCase "abc".toList "abd".toList := by
  simp only [sameUpToCase_iff]; decide +kernel

/-- … in particular writing ANY subset of the letters of a name in the other case (`recase p`, `p` selects positions)
    does not change the verdict -/
theorem C05.name_recase (p : Nat → Bool) (s : String) : checkName (String.ofList (recase p s.toList)) = checkName s :=
  checkName_recase p s

example : recase (fun i => i % 2 == 0) "uint8_x".toList = "UiNt8_X".toList ∧ checkName "uint8_x" = true := by
  simp only [checkName_eq_chars, String.reduceToList]
  decide +kernel

/-- the verdict of `check_name` is the character-set check plus the reserved words / patterns, both evaluated on the
    lowered name -/
theorem C05.name_factors_through_lower (s : String) : checkName s = checkName (String.ofList (lower s.toList)) :=
  checkName_eq_lower s

example : checkName "Bool" = false ∧ checkName (String.ofList (lower "Bool".toList)) = false ∧ checkName "Bool1" = true := by
  simp only [checkName_eq_chars, String.reduceToList, String.toList_ofList]
  decide +kernel

/-! ## Further rule kernels and monotonicity -/

/-- "a service type is not a field type", read on the schemas: no attribute type is a service type or an array of one -/
theorem C05.no_service_rule (b : BState) : usesService b = false ↔ ServiceFree b := usesService_eq_false_iff b

open C05.Examples in
example : ServiceFree (summ svc.stmts) ∧ ¬ ServiceFree (summ serviceField.stmts) :=
  ⟨(C05.no_service_rule _).mp (by decide +kernel), fun h => absurd ((C05.no_service_rule _).mpr h) (by decide +kernel)⟩

/-- the length of a full name is the components plus one separator between neighbours (the 255 limit counts this) -/
theorem C05.fullName_length (comps : List String) :
    (fullName comps).length = (comps.map String.length).sum + (comps.length - 1) := Rules.fullName_length comps

example : (fullName ["vendor", "node", "Status"]).length = 6 + 4 + 6 + 2 := by decide +kernel

/-- a larger extent (still a whole number of bytes) keeps a schema valid; a sealed schema stays valid with any
    byte-multiple extent that covers its longest representation; `@deprecated` on the enclosing type keeps it valid -/
theorem C05.schema_monotone (comps : List String) (sc : RSchema) :
    (∀ dep e e', SchemaValid comps dep { sc with mode := some (.extent e) } → e ≤ e' → e' % 8 = 0 →
      SchemaValid comps dep { sc with mode := some (.extent e') }) ∧
    (∀ dep e, SchemaValid comps dep { sc with mode := some .sealed } → (longest sc : Int) ≤ e → e % 8 = 0 →
      SchemaValid comps dep { sc with mode := some (.extent e) }) ∧
    (SchemaValid comps false sc → SchemaValid comps true sc) :=
  ⟨fun _ _ _ h hle h8 => h.extent_mono hle h8, fun _ _ h hle h8 => h.sealed_to_extent hle h8, fun h => h.deprecate⟩

open C05.Examples in
example : SchemaValid ["vendor", "node", "Status"] false { resp with mode := some (.extent 88) } ∧
    SchemaValid ["vendor", "node", "Status"] false { resp with mode := some .sealed } :=
  have h : SchemaValid ["vendor", "node", "Status"] false { resp with mode := some .sealed } :=
    (C05.schema_rule _ _ _).mp (by decide +kernel)
  ⟨h.sealed_to_extent (by decide) (by decide), h⟩

/-- appending a field never shortens the longest representation, for structures and for unions -/
theorem C05.longest_monotone (fs : List Ty) (t : Ty) :
    structMax fs ≤ structMax (fs ++ [t]) ∧ unionMax fs ≤ unionMax (fs ++ [t]) :=
  ⟨structMax_append fs t, unionMax_append fs t⟩

open C05.Examples in
example : structMax [u8] = 8 ∧ structMax ([u8] ++ [.scalar .bool]) = 16 ∧ unionMax [u8, u8] = 16 ∧
    unionMax ([u8, u8] ++ [.scalar .bool]) = 16 := by decide
