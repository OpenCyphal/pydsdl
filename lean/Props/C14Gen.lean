import Bridge.Codec
import Props.C06WireIO
import Props.C14Wire
/-!
# C14 (wire half) over the DESERIALIZER generated from `_serdes.py`

`Props/C14Wire.lean` proves on the model that data written with one revision of a delimited structure is read with another one
(fields appended / removed) such that common fields keep their values, fields unknown to the writer read as defaults, fields unknown
to the reader are skipped.  `Bridge/Codec.lean` proves that the `deserialize` generated from the working tree of /repo on every run
(`Gen/Codec.lean`) is the model's `deserialize` on every well-formed schema object.  Here the two are composed: the READER is the
generated code, applied to two schema objects that differ in trailing fields; the writer is the model's encoder `Wire.enc`
(the generated serializer is tied to it in `Props/C06Gen.lean`).
-/
open Py Bridge BitIO
open Wire (Ty Val)

theorem C14.tysOf_append (fs gs : List Obj) : tysOf (fs ++ gs) = tysOf fs ++ tysOf gs := by
  induction fs with
  | nil => simp only [tysOf, List.nil_append]
  | cons f fs ih => simp only [List.cons_append, tysOf, ih]

/-- the dict of the extended structure is the dict of the common fields extended by the entries of the added fields -/
theorem C14.structDict_append (fs gs : List Obj) (vs ws : List Val) (h : vs.length = fs.length) (acc : List (String × Value)) :
    structDict (fs ++ gs) (vs ++ ws) acc = structDict gs ws (structDict fs vs acc) := by
  induction fs generalizing vs acc with
  | nil =>
    cases vs with
    | nil => simp only [List.nil_append, structDict]
    | cons v vs => simp at h
  | cons f fs ih =>
    cases vs with
    | nil => simp at h
    | cons v vs =>
      have h' : vs.length = fs.length := Nat.succ.inj h
      by_cases hf : ∃ d n, f = .field d n
      · obtain ⟨d, n, rfl⟩ := hf
        rw [List.cons_append, List.cons_append, structDict, structDict, ih vs h']
      · -- anything but a `Field` is skipped together with its value
        have hf' : ∀ d n, f = .field d n → False := fun d n e => hf ⟨d, n, e⟩
        rw [List.cons_append, List.cons_append, structDict, structDict, ih vs h'] <;> exact hf'

/-- **Fields appended, old writer, new (generated) reader.**  `sOld` / `sNew` are two delimited structures (any extents, any
    names) whose field lists are `fs` and `fs ++ gs`.  For every value `vs` valid for the old type, every byte string that
    starts with the old type's representation of `vs` (delimiter header included) and continues with anything is decoded by the
    generated `deserialize` of the NEW type to the dict of the common fields -- the dict the old reader returns -- extended by
    the added fields with their default values. -/
theorem C14.gen_reads_appended (fs gs : List Obj) (a a' x x' : ℕ) (n n' : String) (h h' : Obj) (vs : List Val)
    (data junk : List ℕ)
    (hok : okT (.delimited (.structure (fs ++ gs) a' n') h' x' 8) = true)
    (hw : (Ty.struct (tysOf fs) (.delimited x)).wf = true)
    (hw' : (Ty.struct (tysOf (fs ++ gs)) (.delimited x')).wf = true)
    (hd : depth (.delimited (.structure (fs ++ gs) a' n') h' x' 8) ≤ Py.recursionLimit)
    (hv : Wire.valid (.struct (tysOf fs) (.delimited x)) (.recd vs) = true)
    (hb : IsBytes data) (hj : IsBytes junk)
    (henc : bytesToBits data = Wire.enc (.struct (tysOf fs) (.delimited x)) (.recd vs) 0) :
    Gen.Codec.deserialize (.delimited (.structure (fs ++ gs) a' n') h' x' 8) (data ++ junk) true =
      .ok (.dict (structDict gs (Wire.dfltFields (tysOf gs)) (structDict fs vs []))) := by
  have hty : tyOf (.delimited (.structure (fs ++ gs) a' n') h' x' 8) = .struct (tysOf (fs ++ gs)) (.delimited x') := by
    simp only [tyOf]
  rw [gen_deserialize _ hok rfl (by rw [hty]; exact hw') hd _ (isBytes_append hb hj) true,
    C07.deserialize_bytes _ _ _ (by rw [hty]; exact hw'), hty, bytesToBits_append, henc]
  have hlen : vs.length = fs.length := by
    have := Wire.validFields_length (tysOf fs) vs (by simpa [Wire.valid] using hv)
    rw [this, tysOf_length]
  have := C14.wire_appended (tysOf fs) (tysOf gs) x x' vs 0 (bytesToBits junk) hw (by rw [← C14.tysOf_append]; exact hw') hv
    (Nat.zero_mod _)
  simp only [Wire.deserialize, Wire.Ty.isDelimited, Bool.not_true, Bool.and_false, Bool.false_eq_true, if_false, if_true,
    C14.tysOf_append, this, bind, Except.bind, pure, Except.pure, liftTop, valueOf]
  rw [C14.structDict_append fs gs vs _ hlen]

/-- **Fields removed, new writer, old (generated) reader**: the old reader returns the dict of the fields it knows and skips
    the rest. -/
theorem C14.gen_reads_removed (fs gs : List Obj) (a x x' : ℕ) (n : String) (h : Obj) (vs ws : List Val) (data junk : List ℕ)
    (hok : okT (.delimited (.structure fs a n) h x' 8) = true)
    (hw : (Ty.struct (tysOf (fs ++ gs)) (.delimited x)).wf = true)
    (hw' : (Ty.struct (tysOf fs) (.delimited x')).wf = true)
    (hd : depth (.delimited (.structure fs a n) h x' 8) ≤ Py.recursionLimit)
    (hlen : vs.length = fs.length)
    (hv : Wire.valid (.struct (tysOf (fs ++ gs)) (.delimited x)) (.recd (vs ++ ws)) = true)
    (hb : IsBytes data) (hj : IsBytes junk)
    (henc : bytesToBits data = Wire.enc (.struct (tysOf (fs ++ gs)) (.delimited x)) (.recd (vs ++ ws)) 0) :
    Gen.Codec.deserialize (.delimited (.structure fs a n) h x' 8) (data ++ junk) true = .ok (.dict (structDict fs vs [])) := by
  have hty : tyOf (.delimited (.structure fs a n) h x' 8) = .struct (tysOf fs) (.delimited x') := by
    simp only [tyOf]
  rw [gen_deserialize _ hok rfl (by rw [hty]; exact hw') hd _ (isBytes_append hb hj) true,
    C07.deserialize_bytes _ _ _ (by rw [hty]; exact hw'), hty, bytesToBits_append, henc]
  rw [C14.tysOf_append] at hw hv ⊢
  have := C14.wire_removed (tysOf fs) (tysOf gs) x x' vs ws 0 (bytesToBits junk) hw (by rw [hlen, tysOf_length]) hv
    (Nat.zero_mod _)
  simp only [Wire.deserialize, Wire.Ty.isDelimited, Bool.not_true, Bool.and_false, Bool.false_eq_true, if_false, if_true,
    this, bind, Except.bind, pure, Except.pure, liftTop, valueOf]

/-- a structure that gains two fields -/
def C14.exOld : List Obj := [.field (.unsigned 3 .saturated) "a"]
def C14.exAdded : List Obj := [.field (.signed 16 .saturated) "b", .field (.varArray .utf8 3 (.unsigned 8 .truncated)) "c"]

example : okT (.delimited (.structure (C14.exOld ++ C14.exAdded) 8 "ns.D") (.unsigned 32 .truncated) 64 8) = true ∧
    (Ty.struct (tysOf C14.exOld) (.delimited 64)).wf = true ∧
    (Ty.struct (tysOf (C14.exOld ++ C14.exAdded)) (.delimited 64)).wf = true ∧
    Wire.valid (.struct (tysOf C14.exOld) (.delimited 64)) (.recd [.int 5]) = true ∧
    bytesToBits [1, 0, 0, 0, 5] = Wire.enc (.struct (tysOf C14.exOld) (.delimited 64)) (.recd [.int 5]) 0 := by decide +kernel
/-- evaluated: the old representation (header 1, one byte) followed by junk, read by the new type -/
example : Gen.Codec.deserialize (.delimited (.structure (C14.exOld ++ C14.exAdded) 8 "ns.D") (.unsigned 32 .truncated) 64 8)
    ([1, 0, 0, 0, 5] ++ [0xFF, 0xFF]) true = .ok (.dict [("a", .int 5), ("b", .int 0), ("c", .str [])]) :=
  sameOutcome_sound (by decide +kernel)
