import Proofs.BlsMinMax
import Model.Values
/-!
# C18 — model objects are immutable values with a sound equality / hash contract

The equality and hash functions of bit length sets, types, attributes and expression values are modelled by the
keys they inspect (Model/Values.lean, Model/Bls.lean).  Proved for all values: equality is reflexive and
symmetric, equal objects have equal hash keys, objects that differ in class, string form or in (min, max,
residues modulo 32) of their bit length set are unequal, and `BitLengthSet.__eq__` never reports two sets that
are equal (as mathematical sets) as different.  Aliasing of accessor results and pickling are runtime notions and
are covered by the `values` correspondence only.
-/
open scoped Pointwise
open Bls Values

theorem all_mem_self (l : List ℕ) : l.all (· ∈ l) = true := by
  simp [List.all_eq_true]

/-- `BitLengthSet.__eq__` is reflexive and symmetric. -/
theorem C18.bls_eq_refl_symm (a b : Op) : blsEq a a = true ∧ blsEq a b = blsEq b a := by
  constructor
  · simp [blsEq, all_mem_self]
  · simp only [blsEq]
    rw [Bool.eq_iff_iff]
    simp only [Bool.and_eq_true, beq_iff_eq]
    constructor <;> rintro ⟨⟨⟨h1, h2⟩, h3⟩, h4⟩ <;> exact ⟨⟨⟨h1.symm, h2.symm⟩, h4⟩, h3⟩

/-- Two expressions that denote the same set are never reported as different (the comparison may only err
    towards equality). -/
theorem C18.bls_eq_sound (a b : Op) (ha : a.wf = true) (hb : b.wf = true) (h : den a = den b) :
    blsEq a b = true := by
  obtain ⟨hmin, hmax⟩ := (minMax_exact a ha).unique (h ▸ minMax_exact b hb)
  have hm : (a.modulo 32).toFinset = (b.modulo 32).toFinset := by
    rw [Bls.modulo_exact a ha 32 (by omega), Bls.modulo_exact b hb 32 (by omega), h]
  simp only [blsEq, Bool.and_eq_true, beq_iff_eq, List.all_eq_true, decide_eq_true_eq]
  refine ⟨⟨⟨hmin, hmax⟩, ?_⟩, ?_⟩
  · intro x hx
    have : x ∈ (a.modulo 32).toFinset := by simpa using hx
    rw [hm] at this; simpa using this
  · intro x hx
    have : x ∈ (b.modulo 32).toFinset := by simpa using hx
    rw [← hm] at this; simpa using this

/-- Equal bit length sets have equal hashes (the hash looks at min and max only). -/
theorem C18.bls_hash_consistent (a b : Op) (h : blsEq a b = true) : blsHashKey a = blsHashKey b := by
  simp only [blsEq, Bool.and_eq_true, beq_iff_eq] at h
  simp [blsHashKey, h.1.1.1, h.1.1.2]

/-- `BitLengthSet.__eq__` tells apart sets that differ in minimum, maximum or residues modulo 32. -/
theorem C18.bls_eq_distinguishes (a b : Op)
    (h : a.min ≠ b.min ∨ a.max ≠ b.max ∨ (a.modulo 32).toFinset ≠ (b.modulo 32).toFinset) : blsEq a b = false := by
  rw [Bool.eq_false_iff]
  intro he
  simp only [blsEq, Bool.and_eq_true, beq_iff_eq, List.all_eq_true, decide_eq_true_eq] at he
  obtain ⟨⟨⟨h1, h2⟩, h3⟩, h4⟩ := he
  rcases h with h | h | h
  · exact h h1
  · exact h h2
  · apply h
    ext x
    simp only [List.mem_toFinset]
    exact ⟨h3 x, h4 x⟩

/-- Type equality: reflexive, symmetric, consistent with the hash, and it distinguishes class, string form and
    bit length set key. -/
theorem C18.type_eq_contract (a b : TyKey) :
    tyEq a a = true ∧ tyEq a b = tyEq b a ∧ (tyEq a b = true → tyHashKey a = tyHashKey b) ∧
    (a.cls ≠ b.cls ∨ a.str ≠ b.str ∨ blsEq a.bls b.bls = false → tyEq a b = false) := by
  refine ⟨?_, ?_, ?_, ?_⟩
  · simp [tyEq, (C18.bls_eq_refl_symm a.bls a.bls).1]
  · simp only [tyEq, (C18.bls_eq_refl_symm a.bls b.bls).2]
    rw [Bool.eq_iff_iff]
    simp only [Bool.and_eq_true, beq_iff_eq]
    constructor <;> rintro ⟨⟨h1, h2⟩, h3⟩ <;> exact ⟨⟨h1.symm, h2⟩, h3.symm⟩
  · intro h
    simp only [tyEq, Bool.and_eq_true, beq_iff_eq] at h
    have := C18.bls_hash_consistent _ _ h.1.2
    simp only [blsHashKey, Prod.mk.injEq] at this
    simp [tyHashKey, h.2, this.1, this.2]
  · intro h
    rw [Bool.eq_false_iff]
    intro he
    simp only [tyEq, Bool.and_eq_true, beq_iff_eq] at he
    rcases h with h | h | h
    · exact h he.1.1
    · exact h he.2
    · rw [he.1.2] at h; cases h

theorem prim_eq_refl (p : Prim) : p.eq p = true := by
  cases p <;> simp [Prim.eq]

theorem prim_eq_symm (p q : Prim) : p.eq q = q.eq p := by
  cases p <;> cases q <;> simp [Prim.eq, eq_comm]

/-- Expression values: equality is reflexive and symmetric (rationals compare by value, sets by content). -/
theorem C18.value_eq_refl_symm (x y : EVal) : x.eq x = true ∧ x.eq y = y.eq x := by
  constructor
  · cases x with
    | prim p => exact prim_eq_refl p
    | set xs =>
      simp only [EVal.eq, subsetOf, Bool.and_self, List.all_eq_true, List.any_eq_true]
      exact fun p hp => ⟨p, hp, prim_eq_refl p⟩
  · cases x <;> cases y <;> simp only [EVal.eq]
    · exact prim_eq_symm _ _
    · exact Bool.and_comm _ _

/-- Rational values written differently (2/4 and 1/2) are equal. -/
theorem C18.rational_eq_by_value (n : Int) (d k : ℕ) : (Prim.rat (n * k) (d * k)).eq (Prim.rat n d) = true := by
  simp only [Prim.eq, beq_iff_eq]
  push_cast
  ring

/-- Attributes: reflexive, symmetric. -/
theorem C18.attr_eq_refl_symm (a b : AttrKey) : attrEq a a = true ∧ attrEq a b = attrEq b a := by
  constructor
  · simp only [attrEq, (C18.type_eq_contract a.ty a.ty).1, beq_self_eq_true, Bool.true_and]
    cases a.value with
    | none => rfl
    | some v => exact (C18.value_eq_refl_symm v v).1
  · unfold attrEq
    rw [(C18.type_eq_contract a.ty b.ty).2.1]
    have hn : (a.name == b.name) = (b.name == a.name) := by
      rw [Bool.eq_iff_iff, beq_iff_eq, beq_iff_eq]; exact eq_comm
    rw [hn]
    congr 1
    cases a.value with
    | none => cases b.value <;> rfl
    | some x =>
      cases b.value with
      | none => rfl
      | some y => exact (C18.value_eq_refl_symm x y).2

/-! ### Non-vacuity -/
example : blsEq (.cat [.leaf [16], .uni [.leaf [8], .leaf [16, 24]]]) (.leaf [24, 32, 40]) = true := by decide +kernel
example : (Prim.rat 2 4).eq (Prim.rat 1 2) = true := by decide
