import Bridge.Reader
import Props.C17
/-!
# C17 over the line-number automaton generated from `_parser.py`, `_data_type_builder.py`, `_error.py`

`Gen/Reader.lean` is translated from the working tree of /repo on every run (see `Props/C03Gen.lean`); here: the line counter
(`visit_end_of_line`, the line breaks inside string literals), the line of the attribute statement that awaits its doc comment
(`_last_attribute_line_number`, set by the statement visitors, used by the handler of `_flush_comment`), the handler of `parse`
that attaches the current line only to an error that names no file yet, `Error.set_error_location_if_unknown`, and the line
number `on_directive` / the print handler receive.

Two kinds of statements: (1) facts about the generated code for EVERY instantiation of its opaque parts (no model involved):
the location rule, the line counter, "an attribute statement records its own line", "a failed lazy commit carries that line";
(2) the C17 theorems of `Props/C17.lean` restated over `genRead` (= `DSDLDefinition.read` with the generated `parse` in the middle),
through `Bridge.Rd.genRead_eq`.
-/
open Reader Gen.Reader Bridge.Rd
open Py hiding M Err

/-! ### (1) the generated code, for every instantiation -/

/-- **`Error.set_error_location_if_unknown`**: an entry that is already known (a path; a line other than 0) is left unchanged,
    an unknown one is filled in -- innermost first. -/
theorem C17.gen_location_rule {P : Type} (e : ErrorS P) (p : Option P) (l : Option Nat) :
    (Error.set_error_location_if_unknown p l : SM (ErrorS P) (Gen.Reader.Exc P) Unit).run e =
      (.ok (), { path := if e.path.isSome then e.path else p,
                 line := if truthyOptInt e.line then e.line else if truthyOptInt l then l else e.line }) :=
  run_set_location e p l

/-- **The line counter**: `visit_end_of_line` advances it by one plus the line breaks seen inside the string literals of the line
    and forgets those; nothing else changes. -/
theorem C17.gen_end_of_line {P T V A L H : Type} (en : Env P T V A H) (g : ParserS P T V A L H) :
    (ParseTreeProcessor.visit_end_of_line en).run g =
      (.ok (), { g with current_line_number := g.current_line_number + (1 + g.line_breaks_inside_literals),
                        line_breaks_inside_literals := 0 }) :=
  visit_end_of_line_run en g

/-- … and a string literal adds the number of its raw line breaks (the statement keeps the number of its first line). -/
theorem C17.gen_literal_line_breaks {P T V A L H : Type} (en : Env P T V A H) (g : ParserS P T V A L H) (t : Str) (v : V)
    (h : en.parse_string_literal t = .ok v) :
    (ParseTreeProcessor.visit_literal_string en t).run g =
      (.ok v, { g with line_breaks_inside_literals := g.line_breaks_inside_literals + t.count '\n' }) :=
  visit_literal_string_run en g t v h

/-- `_flush_comment` never moves the line counter, the recorded attribute line or the literal line-break count -/
theorem C17.gen_flush_keeps_lines {P T V A L H : Type} (en : Env P T V A H) (g : ParserS P T V A L H) :
    ((ParseTreeProcessor.flush_comment en).run g).2.current_line_number = g.current_line_number ∧
    ((ParseTreeProcessor.flush_comment en).run g).2.last_attribute_line_number = g.last_attribute_line_number :=
  ⟨(flush_comment_book en g).1, (flush_comment_book en g).2.1⟩

/-- **A field statement records its own line.**  When `visit_statement_field` returns, the field is queued (not committed:
    its doc comment is not known yet), `_last_attribute_line_number` is the line the visitor is on, the line counter has not moved. -/
theorem C17.gen_field_records_own_line {P T V A L H : Type} (en : Env P T V A H) (g g' : ParserS P T V A L H) (t : T) (name : Str)
    (h : (ParseTreeProcessor.visit_statement_field en t name).run g = (.ok (), g')) :
    g'.last_attribute_line_number = g.current_line_number ∧ g'.current_line_number = g.current_line_number ∧
      g'.statement_stream_processor.element_callback = some (.on_field t name) := by
  cases hn : name.isEmpty with
  | true => simp [ParseTreeProcessor.visit_statement_field, hn, py_helper] at h
  | false =>
    refine attr_statement_line en g g' (DataTypeBuilder.on_field en t name) _ rfl ?_
    simpa [ParseTreeProcessor.visit_statement_field, hn, py_helper] using h

/-- … a constant statement too … -/
theorem C17.gen_constant_records_own_line {P T V A L H : Type} (en : Env P T V A H) (g g' : ParserS P T V A L H) (t : T) (name : Str) (v : V)
    (h : (ParseTreeProcessor.visit_statement_constant en t name v).run g = (.ok (), g')) :
    g'.last_attribute_line_number = g.current_line_number ∧ g'.current_line_number = g.current_line_number ∧
      g'.statement_stream_processor.element_callback = some (.on_constant t name v) := by
  cases hn : name.isEmpty with
  | true => simp [ParseTreeProcessor.visit_statement_constant, hn, py_helper] at h
  | false =>
    refine attr_statement_line en g g' (DataTypeBuilder.on_constant en t name v) _ rfl ?_
    simpa [ParseTreeProcessor.visit_statement_constant, hn, py_helper] using h

/-- … and a padding statement. -/
theorem C17.gen_padding_records_own_line {P T V A L H : Type} (en : Env P T V A H) (g g' : ParserS P T V A L H) (t : T)
    (h : (ParseTreeProcessor.visit_statement_padding_field en t).run g = (.ok (), g')) :
    g'.last_attribute_line_number = g.current_line_number ∧ g'.current_line_number = g.current_line_number ∧
      g'.statement_stream_processor.element_callback = some (.on_padding_field t) := by
  refine attr_statement_line en g g' (DataTypeBuilder.on_padding_field en t) _ rfl ?_
  simpa [ParseTreeProcessor.visit_statement_padding_field, py_helper] using h

/-- **A failed lazy commit carries the recorded line of the attribute, not the line where it surfaces.**  If committing the
    queued attribute raises an `_error.Error` without a line, `_flush_comment` -- on whatever later line it runs: the first
    identifier of the next statement, the next statement visitor, an empty line, the end of the text -- re-raises it with
    `_last_attribute_line_number`; path and bookkeeping untouched.  With the three theorems above: with the attribute's OWN line. -/
theorem C17.gen_commit_error_line {P T V A L H : Type} (en : Env P T V A H) (g : ParserS P T V A L H) (e0 : ErrorS P)
    (b' : BuilderS P T V A L H) (hh : g.comment_is_header = false) (hl : truthyOptInt e0.line = false)
    (hla : g.last_attribute_line_number ≠ 0)
    (h : (DataTypeBuilder.on_attribute_comment en g.comment).run g.statement_stream_processor = (.error (.dsdl e0), b')) :
    (ParseTreeProcessor.flush_comment en).run g =
      (.error (.dsdl ⟨e0.path, some g.last_attribute_line_number⟩), { g with statement_stream_processor := b' }) :=
  flush_comment_commit_error en g e0 b' hh hl hla h

/-- **`@print` gets the line of its own statement**: the directive visitor passes the line counter to `on_directive`, and the
    print handler is called with exactly that number. -/
theorem C17.gen_print_line {P T V A L H : Type} (en : Env P T V A H) (b : BuilderS P T V A L H) (k : Nat) (v : Option V) :
    (DataTypeBuilder.on_directive en k "print".toList v).run b =
      (.ok (), { b with print_output_handler := en.call_print_output_handler b.print_output_handler k (strOfOpt en.str v) }) := by
  simp [DataTypeBuilder.on_directive, DataTypeBuilder.on_print_directive, py_helper]

/-! ### (2) the C17 theorems over `read` with the generated `parse` -/

/-- A failed read over the generated automaton reports the untouched error of a referenced definition, or the own path and no
    line (finalize), or the own path and the number of a line that holds a statement (or does not match the grammar). -/
theorem C17.gen_line (c : Ctx) (strict : Bool) (ls : List Line) (w w' : W) (e : Err) (hls : ∀ l ∈ ls, LineOk l)
    (h : genRead c strict ls w = .error (e, w')) :
    (∃ l ∈ ls, DepErr c l e) ∨ e = ⟨c.self, none⟩ ∨ ∃ n, e = ⟨c.self, some n⟩ ∧ n ∈ culpritLineNos 1 ls := by
  rw [genRead_eq c strict ls w hls] at h
  exact C17.line c ls w w' e h

/-- **The lazily committed attribute, end to end, over the generated automaton.**  The text is `pre`, the attribute statement `l`
    whose constructor will raise, statement-less lines `gap`, then nothing or a statement that does not fail before its first
    flush: the read fails with the own path and the number of `l`'s OWN line, whatever line the commit happens on, and nothing
    behind `l` has been delivered or read. -/
theorem C17.gen_commit_fault_line (c : Ctx) (strict : Bool) (w : W) (pre gap rest : List Line) (l : Line) (core : Core) (s0 s1 : St)
    (hls : ∀ x ∈ pre ++ l :: (gap ++ rest), LineOk x)
    (hsyn : ∀ x ∈ pre ++ l :: (gap ++ rest), x.fault ≠ some .syn)
    (hpre : runLines c 1 (St.init w) pre = .ok s0)
    (hvis : visitStmt c (lineAfter 1 pre) l (.attr core) s0 = .ok s1)
    (hl : l.stmt = some (.attr core)) (hbad : l.fault = some .commit)
    (hgap : ∀ x ∈ gap, x.stmt = none) (hrest : RestOk rest) :
    genRead c strict (pre ++ l :: (gap ++ rest)) w = .error (⟨c.self, some (lineAfter 1 pre)⟩, s1.w) := by
  rw [genRead_eq c strict _ w hls]
  exact C17.commit_fault_line c w pre gap rest l core s0 s1 hsyn hpre hvis hl hbad hgap hrest

/-- … the same for the commit that fails because the attribute is a field of a union whose `_offset_` was evaluated. -/
theorem C17.gen_commit_union_offset_line (c : Ctx) (strict : Bool) (w : W) (pre gap rest : List Line) (l : Line) (core : Core) (s0 s1 : St)
    (hls : ∀ x ∈ pre ++ l :: (gap ++ rest), LineOk x)
    (hsyn : ∀ x ∈ pre ++ l :: (gap ++ rest), x.fault ≠ some .syn)
    (hpre : runLines c 1 (St.init w) pre = .ok s0)
    (hvis : visitStmt c (lineAfter 1 pre) l (.attr core) s0 = .ok s1)
    (hl : l.stmt = some (.attr core)) (hk : core.kind ≠ .const) (hu : (s1.cur.union && s1.cur.offsetUsed) = true)
    (hgap : ∀ x ∈ gap, x.stmt = none) (hrest : RestOk rest) :
    genRead c strict (pre ++ l :: (gap ++ rest)) w = .error (⟨c.self, some (lineAfter 1 pre)⟩, s1.w) := by
  rw [genRead_eq c strict _ w hls]
  exact C17.commit_union_offset_line c w pre gap rest l core s0 s1 hsyn hpre hvis hl hk hu hgap hrest

/-- `@print` over the generated automaton: a definition without references that is read successfully delivers every `@print`
    exactly once, in source order, with its own line. -/
theorem C17.gen_print_once (c : Ctx) (strict : Bool) (ls : List Line) (w w' : W) (comp : Composite) (hls : ∀ l ∈ ls, LineOk l)
    (hd : ∀ l ∈ ls, l.deps = []) (h : genRead c strict ls w = .ok (comp, w')) :
    w'.prints = w.prints ++ specPrints c.printFile 1 ls := by
  rw [genRead_eq c strict ls w hls] at h
  exact C17.print_once_partial c ls w w' comp hd h

/-- … and a failed read has delivered exactly the `@print` statements in front of the reported line (none on a syntax error,
    all on a finalize error). -/
theorem C17.gen_prints_before_error (c : Ctx) (strict : Bool) (ls : List Line) (w w' : W) (e : Err) (hls : ∀ l ∈ ls, LineOk l)
    (hd : ∀ l ∈ ls, l.deps = []) (h : genRead c strict ls w = .error (e, w')) :
    e.file = c.self ∧ w'.cached = w.cached ∧
    (∀ k, firstSyntaxError 1 ls = some k → e.line = some k ∧ w' = w) ∧
    (firstSyntaxError 1 ls = none →
      (∀ n, e.line = some n → w'.prints = w.prints ++ specPrints c.printFile 1 (linesBefore n 1 ls)) ∧
      (e.line = none → w'.prints = w.prints ++ specPrints c.printFile 1 ls)) := by
  rw [genRead_eq c strict ls w hls] at h
  exact C17.prints_before_error c ls w w' e hd h

/-- why an error carries line `n`, over the generated automaton (the converse of `gen_commit_fault_line`) -/
theorem C17.gen_line_cause (c : Ctx) (strict : Bool) (ls : List Line) (w w' : W) (e : Err) (hls : ∀ l ∈ ls, LineOk l)
    (hsyn : firstSyntaxError 1 ls = none) (h : genRead c strict ls w = .error (e, w')) :
    (∃ l ∈ ls, DepErr c l e) ∨ e = ⟨c.self, none⟩ ∨ ∃ n, e = ⟨c.self, some n⟩ ∧ LineCause c w ls n w' := by
  rw [genRead_eq c strict ls w hls] at h
  exact C17.line_cause c ls w w' e hsyn h

namespace C17.GenExamples
open C17.Examples
/-- the generated `parse` on `uint8 a`, `uint8 _b_`, `# c1`, `# c2`, ``, ``, `@sealed`, `` -/
def runF5 : Res GParser GExc Unit := parse (env ctx) (ext ctx) (docEvents 1 f5) (ofB ctx (St.init W.init)) false
/-- … on `@print 1`, `uint8 _b_`, `# c`, `@print 2`, `@sealed` -/
def runPb1 : Res GParser GExc Unit := parse (env ctx) (ext ctx) (docEvents 1 pb1) (ofB ctx (St.init W.init)) false
/-- … on `@print 'a⏎b'` (two physical lines), `@assert false`, `@sealed` -/
def runMl : Res GParser GExc Unit := parse (env ctx) (ext ctx) (docEvents 1 ml) (ofB ctx (St.init W.init)) false
end C17.GenExamples

open C17.Examples C17.GenExamples in
/-- non-vacuity: the generated `parse` itself raises with the attribute's own line 2 although the commit happens while the
    visitor is on the empty line 5; with line 2 and only the first `@print` delivered when the commit happens at line 4; a failed
    assertion behind a statement that spans two physical lines is reported on line 3, with the own path -/
example : (∀ l ∈ f5, LineOk l) ∧ (∀ l ∈ pb1, LineOk l) ∧ (∀ l ∈ ml, LineOk l) ∧
    runF5.1 = .error (.dsdl ⟨none, some 2⟩) ∧ runF5.2.current_line_number = 5 ∧
    runPb1.1 = .error (.dsdl ⟨none, some 2⟩) ∧ runPb1.2.current_line_number = 4 ∧
    runPb1.2.statement_stream_processor.print_output_handler = [⟨0, 1, "1"⟩] ∧
    runMl.1 = .error (.dsdl ⟨some 0, some 3⟩) ∧
    errPart (genRead ctx false f5 W.init) = some (⟨0, some 2⟩, W.init) ∧
    errPart (genRead ctx false pb1 W.init) = some (⟨0, some 2⟩, ⟨[], [⟨0, 1, "1"⟩]⟩) := by
  decide +kernel

open C17.Examples in
/-- non-vacuity of `gen_commit_fault_line`: its hypotheses hold for the example of `Props/C17.lean` (all lines well formed) -/
example : (∀ x ∈ cfPre ++ cfL :: (cfGap ++ cfRest1), LineOk x) ∧ (∀ x ∈ cfPre ++ cfL :: (cfGap ++ cfRest2), LineOk x) ∧
    errPart (genRead ctx false (cfPre ++ cfL :: (cfGap ++ cfRest1)) W.init) = some (⟨0, some 2⟩, ⟨[], [⟨0, 1, "1"⟩]⟩) := by
  decide +kernel

open C17.Examples in
/-- non-vacuity of `gen_print_once`: two `@print`s delivered with lines 1 and 3 by the generated code -/
example : (∀ l ∈ pr, LineOk l) ∧ (okPart (genRead ctx false pr W.init)).map (·.2.prints) = some [⟨0, 1, "1"⟩, ⟨0, 3, "2"⟩] := by
  decide +kernel
