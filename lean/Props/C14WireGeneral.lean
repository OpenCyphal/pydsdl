import Proofs.WireCtxRt
/-! C14, wire half, general form — reader and writer may differ in ANY number of delimited structures at ANY
    positions at once (the one-hole statement `C14.wire` is the special case `Evolves (C.fill D) (C.fill D')`).

`Evolves t t'` (writer `t`, reader `t'`; `Proofs/WireEvolve.lean`) is the structural relation
  * primitives, `byte`, `utf8`, padding: identical;
  * arrays: same kind and capacity, element types related;
  * sealed structures: same number of fields, pairwise related;
  * delimited structures (any extents): pairwise related on the common prefix of the two field lists — either side
    may have further fields at the end (fields appended / removed), and the common fields may contain revised
    delimited members themselves;
  * unions of the same sealing and tag width: the reader may know further variants at the end; common variants related.
`adapt t t' v` is what the reader must see: common fields adapted recursively, fields unknown to the writer as their
defaults (= what an all-zero representation decodes to, `C14.unknown_fields_read_as_zero`), fields unknown to the
reader dropped. -/
open Wire

/-- The reader of `t'` decodes every representation written for `t` into the adapted value — a valid value of `t'` —
    and stops exactly where the writer's representation ends, at any aligned offset, whatever follows. -/
theorem C14.wire_general (t t' : Ty) (v : Val) (o : Nat) (junk : List Bool)
    (hw : t.wf = true) (hw' : t'.wf = true) (h : Evolves t t') (hv : valid t v = true) (ho : o % t.align = 0) :
    dec t' ⟨o, enc t v o ++ junk⟩ = .ok (adapt t t' v, ⟨o + (enc t v o).length, junk⟩) ∧
      valid t' (adapt t t' v) = true := by
  have h1 := evolve_rt t t' v hw hw' h hv o junk ho
  exact ⟨h1, dec_valid t' _ _ _ hw' h1⟩

/-- the relation contains: no change, … -/
theorem C14.evolves_refl (t : Ty) : Evolves t t := Wire.evolves_refl t

/-- … fields appended to a delimited structure whose common fields are (possibly) revised as well, … -/
theorem C14.evolves_appended (fs fs' gs : List Ty) (x x' : Nat) (h : EvolvesAll fs fs') :
    Evolves (.struct fs (.delimited x)) (.struct (fs' ++ gs) (.delimited x')) := by
  simp only [Evolves]; exact evolvesPrefix_append_right fs fs' gs h

/-- … fields removed, … -/
theorem C14.evolves_removed (fs fs' gs : List Ty) (x x' : Nat) (h : EvolvesAll fs fs') :
    Evolves (.struct (fs ++ gs) (.delimited x)) (.struct fs' (.delimited x')) := by
  simp only [Evolves]; exact evolvesPrefix_append_left fs fs' gs h

/-- … and any of these at any position of any container. -/
theorem C14.evolves_nested (C : Ctx) (X X' : Ty) (h : Evolves X X') : Evolves (C.fill X) (C.fill X') :=
  evolves_fill C X X' h

/-- the adapted value in the two basic steps: defaults appended / trailing fields dropped -/
theorem C14.adapt_appended (fs gs : List Ty) (x x' : Nat) (vs : List Val)
    (hw : wfFields fs = true) (hv : validFields fs vs = true) :
    adapt (.struct fs (.delimited x)) (.struct (fs ++ gs) (.delimited x')) (.recd vs)
      = .recd (vs ++ dfltFields gs) := by
  simp only [adapt, adaptFields_append_right fs gs vs hw hv]

theorem C14.adapt_removed (fs gs : List Ty) (x x' : Nat) (vs ws : List Val)
    (hw : wfFields fs = true) (hv : validFields fs vs = true) :
    adapt (.struct (fs ++ gs) (.delimited x)) (.struct fs (.delimited x')) (.recd (vs ++ ws)) = .recd vs := by
  simp only [adapt, adaptFields_append_left fs gs vs ws hw hv]

/-! ### Non-vacuity: two different revised types in one container, one of them revised inside a revised type -/

def C14.gW : Ty :=
  .struct [.struct [.uint 8 .sat] (.delimited 64),
           .varr (.struct [.uint 16 .sat, .struct [.bool] (.delimited 8), .bool] (.delimited 64)) 3,
           .uint 8 .sat] .sealed
def C14.gR : Ty :=
  .struct [.struct [.uint 8 .sat, .sint 16 .sat] (.delimited 64),
           .varr (.struct [.uint 16 .sat, .struct [.bool, .uint 3 .sat] (.delimited 8)] (.delimited 64)) 3,
           .uint 8 .sat] .sealed
def C14.gV : Val :=
  .recd [.recd [.int 200], .arr [.recd [.int 513, .recd [.bool true], .bool true], .recd [.int 7, .recd [.bool false], .bool false]],
         .int 77]

example : C14.gW.wf = true ∧ C14.gR.wf = true ∧ valid C14.gW C14.gV = true := by decide
example : Evolves C14.gW C14.gR := by
  simp only [C14.gW, C14.gR, Evolves, EvolvesAll, EvolvesPrefix, and_self]
example : adapt C14.gW C14.gR C14.gV =
    .recd [.recd [.int 200, .int 0],
           .arr [.recd [.int 513, .recd [.bool true, .int 0]], .recd [.int 7, .recd [.bool false, .int 0]]], .int 77] := by
  rfl
