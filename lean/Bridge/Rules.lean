import Gen.Rules
import Model.Rules
import Bridge.Basic
/-!
  Bridge for the constructor guards of `pydsdl/_serializable` (`Gen/Rules.lean`, rewritten from the working tree of /repo
  on every run): the `if …: raise` checks of `PrimitiveType`, `SignedIntegerType`, `VoidType`, `ArrayType`, `UnionType`
  and the version / fixed port-ID range checks of `CompositeType.__init__` accept exactly what the static rules of the
  model (`Model/Rules.lean`) accept.  `FloatType` (a dictionary lookup), the name checks (regular expressions) and the
  aggregation checks remain hand-modelled.
-/
set_option linter.unusedSimpArgs false
set_option linter.unnecessarySeqFocus false
open Rules

namespace Bridge
open Robust

@[simp] theorem throw_eq' {α : Type} (e : Py.Err) : (throw e : Py.M α) = Except.error e := rfl
@[simp] theorem error_bind' {α β : Type} (e : Py.Err) (f : α → Py.M β) : (Except.error e >>= f) = Except.error e := rfl

/-! Every guard is read as a boolean formula: `m = .ok () ↔ raises m = false`, and `raises` of a program built from `if`, `raise`, local
    helper functions and early returns is computed by `simp` (`raises_ite`, `raises_bind_unit`, …), whatever the nesting; the
    comparison with the rule is linear arithmetic (`omega`).  `↓`: a condition `decide p = true` becomes `p`, and `raises` is pushed
    through an `if`, before anything is rewritten inside `p` (a rewrite under `decide` would leave the `Decidable` instance behind).  The shape of the guards (one `if` or two, `not (1 <= n <= 64)`, a
    helper method) does not matter. -/
macro "guard_iff" "[" ts:Lean.Parser.Tactic.simpLemma,* "]" : tactic =>
  `(tactic| (rw [ok_iff_not_raises]; simp [↓decide_eq_true_eq, ↓raises_ite, $ts,*] <;> omega))

/-- unsigned integers, bool-like primitives: `PrimitiveType.__init__` accepts exactly the widths 1..64 -/
theorem primitive_check_iff (w : Nat) : Gen.PrimitiveType.check w = .ok () ↔ (1 ≤ w ∧ w ≤ 64) := by
  guard_iff [Gen.PrimitiveType.check]

theorem void_check_iff (w : Nat) : Gen.VoidType.check w = .ok () ↔ (1 ≤ w ∧ w ≤ 64) := by
  guard_iff [Gen.VoidType.check]

theorem signed_check_iff (w : Nat) (sat : Bool) : Gen.SignedIntegerType.check w sat = .ok () ↔ (2 ≤ w ∧ sat = true) := by
  cases sat <;> guard_iff [Gen.SignedIntegerType.check]

theorem array_check_iff (cap : Nat) : Gen.ArrayType.check cap = .ok () ↔ 1 ≤ cap := by
  guard_iff [Gen.ArrayType.check]

theorem union_check_iff (n : Nat) : Gen.UnionType.check n = .ok () ↔ 2 ≤ n := by
  guard_iff [Gen.UnionType.check]

/-- The constructor guards accept a scalar exactly when the model's `Scalar.ctorOk` does (floats: the width table is a
    dictionary lookup in the source and stays hand-modelled). -/
theorem uint_ctor (w : Nat) (c : Cast) : (Scalar.uint w c).ctorOk = true ↔ Gen.PrimitiveType.check w = .ok () := by
  rw [primitive_check_iff]; simp [Scalar.ctorOk]

theorem void_ctor (w : Nat) : (Scalar.void w).ctorOk = true ↔ Gen.VoidType.check w = .ok () := by
  rw [void_check_iff]; simp [Scalar.ctorOk]

theorem int_ctor (w : Nat) (c : Cast) :
    (Scalar.int w c).ctorOk = true ↔ (Gen.PrimitiveType.check w = .ok () ∧ Gen.SignedIntegerType.check w (c == .saturated) = .ok ()) := by
  rw [primitive_check_iff, signed_check_iff]
  cases c <;> simp [Scalar.ctorOk] <;> omega

/-- Run the guards under the facts `ts` about the parameters: by rewriting as far as the facts have the shape of the guards'
    atoms (all of them, on today's text); what is left - an atom written the other way round, `255 < major` for
    `¬ major ≤ 255` - is decided by linear arithmetic. -/
macro "run_guards" "[" ts:Lean.Parser.Tactic.simpLemma,* "]" : tactic =>
  `(tactic| (simp [versionOk, ↓decide_eq_true_eq, throw_err, err_bind, $ts,*] <;>
      simp (disch := omega) [versionOk, ↓decide_eq_true_eq, throw_err, err_bind, if_pos, if_neg, $ts,*]))

/-- The version and fixed port-ID checks of `CompositeType.__init__` with their exception classes: the version rule first
    (`InvalidVersionError`), then the port-ID range (`InvalidFixedPortIDError`).
    The atoms of the rule are decided one after the other and the generated guards are run under what is known so far: no
    dependence on their shape.  A broken atom of the version rule ends the run whatever the others say. -/
theorem version_port_classes (major minor : Nat) (srv : Bool) (pid : Option Nat) :
    Gen.CompositeType.check_version_and_port major minor srv pid =
      if versionOk major minor = true then
        (if ∀ p, pid = some p → (if srv then p ≤ 511 else p ≤ 8191) then .ok () else .error (.other "InvalidFixedPortIDError"))
      else .error (.other "InvalidVersionError") := by
  unfold Gen.CompositeType.check_version_and_port
  by_cases h1 : major ≤ 255
  · by_cases h2 : minor ≤ 255
    · by_cases h3 : 0 < major + minor
      · rcases pid with _ | p
        · run_guards [h1, h2, h3]
        · cases srv
          · by_cases hp : p ≤ 8191
            · run_guards [h1, h2, h3, hp, Nat.not_lt.mpr hp]
            · run_guards [h1, h2, h3, hp, Nat.lt_of_not_le hp]
          · by_cases hp : p ≤ 511
            · run_guards [h1, h2, h3, hp, Nat.not_lt.mpr hp]
            · run_guards [h1, h2, h3, hp, Nat.lt_of_not_le hp]
      · run_guards [h1, h2, h3]
    · run_guards [h1, h2]
  · run_guards [h1]

theorem version_port_iff (major minor : Nat) (srv : Bool) (pid : Option Nat) :
    Gen.CompositeType.check_version_and_port major minor srv pid = .ok () ↔
      (versionOk major minor = true ∧ ∀ p, pid = some p → (if srv then p ≤ 511 else p ≤ 8191)) := by
  rw [version_port_classes]
  by_cases hv : versionOk major minor = true
  · by_cases hp : ∀ p, pid = some p → (if srv then p ≤ 511 else p ≤ 8191)
    · rw [if_pos hv, if_pos hp]; exact iff_of_true rfl ⟨hv, hp⟩
    · rw [if_pos hv, if_neg hp]; exact iff_of_false nofun fun h => hp h.2
  · rw [if_neg hv]; exact iff_of_false nofun fun h => hv h.1

end Bridge
