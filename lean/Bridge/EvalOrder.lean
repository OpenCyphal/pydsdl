import PyLib
/-!
  Evaluation order for `simp` on translated programs.

  With the default congruence rules `simp` normalises the continuation `fun a => rest` of a bind before the statement in
  front of it has been reduced to a value, and both branches of an `if` before the condition is decided.  `rest` is then
  normalised once more after every substitution, and its side conditions are attempted while they still mention the
  bound variable, so the work grows with the square of the length of a straight-line program.  Under the two rules
  below `simp` runs a program the way Python does: the first statement, then what follows with its result.

  They are switched on per bridge module with `attribute [local congr]`.
-/
namespace Bridge

theorem bind_congr_head {α β : Type} {x x' : Py.M α} (f : α → Py.M β) (h : x = x') : (x >>= f) = (x' >>= f) := by
  rw [h]

theorem ite_congr_cond {α : Sort _} {c c' : Prop} [Decidable c] [Decidable c'] (a b : α) (h : c = c') :
    ite c a b = ite c' a b := by
  subst h; congr

end Bridge
