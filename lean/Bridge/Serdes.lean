import Bridge.Basic
import Gen.Serdes
import Model.BitIO
import Proofs.BitIOReader
/-!
  Bridge for the bit-level writer and reader of `pydsdl/_serdes.py` (`_BitWriter`, `_BitReader`), translated into
  `Gen/Serdes.lean` on every run.

  The generated code works on byte buffers (`List Nat`, every element below 256) and passes the object state explicitly;
  `Model/BitIO.lean` works on the list of the bits of the buffer, least significant bit of each byte first.  `bytesToBits` is
  the representation function; `toW` / `toRd` map a generated state to the model's state.

  * reader: for every state whose data are bytes and whose position is not before its start, every generated method returns
    normally and its result is the model's (`gen_read_bits`, `gen_reader_align_to`, `gen_bounded_subreader`,
    `gen_remaining_bits`), path by path: bit-wise loop = `slowRead`, byte-aligned branch = `fastRead`, limit logic = `readBits`;
  * writer: for every state whose buffer consists of bytes and whose position is not behind the end of the buffer
    (`WInv`; weaker than the model's invariant `W.ok`), `write_bits` / `align_to` return normally, keep `WInv`, and their result is
    the model's -- on all three buffer cases of the byte-aligned branch and on the bit-wise loop.
-/
set_option linter.unusedSimpArgs false
set_option linter.unusedVariables false
open BitIO

namespace Bridge

/-! ### Bytes as bits -/

/-- the bits of a byte buffer, least significant bit of each byte first -/
def bytesToBits (l : List Nat) : List Bool := l.flatMap (natBits 8)

/-- every element is a byte -/
def IsBytes (l : List Nat) : Prop := ∀ b ∈ l, b < 256

@[simp] theorem bytesToBits_nil : bytesToBits [] = [] := rfl

theorem bytesToBits_cons (a : Nat) (l : List Nat) : bytesToBits (a :: l) = natBits 8 a ++ bytesToBits l := by
  simp [bytesToBits]

theorem bytesToBits_append (a b : List Nat) : bytesToBits (a ++ b) = bytesToBits a ++ bytesToBits b := by
  simp [bytesToBits]

@[simp] theorem bytesToBits_length (l : List Nat) : (bytesToBits l).length = 8 * l.length := by
  induction l with
  | nil => rfl
  | cons a l ih => simp only [bytesToBits_cons, List.length_append, natBits_length, ih, List.length_cons]; omega

theorem bytesToBits_take (l : List Nat) (k : Nat) : bytesToBits (l.take k) = (bytesToBits l).take (8 * k) := by
  induction l generalizing k with
  | nil => simp
  | cons a l ih =>
    cases k with
    | zero => simp
    | succ k =>
      have h8 : 8 * (k + 1) = (natBits 8 a).length + 8 * k := by rw [natBits_length, Nat.mul_succ, Nat.add_comm]
      rw [List.take_succ_cons, bytesToBits_cons, bytesToBits_cons, ih, h8, List.take_length_add_append]

theorem bytesToBits_drop (l : List Nat) (k : Nat) : bytesToBits (l.drop k) = (bytesToBits l).drop (8 * k) := by
  induction l generalizing k with
  | nil => simp
  | cons a l ih =>
    cases k with
    | zero => simp
    | succ k =>
      have h8 : 8 * (k + 1) = (natBits 8 a).length + 8 * k := by rw [natBits_length, Nat.mul_succ, Nat.add_comm]
      rw [List.drop_succ_cons, bytesToBits_cons, ih, h8, List.drop_length_add_append]

theorem bytesToBits_replicate_zero (k : Nat) : bytesToBits (List.replicate k 0) = zeros (8 * k) := by
  induction k with
  | zero => rfl
  | succ k ih =>
    rw [List.replicate_succ, bytesToBits_cons, ih, natBits_zero_value]
    simp only [zeros, ← List.replicate_add]
    congr 1; omega

theorem bitAt_natBits (k a i : Nat) (h : i < k) : bitAt (natBits k a) i = a.testBit i := by
  rw [bitAt, List.getD_eq_getElem?_getD, List.getElem?_eq_getElem (by rw [natBits_length]; exact h)]
  simp only [natBits, List.getElem_map, List.getElem_range, Option.getD_some]

theorem bitAt_append (a b : List Bool) (p : Nat) :
    bitAt (a ++ b) p = if p < a.length then bitAt a p else bitAt b (p - a.length) := by
  simp only [bitAt, List.getD_eq_getElem?_getD, List.getElem?_append]
  split <;> rfl

/-- a bit of the buffer is a bit of one of its bytes -/
theorem bitAt_bytesToBits (l : List Nat) (p : Nat) :
    bitAt (bytesToBits l) p = (l.getD (p / 8) 0).testBit (p % 8) := by
  induction l generalizing p with
  | nil => simp [bitAt]
  | cons a l ih =>
    rw [bytesToBits_cons, bitAt_append, natBits_length]
    split
    · next hp => rw [bitAt_natBits 8 a p hp, Nat.div_eq_of_lt hp, Nat.mod_eq_of_lt hp, List.getD_cons_zero]
    · next hp =>
      obtain ⟨q, rfl⟩ : ∃ q, p = q + 8 := ⟨p - 8, by omega⟩
      rw [ih, Nat.add_sub_cancel, Nat.add_div_right q (by decide), Nat.add_mod_right, List.getD_cons_succ]

theorem ofBits_natBits (k a : Nat) : ofBits (natBits k a) = a % 2 ^ k := by
  induction k with
  | zero => simp [natBits, ofBits, Nat.mod_one]
  | succ k ih =>
    rw [natBits_succ, ofBits_append, ih, natBits_length]
    have h := Nat.toNat_testBit a k
    have hm : a % 2 ^ (k + 1) = a % 2 ^ k + 2 ^ k * (a / 2 ^ k % 2) := by
      rw [Nat.pow_succ, Nat.mod_mul]
    rw [hm, ← h]
    cases a.testBit k <;> simp [ofBits]

/-- `int.from_bytes(b, "little")` is the value of the bits of `b` -/
theorem ofBits_bytesToBits (l : List Nat) (h : IsBytes l) : ofBits (bytesToBits l) = Py.fromBytesLittle l := by
  induction l with
  | nil => rfl
  | cons a l ih =>
    have ha : a < 256 := h a (by simp)
    rw [bytesToBits_cons, ofBits_append, ofBits_natBits, natBits_length, ih (fun b hb => h b (by simp [hb])),
      Py.fromBytesLittle, Nat.mod_eq_of_lt (by simpa using ha)]
    rfl

theorem isBytes_take {l : List Nat} (h : IsBytes l) (k : Nat) : IsBytes (l.take k) :=
  fun b hb => h b (List.mem_of_mem_take hb)
theorem isBytes_drop {l : List Nat} (h : IsBytes l) (k : Nat) : IsBytes (l.drop k) :=
  fun b hb => h b (List.mem_of_mem_drop hb)
theorem isBytes_append {a b : List Nat} (ha : IsBytes a) (hb : IsBytes b) : IsBytes (a ++ b) := by
  intro x hx; rcases List.mem_append.mp hx with h | h
  · exact ha x h
  · exact hb x h
theorem isBytes_replicate_zero (k : Nat) : IsBytes (List.replicate k 0) := by
  intro x hx; rw [(List.mem_replicate.mp hx).2]; decide
theorem isBytes_zero : IsBytes [0] := isBytes_replicate_zero 1

/-! ### PyLib facts -/

theorem index_lt {l : List Nat} {i : Nat} (h : i < l.length) : Py.index l i = .ok l[i] := by
  unfold Py.index; rw [List.getElem?_eq_getElem h]; rfl

theorem divmod_pos {b : Nat} (hb : 0 < b) (a : Nat) : Py.divmod a b = .ok (a / b, a % b) := by
  unfold Py.divmod; rw [if_neg (by omega)]; rfl

def bitNat (b : Bool) : Nat := if b then 1 else 0

theorem shift_and_one (x k : Nat) : (x >>> k) &&& 1 = bitNat (x.testBit k) := by
  rw [Nat.and_one_is_mod, Nat.shiftRight_eq_div_pow, ← Nat.toNat_testBit]; cases x.testBit k <;> rfl

/-- accumulating bits with `result |= bit << i` builds the value of the bit list -/
theorem foldl_or_bits (b : Nat → Bool) (n : Nat) :
    (List.range n).foldl (fun s i => s ||| bitNat (b i) <<< i) 0 = ofBits ((List.range n).map b) := by
  induction n with
  | zero => rfl
  | succ n ih =>
    rw [List.range_succ, List.foldl_append, ih, List.map_append, ofBits_append]
    simp only [List.foldl_cons, List.foldl_nil, List.map_cons, List.map_nil, List.length_map, List.length_range]
    have hlt := ofBits_lt ((List.range n).map b)
    simp only [List.length_map, List.length_range] at hlt
    rw [Nat.or_comm, ← Nat.shiftLeft_add_eq_or_of_lt hlt, Nat.shiftLeft_eq]
    cases b n <;> simp [bitNat, ofBits, Nat.add_comm, Nat.mul_comm]

/-! ### Reader -/

/-- the model's view of a generated reader state -/
def toRd (g : Gen.ReaderS) : Rd := ⟨bytesToBits g.data, g.start_offset, g.bit_offset, g.bit_limit⟩

/-- the same reader `n` bits further -/
def advance (g : Gen.ReaderS) (n : Nat) : Gen.ReaderS := { g with bit_offset := g.bit_offset + n }

/-- what the generated reader needs: the data are bytes, the position is not before the start of the (sub-)reader -/
def RdOk (g : Gen.ReaderS) : Prop := IsBytes g.data ∧ g.start_offset ≤ g.bit_offset

/-- the limit check at the head of `read_bits` lets the request through -/
def Thru (g : Gen.ReaderS) (n : Nat) : Prop :=
  ∀ lim, g.bit_limit = some lim →
    lim - (g.bit_offset - g.start_offset) ≠ 0 ∧ n ≤ lim - (g.bit_offset - g.start_offset)

theorem toRd_advance (g : Gen.ReaderS) (n : Nat) : toRd (advance g n) = { toRd g with off := g.bit_offset + n } := rfl

/-- the bit-wise loop of the generated `read_bits` is the model's -/
theorem read_loop (data : List Nat) (off n : Nat) (body : Nat → Nat → Py.M Nat)
    (hb : ∀ s i, body s i = (if decide ((off + i) / 8 < data.length) = true then do
              let t8 ← Py.index data ((off + i) / 8)
              pure (s ||| (t8 >>> ((off + i) % 8) &&& 1) <<< i)
            else pure (s ||| 0 <<< i))) :
    Py.forEach (Py.range n) 0 body = .ok (ofBits ((List.range n).map fun i => bitAt (bytesToBits data) (off + i))) := by
  rw [forEach_ok (Py.range n) 0 body (fun s i => s ||| bitNat (bitAt (bytesToBits data) (off + i)) <<< i), Py.range, foldl_or_bits]
  intro i _ s
  rw [hb, bitAt_bytesToBits]
  by_cases h : (off + i) / 8 < data.length
  · simp only [h, decide_true, if_true, index_lt h, ok_bind, pure_eq_ok, shift_and_one]
    rw [List.getD_eq_getElem?_getD, List.getElem?_eq_getElem h]; rfl
  · simp only [h, decide_false, Bool.false_eq_true, if_false, pure_eq_ok]
    rw [List.getD_eq_getElem?_getD, List.getElem?_eq_none (by omega)]
    simp [bitNat]

/-- the test for the byte-aligned branch, as one proposition -/
theorem alignedTest (o n : Nat) : (o % 8 == 0 && decide (n ≥ 8)) = decide (o % 8 = 0 ∧ n ≥ 8) := by
  rw [Bool.decide_and, beq_eq_decide]

/-- the two tests of the limit check fail for a request that passes it -/
theorem thru_tests {g : Gen.ReaderS} {n lim : Nat} (ht : Thru g n) (hl : g.bit_limit = some lim) :
    (Py.max0Sub lim (g.bit_offset - g.start_offset) == 0) = false ∧ ¬ n > Py.max0Sub lim (g.bit_offset - g.start_offset) :=
  ⟨beq_false_of_ne (ht lim hl).1, Nat.not_lt.mpr (ht lim hl).2⟩

theorem read_slow (fuel : Nat) (g : Gen.ReaderS) (n : Nat) (ht : Thru g n) (hs : g.start_offset ≤ g.bit_offset)
    (hf : ¬ (g.bit_offset % 8 = 0 ∧ n ≥ 8)) :
    Gen.BitReader.read_bits_rec (fuel + 1) g n = .ok ((slowRead (toRd g) n).1, advance g n) := by
  obtain ⟨data, start, off, limit⟩ := g
  have hloop := read_loop data off n
  rcases limit with _ | lim
  · simp only [Gen.BitReader.read_bits_rec, alignedTest, decide_eq_false hf, Bool.false_eq_true, ↓reduceIte]
    rw [hloop _ (fun s i => rfl)]
    rfl
  · simp only [Gen.BitReader.read_bits_rec, sub_le hs, ok_bind, (thru_tests ht rfl).1, decide_eq_false (thru_tests ht rfl).2,
      alignedTest, decide_eq_false hf, Bool.false_eq_true, ↓reduceIte]
    rw [hloop _ (fun s i => rfl)]
    rfl

theorem thru_step {g : Gen.ReaderS} {n : Nat} (ht : Thru g n) (hs : g.start_offset ≤ g.bit_offset) (hr : 0 < n % 8) :
    Thru (advance g (n / 8 * 8)) (n % 8) := by
  intro lim hl
  obtain ⟨_, hn⟩ := ht lim hl
  show lim - (g.bit_offset + n / 8 * 8 - g.start_offset) ≠ 0 ∧ n % 8 ≤ lim - (g.bit_offset + n / 8 * 8 - g.start_offset)
  rw [Nat.sub_add_comm hs, Nat.sub_add_eq]
  have hb : n % 8 ≤ lim - (g.bit_offset - g.start_offset) - n / 8 * 8 :=
    Nat.le_sub_of_add_le (by rw [Nat.mod_add_div']; exact hn)
  exact ⟨Nat.ne_of_gt (Nat.lt_of_lt_of_le hr hb), hb⟩

/-- the whole bytes of an aligned read as a number: the slice, padded with zero bytes where the data end early -/
def chunkValue (data : List Nat) (sb fb : Nat) : Nat :=
  Py.fromBytesLittle (Py.slice data sb (sb + fb) ++ List.replicate (fb - (Py.slice data sb (sb + fb)).length) 0)

theorem chunkValue_bits (data : List Nat) (hd : IsBytes data) (sb fb : Nat) :
    chunkValue data sb fb =
      ofBits (((bytesToBits data).drop (8 * sb)).take (8 * fb) ++
        zeros (8 * fb - (((bytesToBits data).drop (8 * sb)).take (8 * fb)).length)) := by
  have hc : IsBytes (Py.slice data sb (sb + fb)) := isBytes_drop (isBytes_take hd _) _
  have e : bytesToBits (Py.slice data sb (sb + fb)) = ((bytesToBits data).drop (8 * sb)).take (8 * fb) := by
    simp only [Py.slice, bytesToBits_drop, bytesToBits_take, List.drop_take]
    congr 1; omega
  have hl : (((bytesToBits data).drop (8 * sb)).take (8 * fb)).length = 8 * (Py.slice data sb (sb + fb)).length := by
    rw [← e, bytesToBits_length]
  rw [chunkValue, ← ofBits_bytesToBits _ (isBytes_append hc (isBytes_replicate_zero _)), bytesToBits_append,
    bytesToBits_replicate_zero, e, hl, Nat.mul_sub]

/-- the value of the model's aligned branch in terms of the byte chunk of the generated code -/
theorem fast_value (data : List Nat) (hd : IsBytes data) (start off n : Nat) (limit : Option Nat) :
    (fastRead ⟨bytesToBits data, start, off, limit⟩ n).1 =
      if n % 8 > 0 then
        chunkValue data (off / 8) (n / 8) ||| (slowRead ⟨bytesToBits data, start, off + n / 8 * 8, limit⟩ (n % 8)).1 <<< (n / 8 * 8)
      else chunkValue data (off / 8) (n / 8) := by
  simp only [fastRead, chunkValue_bits data hd, Nat.mul_comm 8 (n / 8)]
  split <;> rfl

theorem read_fast_aux (m : Nat) (g : Gen.ReaderS) (n : Nat)
    (hrec : ∀ g' k, Thru g' k → g'.start_offset ≤ g'.bit_offset → ¬ (g'.bit_offset % 8 = 0 ∧ k ≥ 8) →
      Gen.BitReader.read_bits_rec m g' k = .ok ((slowRead (toRd g') k).1, advance g' k))
    (ht : Thru g n) (hs : g.start_offset ≤ g.bit_offset)
    (hd : IsBytes g.data) (ha : g.bit_offset % 8 = 0) (hn8 : n ≥ 8) :
    Gen.BitReader.read_bits_rec (m + 1) g n = .ok ((fastRead (toRd g) n).1, advance g n) := by
  obtain ⟨data, start, off, limit⟩ := g
  -- the remaining bits are fewer than 8: the call of itself passes the limit check again and takes the bit-wise loop
  have hstep : 0 < n % 8 → Gen.BitReader.read_bits_rec m ⟨data, start, off + n / 8 * 8, limit⟩ (n % 8) =
      .ok ((slowRead ⟨bytesToBits data, start, off + n / 8 * 8, limit⟩ (n % 8)).1, ⟨data, start, off + n, limit⟩) := fun hr => by
    rw [hrec ⟨data, start, off + n / 8 * 8, limit⟩ (n % 8) (thru_step ht hs hr) (Nat.le_trans hs (Nat.le_add_right _ _))
      (fun h => absurd h.2 (Nat.not_le_of_gt (Nat.mod_lt n (by decide))))]
    simp only [toRd, advance, Nat.add_assoc, Nat.div_add_mod']
  -- one level of the generated code, whether or not the slice is short and whether or not there is a limit
  have hpre : Gen.BitReader.read_bits_rec (m + 1) ⟨data, start, off, limit⟩ n =
      if n % 8 > 0 then
        Gen.BitReader.read_bits_rec m ⟨data, start, off + n / 8 * 8, limit⟩ (n % 8) >>= fun p =>
          .ok (chunkValue data (off / 8) (n / 8) ||| p.1 <<< (n / 8 * 8), p.2)
      else .ok (chunkValue data (off / 8) (n / 8), ⟨data, start, off + n / 8 * 8, limit⟩) := by
    have hc : decide (off % 8 = 0 ∧ n ≥ 8) = true := decide_eq_true ⟨ha, hn8⟩
    have h1 := fun lim hl => (thru_tests ht (lim := lim) hl).1
    have h2 := fun lim hl => (thru_tests ht (lim := lim) hl).2
    by_cases hlen : (Py.slice data (off / 8) (off / 8 + n / 8)).length < n / 8
    · rcases limit with _ | lim <;>
        simp only [Gen.BitReader.read_bits_rec, sub_le hs, ok_bind, h1, h2, alignedTest, hc, divmod_pos (by decide : 0 < 8),
          hlen, sub_le (Nat.le_of_lt hlen), Py.bytesRepeat_zero_byte, chunkValue, pure_eq_ok, decide_eq_true_eq,
          Bool.false_eq_true, ↓reduceIte]
    · rcases limit with _ | lim <;>
        simp only [Gen.BitReader.read_bits_rec, sub_le hs, ok_bind, h1, h2, alignedTest, hc, divmod_pos (by decide : 0 < 8),
          hlen, chunkValue, Nat.sub_eq_zero_of_le (Nat.le_of_not_lt hlen), List.replicate_zero, List.append_nil,
          pure_eq_ok, decide_eq_true_eq, Bool.false_eq_true, ↓reduceIte]
  rw [hpre, toRd, fast_value data hd]
  by_cases hr : n % 8 > 0
  · rw [if_pos hr, if_pos hr, hstep hr]; rfl
  · rw [if_neg hr, if_neg hr, advance, Nat.div_mul_cancel (Nat.dvd_of_mod_eq_zero (Nat.eq_zero_of_not_pos hr))]

theorem read_raw (fuel : Nat) (g : Gen.ReaderS) (n : Nat) (ht : Thru g n) (hg : RdOk g) :
    Gen.BitReader.read_bits_rec (fuel + 2) g n = .ok ((rawRead (toRd g) n).1, advance g n) := by
  unfold rawRead
  by_cases hf : g.bit_offset % 8 = 0 ∧ n ≥ 8
  · rw [if_pos (show (toRd g).off % 8 = 0 ∧ n ≥ 8 from hf)]
    exact read_fast_aux (fuel + 1) g n (fun g' k => read_slow fuel g' k) ht hg.2 hg.1 hf.1 hf.2
  · rw [if_neg (show ¬ ((toRd g).off % 8 = 0 ∧ n ≥ 8) from hf)]
    exact read_slow (fuel + 1) g n ht hg.2 hf

/-- **`read_bits`**: for every reader whose data are bytes and whose position is not before its start, the generated
    `read_bits` (fuel ≥ 3) returns normally, with the model's value, the reader moved forward by `n`. -/
theorem read_full (fuel : Nat) (g : Gen.ReaderS) (n : Nat) (hg : RdOk g) :
    Gen.BitReader.read_bits_rec (fuel + 3) g n = .ok ((readBits (toRd g) n).1, advance g n) := by
  obtain ⟨data, start, off, limit⟩ := g
  have hs : start ≤ off := hg.2
  rcases limit with _ | lim
  · exact read_raw (fuel + 1) _ n (fun _ h => nomatch h) hg
  · by_cases h0 : lim - (off - start) = 0
    · rw [Gen.BitReader.read_bits_rec]
      simp only [sub_le hs, ok_bind, Py.max0Sub, h0, beq_self_eq_true, ↓reduceIte, pure_eq_ok, readBits, toRd, advance]
    · by_cases hn : n > lim - (off - start)
      · -- the limit is crossed: the bits up to the limit are read by a call of itself, which passes the check
        have hr := read_raw fuel ⟨data, start, off, some lim⟩ (lim - (off - start))
          (fun _ h => by cases h; exact ⟨h0, Nat.le_refl _⟩) hg
        rw [Gen.BitReader.read_bits_rec]
        simp only [sub_le hs, ok_bind, Py.max0Sub, beq_false_of_ne h0, hn, decide_true, Bool.false_eq_true, ↓reduceIte, hr,
          sub_le (Nat.le_of_lt hn), pure_eq_ok, readBits, toRd, advance, h0]
        rw [Nat.add_assoc, Nat.add_sub_of_le (Nat.le_of_lt hn)]
      · rw [read_raw (fuel + 1) _ n (fun _ h => by cases h; exact ⟨h0, Nat.le_of_not_lt hn⟩) hg]
        simp only [readBits, toRd, h0, hn, if_false]

theorem recursionLimit_eq : Py.recursionLimit = 997 + 3 := rfl

theorem rdOk_advance {g : Gen.ReaderS} (hg : RdOk g) (n : Nat) : RdOk (advance g n) :=
  ⟨hg.1, Nat.le_trans hg.2 (Nat.le_add_right _ _)⟩

/-- **`_BitReader.read_bits`** (generated, started with CPython's recursion limit): returns normally; value and new state are
    the model's. -/
theorem gen_read_bits (g : Gen.ReaderS) (n : Nat) (hg : RdOk g) :
    Gen.BitReader.read_bits g n = .ok ((readBits (toRd g) n).1, advance g n) ∧
      toRd (advance g n) = (readBits (toRd g) n).2 := by
  refine ⟨?_, ?_⟩
  · unfold Gen.BitReader.read_bits; rw [recursionLimit_eq]; exact read_full 997 g n hg
  · rw [(readBits_spec (toRd g) n hg.2).2.1]; rfl

/-- **`_BitReader.align_to`**: for every state -/
theorem gen_reader_align_to (g : Gen.ReaderS) (a : Nat) :
    ∃ k, Gen.BitReader.align_to g a = .ok (advance g k) ∧ toRd (advance g k) = (toRd g).alignTo a := by
  by_cases ha : a = 0
  · refine ⟨0, ?_, ?_⟩
    · subst ha; simp only [Gen.BitReader.align_to, Nat.le_refl, decide_true, if_true, pure_eq_ok, advance, Nat.add_zero]
    · simp only [Rd.alignTo, ha, if_true, advance, Nat.add_zero]
  · have hpos : 0 < a := Nat.pos_of_ne_zero ha
    have h0 : decide (a ≤ 0) = false := by simpa using ha
    by_cases hr : g.bit_offset % a = 0
    · refine ⟨0, ?_, ?_⟩
      · have h1 : (g.bit_offset % a != 0) = false := by simp [hr]
        simp only [Gen.BitReader.align_to, h0, Bool.false_eq_true, if_false, mod_pos hpos, ok_bind, h1, pure_eq_ok, advance,
          Nat.add_zero]
      · simp only [Rd.alignTo, ha, if_false, toRd, hr, ne_eq, not_true_eq_false, advance, Nat.add_zero]
    · refine ⟨a - g.bit_offset % a, ?_, ?_⟩
      · have h1 : (g.bit_offset % a != 0) = true := by simp [hr]
        have hle : g.bit_offset % a ≤ a := Nat.le_of_lt (Nat.mod_lt _ hpos)
        simp only [Gen.BitReader.align_to, h0, Bool.false_eq_true, if_false, mod_pos hpos, ok_bind, h1, if_true, sub_le hle,
          pure_eq_ok, advance]
      · simp only [Rd.alignTo, ha, if_false, toRd, hr, ne_eq, not_false_eq_true, if_true, advance]

/-- **`_BitReader.__init__`** -/
theorem gen_reader_init (data : List Nat) (off : Nat) (lim : Option Nat) :
    Gen.BitReader.init data off lim = .ok ⟨data, off, off, lim⟩ := rfl

/-- **`_BitReader.bounded_subreader`**: for every state; the sub-reader shares the data, starts at the current position and is
    limited to `k` bits; the parent skips them. -/
theorem gen_bounded_subreader (g : Gen.ReaderS) (k : Nat) :
    Gen.BitReader.bounded_subreader g k = .ok (⟨g.data, g.bit_offset, g.bit_offset, some k⟩, advance g k) ∧
      toRd ⟨g.data, g.bit_offset, g.bit_offset, some k⟩ = ((toRd g).sub k).1 ∧ toRd (advance g k) = ((toRd g).sub k).2 :=
  ⟨rfl, rfl, rfl⟩

/-- **`_BitReader.remaining_bits`** -/
theorem gen_remaining_bits (g : Gen.ReaderS) (hs : g.start_offset ≤ g.bit_offset) :
    Gen.BitReader.remaining_bits g = .ok (toRd g).remaining := by
  cases hl : g.bit_limit with
  | none =>
    simp only [Gen.BitReader.remaining_bits, hl, pure_eq_ok, Rd.remaining, toRd, Py.max0Sub, bytesToBits_length,
      Nat.mul_comm]
  | some lim =>
    simp only [Gen.BitReader.remaining_bits, hl, sub_le hs, ok_bind, pure_eq_ok, Rd.remaining, toRd, Py.max0Sub]

theorem gen_reader_bit_offset (g : Gen.ReaderS) : Gen.BitReader.bit_offset g = .ok (toRd g).off := rfl

/-! ### Writer -/

/-- a `for i in range(n)` loop whose body is exception-free under an invariant -/
theorem forEach_range_inv {σ : Type} (n : Nat) (init : σ) (body : σ → Nat → Py.M σ) (f : σ → Nat → σ)
    (P : Nat → σ → Prop) (h0 : P 0 init)
    (hstep : ∀ i, i < n → ∀ s, P i s → body s i = .ok (f s i) ∧ P (i + 1) (f s i)) :
    Py.forEach (Py.range n) init body = .ok ((List.range n).foldl f init) ∧ P n ((List.range n).foldl f init) := by
  induction n with
  | zero => exact ⟨rfl, h0⟩
  | succ n ih =>
    obtain ⟨e, p⟩ := ih (fun i hi s hp => hstep i (by omega) s hp)
    obtain ⟨e2, p2⟩ := hstep n (by omega) _ p
    unfold Py.forEach Py.range at e ⊢
    rw [List.range_succ, List.foldlM_append, e]
    simp only [ok_bind, List.foldlM_cons, List.foldlM_nil, e2, List.foldl_append, List.foldl_cons, List.foldl_nil]
    exact ⟨rfl, p2⟩

/-- `x | (1 << k)` or `x & ~(1 << k)` -/
def setBit (x k : Nat) (b : Bool) : Nat := if b then x ||| 1 <<< k else Py.andNot x (1 <<< k)

theorem testBit_setBit (x k i : Nat) (b : Bool) : (setBit x k b).testBit i = if i = k then b else x.testBit i := by
  unfold setBit
  cases b
  · simp only [Bool.false_eq_true, if_false, Py.testBit_andNot, Nat.one_shiftLeft, Nat.testBit_two_pow]
    by_cases h : i = k
    · simp [h]
    · have : ¬ k = i := fun e => h e.symm
      simp [h, this]
  · simp only [if_true, Nat.testBit_or, Nat.one_shiftLeft, Nat.testBit_two_pow]
    by_cases h : i = k
    · simp [h]
    · have : ¬ k = i := fun e => h e.symm
      simp [h, this]

theorem setBit_lt (x k : Nat) (b : Bool) (hx : x < 256) (hk : k < 8) : setBit x k b < 256 := by
  apply Nat.lt_pow_two_of_testBit (n := 8)
  intro i hi
  rw [testBit_setBit, if_neg (by omega)]
  exact Nat.testBit_lt_two_pow (Nat.lt_of_lt_of_le hx (Nat.pow_le_pow_right (by decide : 2 > 0) hi))

theorem natBits_setBit (x k : Nat) (b : Bool) : natBits 8 (setBit x k b) = (natBits 8 x).set k b := by
  apply List.ext_getElem
  · simp [natBits_length]
  · intro i h1 h2
    simp only [natBits, List.getElem_map, List.getElem_range, List.getElem_set, testBit_setBit]
    by_cases h : i = k
    · simp [h]
    · have : ¬ k = i := fun e => h e.symm
      simp [h, this]

theorem bytesToBits_set (l : List Nat) (idx k : Nat) (hk : k < 8) (b : Bool) :
    bytesToBits (l.set idx (setBit (l.getD idx 0) k b)) = (bytesToBits l).set (8 * idx + k) b := by
  induction l generalizing idx with
  | nil => simp
  | cons a l ih =>
    cases idx with
    | zero =>
      simp only [List.set_cons_zero, bytesToBits_cons, List.getD_cons_zero, Nat.mul_zero, Nat.zero_add]
      rw [natBits_setBit, List.set_append_left _ _ (by rw [natBits_length]; exact hk)]
    | succ idx =>
      simp only [List.set_cons_succ, bytesToBits_cons, List.getD_cons_succ, ih]
      rw [Nat.mul_succ, Nat.add_right_comm, List.set_append_right _ _ (by rw [natBits_length]; exact Nat.le_add_left _ _),
        natBits_length, Nat.add_sub_cancel]

/-- the model's view of a generated writer state -/
def toW (g : Gen.WriterS) : W := ⟨bytesToBits g.buffer, g.bit_offset⟩

/-- what the generated writer needs: the buffer consists of bytes and the position is not behind its end
    (weaker than the model's invariant `W.ok`, see `winv_of_ok`) -/
def WInv (g : Gen.WriterS) : Prop := IsBytes g.buffer ∧ g.bit_offset ≤ 8 * g.buffer.length

theorem setByte_ok {l : List Nat} {i v : Nat} (h : i < l.length) (hv : v < 256) : Py.setByte l i v = .ok (l.set i v) := by
  unfold Py.setByte; rw [if_pos h, if_pos hv]; rfl

/-- one iteration of the bit-wise loop on the byte buffer -/
def stepBuf (buf : List Nat) (pos : Nat) (b : Bool) : List Nat :=
  let buf1 := if pos / 8 ≥ buf.length then buf ++ [0] else buf
  buf1.set (pos / 8) (setBit (buf1.getD (pos / 8) 0) (pos % 8) b)

def stepG (v : Nat) (s : Gen.WriterS) (i : Nat) : Gen.WriterS :=
  ⟨stepBuf s.buffer (s.bit_offset + i) (v.testBit i), s.bit_offset⟩

theorem isBytes_set {l : List Nat} (h : IsBytes l) (i v : Nat) (hv : v < 256) : IsBytes (l.set i v) := by
  intro x hx
  rcases List.mem_or_eq_of_mem_set hx with h1 | h1
  · exact h x h1
  · rw [h1]; exact hv

theorem getD_lt_of_isBytes {l : List Nat} (h : IsBytes l) (i : Nat) : l.getD i 0 < 256 := by
  rw [List.getD_eq_getElem?_getD]
  by_cases hi : i < l.length
  · rw [List.getElem?_eq_getElem hi]; exact h _ (List.getElem_mem hi)
  · rw [List.getElem?_eq_none (by omega)]; decide

theorem stepBuf_spec (buf : List Nat) (pos : Nat) (b : Bool) (hb : IsBytes buf) (hp : pos ≤ 8 * buf.length) :
    IsBytes (stepBuf buf pos b) ∧ pos + 1 ≤ 8 * (stepBuf buf pos b).length ∧
      bytesToBits (stepBuf buf pos b) = slowStep (bytesToBits buf) pos b := by
  have hmod : pos % 8 < 8 := Nat.mod_lt _ (by decide)
  have hl8 : (bytesToBits buf).length / 8 = buf.length := by
    rw [bytesToBits_length, Nat.mul_div_cancel_left _ (by decide : 0 < 8)]
  -- setting the bit, once the byte exists
  have key : ∀ buf1 : List Nat, IsBytes buf1 → pos / 8 < buf1.length →
      IsBytes (buf1.set (pos / 8) (setBit (buf1.getD (pos / 8) 0) (pos % 8) b)) ∧
        pos + 1 ≤ 8 * (buf1.set (pos / 8) (setBit (buf1.getD (pos / 8) 0) (pos % 8) b)).length ∧
        bytesToBits (buf1.set (pos / 8) (setBit (buf1.getD (pos / 8) 0) (pos % 8) b)) = (bytesToBits buf1).set pos b :=
    fun buf1 h1 h2 => ⟨isBytes_set h1 _ _ (setBit_lt _ _ _ (getD_lt_of_isBytes h1 _) hmod),
      by rw [List.length_set, Nat.mul_comm]; exact (Nat.div_lt_iff_lt_mul (by decide)).mp h2,
      by rw [bytesToBits_set _ _ _ hmod, Nat.div_add_mod]⟩
  unfold stepBuf slowStep
  by_cases hge : pos / 8 ≥ buf.length
  · simp only [hge, if_true, hl8]
    have := key (buf ++ [0]) (isBytes_append hb isBytes_zero)
      (by rw [List.length_append, List.length_singleton]; exact Nat.lt_succ_of_le (Nat.div_le_of_le_mul hp))
    rw [bytesToBits_append] at this
    exact this
  · simp only [hge, if_false, hl8]
    exact key buf hb (Nat.lt_of_not_le hge)

theorem bit_ne_zero (v i : Nat) : (v >>> i &&& 1 != 0) = v.testBit i := by
  rw [shift_and_one]; cases v.testBit i <;> rfl

/-- the body of the bit-wise loop of the generated `write_bits` (compared with the generated term by `rfl` in `write_slow`) -/
@[reducible] def writeBody (v : Nat) (s : Gen.WriterS) (i : Nat) : Py.M Gen.WriterS :=
  if decide ((s.bit_offset + i) / 8 ≥ s.buffer.length) = true then
    if (v >>> i &&& 1 != 0) = true then do
      let t5 ← Py.index (s.buffer ++ [0]) ((s.bit_offset + i) / 8)
      let t6 ← Py.setByte (s.buffer ++ [0]) ((s.bit_offset + i) / 8) (t5 ||| 1 <<< ((s.bit_offset + i) % 8))
      pure ({ buffer := t6, bit_offset := s.bit_offset } : Gen.WriterS)
    else do
      let t7 ← Py.index (s.buffer ++ [0]) ((s.bit_offset + i) / 8)
      let t6 ← Py.setByte (s.buffer ++ [0]) ((s.bit_offset + i) / 8) (Py.andNot t7 (1 <<< ((s.bit_offset + i) % 8)))
      pure { buffer := t6, bit_offset := s.bit_offset }
  else
    if (v >>> i &&& 1 != 0) = true then do
      let t5 ← Py.index s.buffer ((s.bit_offset + i) / 8)
      let t6 ← Py.setByte s.buffer ((s.bit_offset + i) / 8) (t5 ||| 1 <<< ((s.bit_offset + i) % 8))
      pure { buffer := t6, bit_offset := s.bit_offset }
    else do
      let t7 ← Py.index s.buffer ((s.bit_offset + i) / 8)
      let t6 ← Py.setByte s.buffer ((s.bit_offset + i) / 8) (Py.andNot t7 (1 <<< ((s.bit_offset + i) % 8)))
      pure { buffer := t6, bit_offset := s.bit_offset }

/-- `buffer[idx] |= 1 << k` or `buffer[idx] &= ~(1 << k)` on a byte that exists: bit `k` of that byte becomes `bit` -/
theorem setBit_ok (b : List Nat) (hb : IsBytes b) (idx k : Nat) (hi : idx < b.length) (hk : k < 8) (bit : Bool) (off : Nat) :
    (if bit = true then do
        let t5 ← Py.index b idx
        let t6 ← Py.setByte b idx (t5 ||| 1 <<< k)
        pure ({ buffer := t6, bit_offset := off } : Gen.WriterS)
      else do
        let t7 ← Py.index b idx
        let t6 ← Py.setByte b idx (Py.andNot t7 (1 <<< k))
        pure { buffer := t6, bit_offset := off }) = .ok ⟨b.set idx (setBit (b.getD idx 0) k bit), off⟩ := by
  have hget : b.getD idx 0 = b[idx] := by rw [List.getD_eq_getElem?_getD, List.getElem?_eq_getElem hi]; rfl
  have hset := setByte_ok hi (setBit_lt _ k bit (hb _ (List.getElem_mem hi)) hk)
  rw [index_lt hi, hget]
  cases bit
  · rw [if_neg Bool.false_ne_true, ok_bind]
    simp only [setBit, Bool.false_eq_true, if_false] at hset ⊢
    rw [hset]; rfl
  · rw [if_pos rfl, ok_bind]
    simp only [setBit, if_true] at hset ⊢
    rw [hset]; rfl

/-- it is `stepG`, and cannot raise when the position is not behind the end of the buffer -/
theorem write_step (v : Nat) (s : Gen.WriterS) (i : Nat) (hb : IsBytes s.buffer) (hp : s.bit_offset + i ≤ 8 * s.buffer.length) :
    writeBody v s i = .ok (stepG v s i) := by
  have hmod : (s.bit_offset + i) % 8 < 8 := Nat.mod_lt _ (by decide)
  unfold writeBody stepG stepBuf
  rw [bit_ne_zero]
  by_cases hge : (s.bit_offset + i) / 8 ≥ s.buffer.length
  · rw [if_pos (decide_eq_true hge), if_pos hge]
    exact setBit_ok _ (isBytes_append hb isBytes_zero) _ _
      (by rw [List.length_append, List.length_singleton]; exact Nat.lt_succ_of_le (Nat.div_le_of_le_mul hp)) hmod _ _
  · rw [if_neg (by rw [decide_eq_false hge]; exact Bool.false_ne_true), if_neg hge]
    exact setBit_ok _ hb _ _ (Nat.lt_of_not_le hge) hmod _ _

/-- the bit-wise loop: exception-free under `WInv`, and on bits it is the model's loop -/
theorem write_loop (g : Gen.WriterS) (v n : Nat) (hg : WInv g) (body : Gen.WriterS → Nat → Py.M Gen.WriterS)
    (hb : ∀ s i, body s i = writeBody v s i) :
    Py.forEach (Py.range n) g body = .ok ((List.range n).foldl (stepG v) g) ∧
      ((List.range n).foldl (stepG v) g).bit_offset = g.bit_offset ∧ IsBytes ((List.range n).foldl (stepG v) g).buffer ∧
      g.bit_offset + n ≤ 8 * ((List.range n).foldl (stepG v) g).buffer.length ∧
      bytesToBits ((List.range n).foldl (stepG v) g).buffer =
        (List.range n).foldl (fun buf j => slowStep buf (g.bit_offset + j) (v.testBit j)) (bytesToBits g.buffer) := by
  have hbody : body = writeBody v := funext fun s => funext fun i => hb s i
  subst hbody
  exact forEach_range_inv n g (writeBody v) (stepG v)
    (fun i s => s.bit_offset = g.bit_offset ∧ IsBytes s.buffer ∧ g.bit_offset + i ≤ 8 * s.buffer.length ∧
      bytesToBits s.buffer =
        (List.range i).foldl (fun buf j => slowStep buf (g.bit_offset + j) (v.testBit j)) (bytesToBits g.buffer))
    ⟨rfl, hg.1, hg.2, rfl⟩
    (by
      intro i hi s ⟨h1, h2, h3, h4⟩
      have h3' : s.bit_offset + i ≤ 8 * s.buffer.length := h1 ▸ h3
      obtain ⟨q1, q2, q3⟩ := stepBuf_spec s.buffer (s.bit_offset + i) (v.testBit i) h2 h3'
      refine ⟨write_step v s i h2 h3', h1, q1, h1 ▸ q2, ?_⟩
      · rw [h4, h1] at q3
        simp only [stepG, h1, List.range_succ, List.foldl_append, List.foldl_cons, List.foldl_nil]
        exact q3)

theorem write_slow (fuel : Nat) (g : Gen.WriterS) (v n : Nat) (hg : WInv g) (hf : ¬ (g.bit_offset % 8 = 0 ∧ n ≥ 8)) :
    ∃ g', Gen.BitWriter.write_bits_rec (fuel + 1) g v n = .ok g' ∧ toW g' = slowWrite (toW g) v n ∧ WInv g' := by
  simp only [Gen.BitWriter.write_bits_rec, alignedTest, decide_eq_false hf, Bool.false_eq_true, ↓reduceIte]
  rw [(write_loop g v n hg _ (fun s i => rfl)).1]
  obtain ⟨h1, h2, h3, h4⟩ := (write_loop g v n hg (writeBody v) (fun s i => rfl)).2
  refine ⟨_, rfl, ?_, ?_⟩
  · simp only [toW, slowWrite, h4, h1]
  · exact ⟨h2, h1 ▸ h3⟩

theorem bytesToBits_toBytesLittleAux (k x : Nat) : bytesToBits (Py.toBytesLittleAux k x) = natBits (8 * k) x := by
  induction k generalizing x with
  | zero => rfl
  | succ k ih =>
    have h8 : 8 * (k + 1) = 8 + 8 * k := by omega
    rw [Py.toBytesLittleAux, bytesToBits_cons, ih, h8, natBits_add, Nat.shiftRight_eq_div_pow]
    have : natBits 8 (x % 256) = natBits 8 x := natBits_mod 8 x
    rw [this]

/-- the three buffer cases of the byte-aligned branch of `write_bits` -/
def fastBuf (buf : List Nat) (sb fb : Nat) (data : List Nat) : List Nat :=
  if sb ≥ buf.length then buf ++ List.replicate (sb - buf.length) 0 ++ data
  else if sb + fb ≤ buf.length then Py.setSlice buf sb (sb + fb) data
  else Py.setSlice buf sb buf.length (data.take (buf.length - sb)) ++ data.drop (buf.length - sb)

/-- the same three cases on the bit list, as the model's `fastWrite` spells them -/
def fastBits (bits : List Bool) (sb fb : Nat) (dbits : List Bool) : List Bool :=
  let len := bits.length / 8
  if sb ≥ len then bits ++ zeros (8 * (sb - len)) ++ dbits
  else if sb + fb ≤ len then bits.take (8 * sb) ++ dbits ++ bits.drop (8 * (sb + fb))
  else bits.take (8 * sb) ++ dbits.take (8 * (len - sb)) ++ dbits.drop (8 * (len - sb))

theorem fastWrite_eq (w : W) (v n : Nat) :
    fastWrite w v n =
      if n % 8 > 0 then
        slowWrite ⟨fastBits w.buf (w.off / 8) (n / 8) (natBits (8 * (n / 8)) (v % 2 ^ (8 * (n / 8)))), w.off + 8 * (n / 8)⟩
          (v >>> (8 * (n / 8))) (n % 8)
      else ⟨fastBits w.buf (w.off / 8) (n / 8) (natBits (8 * (n / 8)) (v % 2 ^ (8 * (n / 8)))), w.off + 8 * (n / 8)⟩ := rfl

/-- `b[lo:hi] = d` inside the buffer -/
theorem setSlice_inside {l : List Nat} {lo hi : Nat} (h1 : lo ≤ hi) (h2 : hi ≤ l.length) (d : List Nat) :
    Py.setSlice l lo hi d = l.take lo ++ d ++ l.drop hi := by
  simp only [Py.setSlice, Nat.min_eq_left (Nat.le_trans h1 h2), Nat.min_eq_left h2, Nat.max_eq_right h1]

theorem fastBuf_spec (buf : List Nat) (sb fb : Nat) (data : List Nat) (hb : IsBytes buf) (hd : IsBytes data)
    (hl : data.length = fb) :
    IsBytes (fastBuf buf sb fb data) ∧ sb + fb ≤ (fastBuf buf sb fb data).length ∧
      bytesToBits (fastBuf buf sb fb data) = fastBits (bytesToBits buf) sb fb (bytesToBits data) := by
  have hl8 : (bytesToBits buf).length / 8 = buf.length := by
    rw [bytesToBits_length, Nat.mul_div_cancel_left _ (by decide : 0 < 8)]
  simp only [fastBits, hl8]
  unfold fastBuf
  by_cases h1 : sb ≥ buf.length
  · rw [if_pos h1, if_pos h1]
    refine ⟨isBytes_append (isBytes_append hb (isBytes_replicate_zero _)) hd, ?_, ?_⟩
    · rw [List.length_append, List.length_append, List.length_replicate, Nat.add_sub_of_le h1, hl]
    · rw [bytesToBits_append, bytesToBits_append, bytesToBits_replicate_zero]
  · have h1' : sb ≤ buf.length := Nat.le_of_not_le h1
    rw [if_neg h1, if_neg h1]
    by_cases h2 : sb + fb ≤ buf.length
    · rw [if_pos h2, if_pos h2, setSlice_inside (Nat.le_add_right _ _) h2]
      refine ⟨isBytes_append (isBytes_append (isBytes_take hb _) hd) (isBytes_drop hb _), ?_, ?_⟩
      · rw [List.length_append, List.length_append, List.length_take, Nat.min_eq_left h1', hl]
        exact Nat.le_add_right _ _
      · rw [bytesToBits_append, bytesToBits_append, bytesToBits_take, bytesToBits_drop]
    · rw [if_neg h2, if_neg h2, setSlice_inside h1' (Nat.le_refl _), List.drop_length, List.append_nil]
      refine ⟨isBytes_append (isBytes_append (isBytes_take hb _) (isBytes_take hd _)) (isBytes_drop hd _), ?_, ?_⟩
      · rw [List.append_assoc, List.take_append_drop, List.length_append, List.length_take, Nat.min_eq_left h1', hl]
      · rw [bytesToBits_append, bytesToBits_append, bytesToBits_take, bytesToBits_take, bytesToBits_drop]

theorem write_fast_aux (m : Nat) (g : Gen.WriterS) (v n : Nat)
    (hrec : ∀ g' v' k, WInv g' → ¬ (g'.bit_offset % 8 = 0 ∧ k ≥ 8) →
      ∃ g'', Gen.BitWriter.write_bits_rec m g' v' k = .ok g'' ∧ toW g'' = slowWrite (toW g') v' k ∧ WInv g'')
    (hg : WInv g) (ha : g.bit_offset % 8 = 0) (hn8 : n ≥ 8) :
    ∃ g', Gen.BitWriter.write_bits_rec (m + 1) g v n = .ok g' ∧ toW g' = fastWrite (toW g) v n ∧ WInv g' := by
  obtain ⟨buf, off⟩ := g
  obtain ⟨hb, hoff⟩ := hg
  simp only at ha hb hoff
  -- the bytes written
  have hsub : Py.sub (1 <<< (n / 8 * 8)) 1 = .ok (2 ^ (n / 8 * 8) - 1) := by
    rw [Nat.one_shiftLeft]; exact sub_le Nat.one_le_two_pow
  have hlt : v % 2 ^ (n / 8 * 8) < 256 ^ (n / 8) := by
    rw [show (256 : Nat) ^ (n / 8) = 2 ^ (n / 8 * 8) by rw [Nat.mul_comm, Nat.pow_mul]]
    exact Nat.mod_lt _ (Nat.two_pow_pos _)
  have hbytes : Py.toBytesLittle (v &&& 2 ^ (n / 8 * 8) - 1) (n / 8) = .ok (Py.toBytesLittleAux (n / 8) (v % 2 ^ (n / 8 * 8))) := by
    rw [Nat.and_two_pow_sub_one_eq_mod]; unfold Py.toBytesLittle; rw [if_pos hlt]; rfl
  generalize hdata : Py.toBytesLittleAux (n / 8) (v % 2 ^ (n / 8 * 8)) = data at hbytes
  have hdl : data.length = n / 8 := by rw [← hdata, Py.toBytesLittleAux_length]
  have hdb : IsBytes data := by rw [← hdata]; exact Py.toBytesLittleAux_lt _ _
  have hdbits : bytesToBits data = natBits (8 * (n / 8)) (v % 2 ^ (8 * (n / 8))) := by
    rw [← hdata, bytesToBits_toBytesLittleAux, Nat.mul_comm (n / 8) 8]
  obtain ⟨f1, f2, f3⟩ := fastBuf_spec buf (off / 8) (n / 8) data hb hdb hdl
  -- the state after the byte-aligned part
  have e8 : off + n / 8 * 8 = 8 * (off / 8 + n / 8) := by
    rw [Nat.mul_add, Nat.mul_div_cancel' (Nat.dvd_of_mod_eq_zero ha), Nat.mul_comm]
  have hg1 : WInv ⟨fastBuf buf (off / 8) (n / 8) data, off + n / 8 * 8⟩ := ⟨f1, e8 ▸ Nat.mul_le_mul_left 8 f2⟩
  have hw1 : toW ⟨fastBuf buf (off / 8) (n / 8) data, off + n / 8 * 8⟩ =
      ⟨fastBits (bytesToBits buf) (off / 8) (n / 8) (natBits (8 * (n / 8)) (v % 2 ^ (8 * (n / 8)))), off + 8 * (n / 8)⟩ := by
    rw [toW, f3, hdbits, Nat.mul_comm (n / 8) 8]
  have hpre : Gen.BitWriter.write_bits_rec (m + 1) ⟨buf, off⟩ v n =
      (if n % 8 > 0 then
        Gen.BitWriter.write_bits_rec m ⟨fastBuf buf (off / 8) (n / 8) data, off + n / 8 * 8⟩ (v >>> (n / 8 * 8)) (n % 8)
      else pure ⟨fastBuf buf (off / 8) (n / 8) data, off + n / 8 * 8⟩) := by
    have hc : decide (off % 8 = 0 ∧ n ≥ 8) = true := decide_eq_true ⟨ha, hn8⟩
    simp only [Gen.BitWriter.write_bits_rec, alignedTest, hc, divmod_pos (by decide : 0 < 8), ok_bind, hsub, hbytes,
      decide_eq_true_eq, ↓reduceIte]
    unfold fastBuf
    by_cases h1 : off / 8 ≥ buf.length
    · simp only [h1, sub_le h1, ok_bind, Py.bytesRepeat_zero_byte, bind_pure, ↓reduceIte]
    · by_cases h2 : off / 8 + n / 8 ≤ buf.length
      · simp only [h1, h2, bind_pure, ↓reduceIte]
      · simp only [h1, h2, sub_le (Nat.le_of_not_le h1), ok_bind, bind_pure, ↓reduceIte]
  rw [hpre, toW, fastWrite_eq]
  by_cases hr : n % 8 > 0
  · obtain ⟨g'', e1, e2, e3⟩ := hrec _ (v >>> (n / 8 * 8)) (n % 8) hg1
      (fun h => absurd h.2 (Nat.not_le_of_gt (Nat.mod_lt n (by decide))))
    rw [if_pos hr, if_pos hr]
    exact ⟨g'', e1, by rw [e2, hw1, Nat.mul_comm (n / 8) 8], e3⟩
  · rw [if_neg hr, if_neg hr]
    exact ⟨_, rfl, hw1, hg1⟩

/-- **`write_bits`** with fuel ≥ 2: under `WInv` it returns normally, keeps `WInv`, and its result is the model's -/
theorem write_full (fuel : Nat) (g : Gen.WriterS) (v n : Nat) (hg : WInv g) :
    ∃ g', Gen.BitWriter.write_bits_rec (fuel + 2) g v n = .ok g' ∧ toW g' = writeBits (toW g) v n ∧ WInv g' := by
  unfold writeBits
  by_cases hf : g.bit_offset % 8 = 0 ∧ n ≥ 8
  · rw [if_pos (by simpa [toW] using hf)]
    exact write_fast_aux (fuel + 1) g v n (fun g' v' k => write_slow fuel g' v' k) hg hf.1 hf.2
  · rw [if_neg (by simpa [toW] using hf)]
    exact write_slow (fuel + 1) g v n hg hf

/-- **`_BitWriter.write_bits`** (generated, started with CPython's recursion limit) -/
theorem gen_write_bits (g : Gen.WriterS) (v n : Nat) (hg : WInv g) :
    ∃ g', Gen.BitWriter.write_bits g v n = .ok g' ∧ toW g' = writeBits (toW g) v n ∧ WInv g' := by
  unfold Gen.BitWriter.write_bits
  rw [show Py.recursionLimit = 998 + 2 from rfl]
  exact write_full 998 g v n hg

/-- **`_BitWriter.align_to`** -/
theorem gen_writer_align_to (g : Gen.WriterS) (a : Nat) (hg : WInv g) :
    ∃ g', Gen.BitWriter.align_to g a = .ok g' ∧ toW g' = alignTo (toW g) a ∧ WInv g' := by
  by_cases ha : a = 0
  · refine ⟨g, ?_, ?_, hg⟩
    · subst ha; simp only [Gen.BitWriter.align_to, Nat.le_refl, decide_true, if_true, pure_eq_ok]
    · simp only [alignTo, ha, if_true]
  · have hpos : 0 < a := Nat.pos_of_ne_zero ha
    have h0 : decide (a ≤ 0) = false := by simpa using ha
    by_cases hr : g.bit_offset % a = 0
    · refine ⟨g, ?_, ?_, hg⟩
      · have h1 : (g.bit_offset % a != 0) = false := by simp [hr]
        simp only [Gen.BitWriter.align_to, h0, Bool.false_eq_true, if_false, mod_pos hpos, ok_bind, h1, pure_eq_ok]
      · simp only [alignTo, ha, if_false, toW, hr, ne_eq, not_true_eq_false]
    · obtain ⟨g', e1, e2, e3⟩ := gen_write_bits g 0 (a - g.bit_offset % a) hg
      refine ⟨g', ?_, ?_, e3⟩
      · have h1 : (g.bit_offset % a != 0) = true := by simp [hr]
        have hle : g.bit_offset % a ≤ a := Nat.le_of_lt (Nat.mod_lt _ hpos)
        simp only [Gen.BitWriter.align_to, h0, Bool.false_eq_true, if_false, mod_pos hpos, ok_bind, h1, if_true, sub_le hle,
          e1, pure_eq_ok]
      · rw [e2]; simp only [alignTo, ha, if_false, toW, hr, ne_eq, not_false_eq_true, if_true]

/-- **`_BitWriter.__init__`**: the empty writer satisfies the generated code's and the model's invariant -/
theorem gen_writer_init :
    Gen.BitWriter.init = .ok ⟨[], 0⟩ ∧ WInv ⟨[], 0⟩ ∧ toW ⟨[], 0⟩ = ⟨[], 0⟩ ∧ (toW ⟨[], 0⟩).ok = true :=
  ⟨rfl, And.intro (fun _ h => nomatch h) (Nat.le_refl _), rfl, by decide⟩

/-- **`_BitWriter.finish`** returns the buffer, whose bits are the model's buffer -/
theorem gen_finish (g : Gen.WriterS) : Gen.BitWriter.finish g = .ok g.buffer ∧ bytesToBits g.buffer = (toW g).buf :=
  ⟨rfl, rfl⟩

theorem gen_writer_bit_offset (g : Gen.WriterS) : Gen.BitWriter.bit_offset g = .ok (toW g).off := rfl

/-- the model's writer invariant (buffer = written bits zero-padded to a byte) implies the generated code's -/
theorem winv_of_ok (g : Gen.WriterS) (hb : IsBytes g.buffer) (h : (toW g).ok = true) : WInv g := by
  have := ((ok_iff (toW g)).mp h).2
  simp only [toW, bytesToBits_length] at this
  exact ⟨hb, this⟩
end Bridge
