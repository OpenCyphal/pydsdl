import Gen.Symbolic
import Proofs.BlsMinMax
import Bridge.Basic
import Bridge.SymbolicAttr
set_option linter.unusedSimpArgs false
set_option linter.unusedVariables false
/-!
  Bridge between the code GENERATED from `pydsdl/_bit_length_set/_symbolic.py` (`Gen/Symbolic.lean`, rewritten by
  `tools/py2lean.py` from the working tree of /repo on every run) and the hand-written model `Model/Bls.lean`.

  The generated definitions are non-recursive: every method sees its children through the interface record
  `OperatorI`.  `iface` ties the knot once, by structural recursion over the operator tree, exactly as the Python
  constructors nest the objects.  `refines` proves, for every well-formed tree, that the generated methods
  return *without raising* (no assert fires, no division by zero, no `min()` of an empty set, the naturals are never
  left) and that their results are, as finite sets, those of the model.  The C01 theorems about the model therefore
  transfer to what the Python source says today; if the source changes so that this is no longer provable, the
  build of this module breaks and the check starts its failing-input search.
-/
open Bls
open scoped Pointwise

namespace Bridge

/-! ### The knot -/

mutual
/-- The object graph the Python constructors build for an operator tree, seen through the generated methods. -/
def iface : Op → OperatorI
  | .leaf vs =>
      let value := Py.set vs  -- `self._value = set(values)`
      { min := Gen.NullaryOperator.min value, max := Gen.NullaryOperator.max value,
        modulo := Gen.NullaryOperator.modulo value, expand := fun _ => Gen.NullaryOperator.expand value }
  | .pad c a =>
      { min := Gen.PaddingOperator.min (iface c) a, max := Gen.PaddingOperator.max (iface c) a,
        modulo := Gen.PaddingOperator.modulo (iface c) a, expand := fun _ => Gen.PaddingOperator.expand (iface c) a }
  | .cat cs =>
      { min := Gen.ConcatenationOperator.min (ifaces cs), max := Gen.ConcatenationOperator.max (ifaces cs),
        modulo := Gen.ConcatenationOperator.modulo (ifaces cs), expand := fun _ => Gen.ConcatenationOperator.expand (ifaces cs) }
  | .rep c k =>
      { min := Gen.RepetitionOperator.min (iface c) k, max := Gen.RepetitionOperator.max (iface c) k,
        modulo := Gen.RepetitionOperator.modulo (iface c) k, expand := fun _ => Gen.RepetitionOperator.expand (iface c) k }
  | .rrep c k =>
      { min := Gen.RangeRepetitionOperator.min (iface c) k, max := Gen.RangeRepetitionOperator.max (iface c) k,
        modulo := Gen.RangeRepetitionOperator.modulo (iface c) k, expand := fun _ => Gen.RangeRepetitionOperator.expand (iface c) k }
  | .uni cs =>
      { min := Gen.UnionOperator.min (ifaces cs), max := Gen.UnionOperator.max (ifaces cs),
        modulo := Gen.UnionOperator.modulo (ifaces cs), expand := fun _ => Gen.UnionOperator.expand (ifaces cs) }
def ifaces : List Op → List OperatorI
  | [] => []
  | c :: cs => iface c :: ifaces cs
end

theorem ifaces_eq (cs : List Op) : ifaces cs = cs.map iface := by
  induction cs with
  | nil => rfl
  | cons c cs ih => simp [ifaces, ih]

/-- What it means for an interface record to behave like the model of the tree `o`. -/
structure Refines (ci : OperatorI) (o : Op) : Prop where
  min : ci.min = .ok o.min
  max : ci.max = .ok o.max
  modulo : ∀ d, 0 < d → ∃ s, ci.modulo d = .ok s ∧ s.toFinset = (o.modulo d).toFinset
  expand : ∃ s, ci.expand () = .ok s ∧ s.toFinset = o.expand.toFinset

/-! ### Normal forms

  The proofs below never follow the shape of today's generated term.  `gen_simp [defs, facts]` rewrites a generated definition with
  (a) the facts about its inputs, (b) the closed forms of the PyLib primitives whose side conditions (`0 < divisor`, `1 ≤ x + r`, …)
  `omega` finds in the context, (c) the lemmas that give every spelling of one value the same normal form (`padTo`, `equivK`, casts
  pulled out of `Int` arithmetic), and (d) the loop lemmas, until the program is `Except.ok <pure term>`; private helpers are inlined
  by the translator, so there is nothing to unfold by name.  What remains is a statement about finite sets. -/

theorem equivK_form1 (k d : Nat) : min k (d + k % d) = equivK k d := rfl
theorem equivK_form2 (k d : Nat) : min (d + k % d) k = equivK k d := Nat.min_comm _ _
theorem equivK_beq (k d : Nat) : (k % d == equivK k d % d) = true := by
  have := equivK_mod k d; simp [this]
theorem equivK_beq' (k d : Nat) : (equivK k d % d == k % d) = true := by
  have := equivK_mod k d; simp [this]
theorem one_add_comm (n : Nat) : 1 + n = n + 1 := Nat.add_comm 1 n
theorem py_sum_eq : Py.sum = List.sum := funext fun _ => rfl

attribute [gen_norm] ok_bind pure_eq_ok bind_pure assert_true mod_pos floordiv_pos sub_le
  imod_natCast ifloordiv_natCast imod_neg_natCast ifloordiv_neg_natCast toNat_natCast natCast_add_symm natCast_mul_symm
  int_neg_neg int_neg_mul_neg padTo_form1 padTo_form2 padTo_form3 padTo_form4 padTo_form5 padTo_form6
  ite_le_eq_min ite_lt_eq_min mod_add_comm equivK_form1 equivK_form2 equivK_beq equivK_beq' one_add_comm
  mapM_ok_fun forEach_ok_fun Py.cwr Py.sum Py.range Py.product Py.lcm py_sum_eq
  decide_true decide_false Bool.and_self Bool.and_true Bool.true_and Bool.not_true Bool.not_false decide_eq_true_eq
  Nat.not_lt_zero if_true if_false ite_true ite_false Bool.false_eq_true beq_self_eq_true bne_self_eq_false

open Lean.Parser.Tactic in
macro "gen_simp" " [" ts:simpLemma,* "]" : tactic =>
  `(tactic| simp (disch := omega) only [$ts,*, gen_norm])

/-! ### One lemma per Python class -/

theorem map_toFinset_congr {s t : List Nat} (f : Nat → Nat) (h : s.toFinset = t.toFinset) :
    (s.map f).toFinset = (t.map f).toFinset := by
  rw [toFinset_map, toFinset_map, h]

theorem flatMap_toFinset_congr {α : Type} (l : List α) (f g : α → List Nat) (h : ∀ a ∈ l, (f a).toFinset = (g a).toFinset) :
    (l.flatMap f).toFinset = (l.flatMap g).toFinset := by
  ext y
  simp only [List.mem_toFinset, List.mem_flatMap]
  exact exists_congr fun a => and_congr_right fun ha => List.toFinset.ext_iff.mp (h a ha) y

theorem cwrSums_congr {s t : List Nat} (k : Nat) (h : s.toFinset = t.toFinset) :
    ((cwr s k).map List.sum).toFinset = ((cwr t k).map List.sum).toFinset := by
  rw [toFinset_cwr_sums, toFinset_cwr_sums, h]

theorem rep_refines (c : Op) (k : Nat) (ih : Refines (iface c) c) : Refines (iface (.rep c k)) (.rep c k) := by
  refine ⟨?_, ?_, ?_, ?_⟩
  · gen_simp [iface, Gen.RepetitionOperator.min, ih.min, Op.min, Nat.mul_comm k]
  · gen_simp [iface, Gen.RepetitionOperator.max, ih.max, Op.max, Nat.mul_comm k]
  · intro d hd
    obtain ⟨s, hs, hset⟩ := ih.modulo _ hd
    gen_simp [iface, Gen.RepetitionOperator.modulo, hs]
    refine ⟨_, rfl, ?_⟩
    simp only [toFinset_foldl_setAdd, Op.modulo, cwrSumsMod, toFinset_dedup]
    have := map_toFinset_congr (· % d) (cwrSums_congr (equivK k d) hset)
    simpa only [List.map_map, Function.comp_def] using this
  · obtain ⟨s, hs, hset⟩ := ih.expand
    gen_simp [iface, Gen.RepetitionOperator.expand, hs]
    refine ⟨_, rfl, ?_⟩
    simp only [toFinset_foldl_setAdd, Op.expand, cwrSums, toFinset_dedup]
    exact cwrSums_congr k hset

theorem rangeCwr_congr {s t : List Nat} (K : Nat) (h : s.toFinset = t.toFinset) :
    ((List.range (K + 1)).flatMap fun k => (cwr s k).map List.sum).toFinset
      = ((List.range (K + 1)).flatMap fun k => (cwr t k).map List.sum).toFinset := by
  rw [toFinset_rangeCwr, toFinset_rangeCwr, h]

theorem rrep_refines (c : Op) (k : Nat) (ih : Refines (iface c) c) : Refines (iface (.rrep c k)) (.rrep c k) := by
  refine ⟨?_, ?_, ?_, ?_⟩
  · gen_simp [iface, Gen.RangeRepetitionOperator.min, Op.min]
  · gen_simp [iface, Gen.RangeRepetitionOperator.max, ih.max, Op.max, Nat.mul_comm k]
  · intro d hd
    obtain ⟨s, hs, hset⟩ := ih.modulo _ hd
    gen_simp [iface, Gen.RangeRepetitionOperator.modulo, hs]
    refine ⟨_, rfl, ?_⟩
    simp only [toFinset_foldl_foldl_setAdd, Op.modulo, rangeCwrSumsMod, toFinset_dedup, flatMap_map_mod]
    exact map_toFinset_congr (· % d) (rangeCwr_congr (equivK k d) hset)
  · obtain ⟨s, hs, hset⟩ := ih.expand
    gen_simp [iface, Gen.RangeRepetitionOperator.expand, hs]
    refine ⟨_, rfl, ?_⟩
    simp only [toFinset_foldl_foldl_setAdd, Op.expand, rangeCwrSums, toFinset_dedup]
    exact rangeCwr_congr k hset

/-- results of the children, named through `val` -/
theorem children_mapM {β : Type} [Inhabited β] (cs : List Op) (m : OperatorI → Py.M β) (g : Op → β)
    (h : ∀ c ∈ cs, m (iface c) = .ok (g c)) :
    (ifaces cs).mapM (fun ci => m ci) = .ok (cs.map g) := by
  rw [ifaces_eq, mapM_ok (cs.map iface) _ (fun ci => val (m ci))]
  · congr 1
    rw [List.map_map]
    apply List.map_congr_left
    intro c hc
    simp only [Function.comp, h c hc, val]
  · intro ci hci
    obtain ⟨c, hc, rfl⟩ := List.mem_map.mp hci
    exact eq_ok_val (h c hc)

/-- a loop over the children whose body is a function of the child's (successful) answer -/
theorem children_forEach {β σ : Type} [Inhabited β] (cs : List Op) (m : OperatorI → Py.M β) (step : σ → β → Py.M σ) (f : σ → β → σ)
    (init : σ) (h : ∀ c ∈ cs, ∃ b, m (iface c) = .ok b) (hstep : ∀ s b, step s b = .ok (f s b)) :
    Py.forEach (ifaces cs) init (fun s ci => m ci >>= fun b => step s b) = .ok (cs.foldl (fun s c => f s (val (m (iface c)))) init) := by
  rw [ifaces_eq, forEach_ok _ init _ (fun s ci => f s (val (m ci)))]
  · rw [List.foldl_map]
  · intro ci hci s
    obtain ⟨c, hc, rfl⟩ := List.mem_map.mp hci
    obtain ⟨b, hb⟩ := h c hc
    rw [hb, ok_bind, hstep]; rfl

theorem cat_refines (cs : List Op) (ih : ∀ c ∈ cs, Refines (iface c) c) : Refines (iface (.cat cs)) (.cat cs) := by
  refine ⟨?_, ?_, ?_, ?_⟩
  · gen_simp [iface, Gen.ConcatenationOperator.min, children_mapM cs (·.min) Op.min (fun c hc => (ih c hc).min), Op.min, sumMin_eq]
  · gen_simp [iface, Gen.ConcatenationOperator.max, children_mapM cs (·.max) Op.max (fun c hc => (ih c hc).max), Op.max, sumMax_eq]
  · intro d hd
    have hm := children_mapM cs (fun ci => ci.modulo d) (fun c => val ((iface c).modulo d))
      (fun c hc => by obtain ⟨s, hs, _⟩ := (ih c hc).modulo d hd; exact eq_ok_val hs)
    gen_simp [iface, Gen.ConcatenationOperator.modulo, hm]
    refine ⟨_, rfl, ?_⟩
    simp only [toFinset_foldl_setAdd, Op.modulo, toFinset_dedup]
    apply map_toFinset_congr
    simp only [toFinset_foldl_setAdd, toFinset_dedup]
    rw [toFinset_product_sums, toFinset_product_sums, modulos_eq, List.map_map, List.map_map]
    congr 1
    apply List.map_congr_left
    intro c hc
    obtain ⟨s, hs, hset⟩ := (ih c hc).modulo d hd
    simp only [Function.comp, hs, val, hset]
  · have hm := children_mapM cs (fun ci => ci.expand ()) (fun c => val ((iface c).expand ()))
      (fun c hc => by obtain ⟨s, hs, _⟩ := (ih c hc).expand; exact eq_ok_val hs)
    gen_simp [iface, Gen.ConcatenationOperator.expand, hm]
    refine ⟨_, rfl, ?_⟩
    simp only [toFinset_foldl_setAdd, Op.expand, toFinset_dedup]
    rw [toFinset_product_sums, toFinset_product_sums, expands_eq, List.map_map, List.map_map]
    congr 1
    apply List.map_congr_left
    intro c hc
    obtain ⟨s, hs, hset⟩ := (ih c hc).expand
    simp only [Function.comp, hs, val, hset]

theorem uni_refines (cs : List Op) (hne : cs ≠ []) (ih : ∀ c ∈ cs, Refines (iface c) c) : Refines (iface (.uni cs)) (.uni cs) := by
  refine ⟨?_, ?_, ?_, ?_⟩
  · gen_simp [iface, Gen.UnionOperator.min, children_mapM cs (·.min) Op.min (fun c hc => (ih c hc).min), Op.min,
      minOf_ne_nil (show cs.map Op.min ≠ [] by simpa using hne), minMin_eq]
  · gen_simp [iface, Gen.UnionOperator.max, children_mapM cs (·.max) Op.max (fun c hc => (ih c hc).max), Op.max,
      maxOf_ne_nil (show cs.map Op.max ≠ [] by simpa using hne), maxMax_eq]
  · intro d hd
    gen_simp [iface, Gen.UnionOperator.modulo, ifaces_eq]
    rw [forEach_ok _ [] _ (fun out ci => Py.setUnion out (val (ci.modulo d)))]
    · refine ⟨_, rfl, ?_⟩
      rw [toFinset_foldl_setUnion, List.flatMap_map, Op.modulo, toFinset_dedup, modulos_eq, ← List.flatMap_def]
      exact flatMap_toFinset_congr cs _ _ fun c hc => by
        obtain ⟨s, hs, hset⟩ := (ih c hc).modulo d hd
        rw [hs]; exact hset
    · intro ci hci out
      obtain ⟨c, hc, rfl⟩ := List.mem_map.mp hci
      obtain ⟨s, hs, _⟩ := (ih c hc).modulo d hd
      gen_simp [hs, val, Py.setUnion]
  · gen_simp [iface, Gen.UnionOperator.expand, ifaces_eq]
    rw [forEach_ok _ [] _ (fun out ci => Py.setUnion out (val (ci.expand ())))]
    · refine ⟨_, rfl, ?_⟩
      rw [toFinset_foldl_setUnion, List.flatMap_map, Op.expand, toFinset_dedup, expands_eq, ← List.flatMap_def]
      exact flatMap_toFinset_congr cs _ _ fun c hc => by
        obtain ⟨s, hs, hset⟩ := (ih c hc).expand
        rw [hs]; exact hset
    · intro ci hci out
      obtain ⟨c, hc, rfl⟩ := List.mem_map.mp hci
      obtain ⟨s, hs, _⟩ := (ih c hc).expand
      gen_simp [hs, val, Py.setUnion]

theorem pad_refines (c : Op) (a : Nat) (hc : c.wf = true) (ha : 1 ≤ a) (ih : Refines (iface c) c) : Refines (iface (.pad c a)) (.pad c a) := by
  refine ⟨?_, ?_, ?_, ?_⟩
  · gen_simp [iface, Gen.PaddingOperator.min, ih.min, Op.min]
  · gen_simp [iface, Gen.PaddingOperator.max, ih.max, Op.max]
  · intro d hd
    have hl : 0 < Nat.lcm a d := Nat.lcm_pos (by omega) hd
    obtain ⟨s, hs, hset⟩ := ih.modulo _ hl
    have hmem : ∀ x, x ∈ s ↔ x ∈ c.modulo (Nat.lcm a d) := List.toFinset.ext_iff.mp hset
    have hass := asserts_never_fire (.pad c a) (by simp [Op.wf, hc, ha]) d hd
    simp only [Op.assertsOk, Bool.and_eq_true, List.all_eq_true, decide_eq_true_eq] at hass
    gen_simp [iface, Gen.PaddingOperator.modulo, Gen.PaddingOperator.max, ih.max, Nat.lcm_comm d a, hs]
    rw [forEach_ok s [] _ (fun out x => Py.setAdd out (padTo a x % d))]
    · refine ⟨_, rfl, ?_⟩
      simp only [toFinset_foldl_setAdd, Op.modulo, toFinset_dedup]
      exact map_toFinset_congr _ hset
    · intro x hx out
      have h1 := (hass.2 x ((hmem x).mp hx)).1
      have h2 := (hass.2 x ((hmem x).mp hx)).2
      gen_simp [h1, h2]
  · obtain ⟨s, hs, hset⟩ := ih.expand
    gen_simp [iface, Gen.PaddingOperator.expand, hs]
    refine ⟨_, rfl, ?_⟩
    simp only [toFinset_foldl_setAdd, Op.expand, toFinset_dedup]
    exact map_toFinset_congr _ hset

theorem leaf_refines (vs : List Nat) (h : vs ≠ []) : Refines (iface (.leaf vs)) (.leaf vs) := by
  have hs : Py.set vs ≠ [] := set_ne_nil h
  refine ⟨?_, ?_, ?_, ?_⟩
  · gen_simp [iface, Gen.NullaryOperator.min, minOf_ne_nil hs, Op.min]
    rw [minL_eq_of_toFinset (toFinset_set vs) hs]
  · gen_simp [iface, Gen.NullaryOperator.max, maxOf_ne_nil hs, Op.max]
    rw [maxL_eq_of_toFinset (toFinset_set vs) hs]
  · intro d hd
    gen_simp [iface, Gen.NullaryOperator.modulo]
    refine ⟨_, rfl, ?_⟩
    simp only [toFinset_foldl_setAdd, Op.modulo, toFinset_dedup]
    exact map_toFinset_congr _ (toFinset_set vs)
  · gen_simp [iface, Gen.NullaryOperator.expand]
    refine ⟨_, rfl, ?_⟩
    simp only [Op.expand, toFinset_set, toFinset_dedup]

/-- **The generated code refines the model**: for every well-formed operator tree, every method translated from
    `_symbolic.py` returns normally and yields the model's answer (sets compared as finite sets). -/
theorem refines : ∀ o : Op, o.wf = true → Refines (iface o) o :=
  Op.wf_induct
    (leaf := leaf_refines)
    (pad := pad_refines)
    (cat := fun cs _ _ ih => cat_refines cs ih)
    (rep := fun c k _ ih => rep_refines c k ih)
    (rrep := fun c k _ ih => rrep_refines c k ih)
    (uni := fun cs hne _ ih => uni_refines cs hne ih)

end Bridge
