import Gen.Names
import Proofs.RulesCase
import Bridge.Basic
import Bridge.NamesAttr
/-!
  Bridge for the name rules of `pydsdl/_serializable/_name.py` (`Gen/Names.lean`, rewritten from the working tree of /repo on
  every run: `check_name` as a term of `Py.M` with the module constants folded into their use sites, every `re.compile` pattern
  parsed from its source text): for EVERY string the generated `check_name` returns normally exactly when the model's
  `Rules.checkName` says `true` and raises `InvalidNameError` otherwise - never another exception, and never the translation's
  own "non-ASCII" failure (the primitives `Py.strLower` / `Py.Pat.match` are only reached with ASCII subjects).

  Every generated pattern is proved equivalent, as a function of the subject, to the hand-written matcher of the model it
  corresponds to (`void\d*`, `u?int\d*`, `u?q\d+_\d+`, `float\d*`, `com\d`, `lpt\d`, `_.*_`, each with the final `$` of
  `Pattern.match`); the lemmas are stated about the literal regex terms, so a changed pattern leaves `check_name_list` unprovable.

  The proof of `check_name_list` does not follow the shape of today's function.  It computes the weakest precondition `wp` of the
  generated term by rewriting (the simp set `names_wp`: one rule per primitive - bind, `if`, `raise`, `s[0]`, `lower()`, `match`, loops and
  comprehensions over a table unrolled entry by entry, a loop over the characters of the name through the first character on which
  its body raises), once for every non-empty name, and then decides that tree of `if`s under the facts of each case (bad first
  character / some bad character / all characters valid).  In the last case what remains is the loop over the table, and it is
  compared with `Gen.Names.reserved`, the same entries in the same order; `table_any` compares that table with the model's word
  list and matchers modulo associativity and commutativity.  So the order of the table, the split of the table into several
  constants, a loop turned into a comprehension / `next(...)` / `any(...)`, renamed or extracted locals and helpers, reworded
  messages change nothing.
-/
set_option linter.unusedSimpArgs false
set_option linter.unnecessarySeqFocus false
set_option linter.unusedVariables false
open Rules Py Py.Rx

namespace Bridge.Names

/-! ### characters -/

theorem isDigit_eq : Py.Rx.isDigit = Rules.isDigit := rfl

/-- `string.ascii_letters + "_"`, as the translator folds it into `x in …` (sorted, distinct), is the model's `validFirst` -/
theorem charIn_first (c : Char) :
    Py.charIn c ['A', 'B', 'C', 'D', 'E', 'F', 'G', 'H', 'I', 'J', 'K', 'L', 'M', 'N', 'O', 'P', 'Q', 'R', 'S', 'T', 'U', 'V', 'W', 'X',
      'Y', 'Z', '_', 'a', 'b', 'c', 'd', 'e', 'f', 'g', 'h', 'i', 'j', 'k', 'l', 'm', 'n', 'o', 'p', 'q', 'r', 's', 't', 'u', 'v', 'w',
      'x', 'y', 'z'] = validFirst c := by
  show (charRange 65 26 ++ '_' :: charRange 97 26).contains c = _
  rw [Bool.eq_iff_iff, List.contains_iff_mem, validFirst_iff, List.mem_append, List.mem_cons, mem_charRange (by omega),
    mem_charRange (by omega)]
  simp only [← Char.toNat_inj, Char.reduceToNat]
  omega

/-- `string.ascii_letters + "_" + string.digits` (sorted, distinct) is the model's `validCont` -/
theorem charIn_cont (c : Char) :
    Py.charIn c ['0', '1', '2', '3', '4', '5', '6', '7', '8', '9', 'A', 'B', 'C', 'D', 'E', 'F', 'G', 'H', 'I', 'J', 'K', 'L', 'M', 'N',
      'O', 'P', 'Q', 'R', 'S', 'T', 'U', 'V', 'W', 'X', 'Y', 'Z', '_', 'a', 'b', 'c', 'd', 'e', 'f', 'g', 'h', 'i', 'j', 'k', 'l', 'm',
      'n', 'o', 'p', 'q', 'r', 's', 't', 'u', 'v', 'w', 'x', 'y', 'z'] = validCont c := by
  show (charRange 48 10 ++ (charRange 65 26 ++ '_' :: charRange 97 26)).contains c = _
  rw [Bool.eq_iff_iff, List.contains_iff_mem, validCont_iff, List.mem_append, List.mem_append, List.mem_cons,
    mem_charRange (by omega), mem_charRange (by omega), mem_charRange (by omega)]
  simp only [← Char.toNat_inj, Char.reduceToNat]
  omega

theorem lowerChar_eq : Py.lowerChar = Rules.lowerChar := rfl

/-! ### the generated patterns against the hand-written matchers (for every subject) -/

/-- a literal prefix in front of an expression, as the translator's parser nests it -/
def lit : List Char → Rx → Rx
  | [], r => r
  | c :: p, r => .seq (.chr c) (lit p r)

/-- a literal prefix, then `r` on what follows it -/
theorem fullmatch_lit (p : List Char) (r : Rx) (s : List Char) :
    (lit p r).fullmatch s = (p.isPrefixOf s && r.fullmatch (s.drop p.length)) := by
  induction p generalizing s with
  | nil => simp [lit]
  | cons c p ih =>
    cases s with
    | nil => rw [lit, fullmatch_chr_seq_nil]; rfl
    | cons d s =>
      rw [lit, fullmatch_chr_seq_cons, ih, List.isPrefixOf, List.length_cons, List.drop_succ_cons, Bool.beq_comm, Bool.and_assoc]

/-- `<prefix>\d*` -/
theorem fullmatch_lit_digits (p s : List Char) : (lit p (.star .digit)).fullmatch s = matchPrefixDigits p s := by
  rw [fullmatch_lit, fullmatch_star_digit, isDigit_eq]
  rfl

/-- `<prefix>\d` -/
theorem fullmatch_lit_digit (p s : List Char) : (lit p .digit).fullmatch s = matchPrefixDigit p s := by
  rw [fullmatch_lit, fullmatch_digit, isDigit_eq]
  rfl

/-- `void\d*` -/
theorem pat_void (s : List Char) :
    (Rx.seq (.chr 'v') (.seq (.chr 'o') (.seq (.chr 'i') (.seq (.chr 'd') (.star .digit))))).fullmatch s =
      matchPrefixDigits "void".toList s :=
  fullmatch_lit_digits ['v', 'o', 'i', 'd'] s

/-- `float\d*` -/
theorem pat_float (s : List Char) :
    (Rx.seq (.chr 'f') (.seq (.chr 'l') (.seq (.chr 'o') (.seq (.chr 'a') (.seq (.chr 't') (.star .digit)))))).fullmatch s =
      matchPrefixDigits "float".toList s :=
  fullmatch_lit_digits ['f', 'l', 'o', 'a', 't'] s

/-- `u?int\d*` -/
theorem pat_int (s : List Char) :
    (Rx.seq (.opt (.chr 'u')) (.seq (.chr 'i') (.seq (.chr 'n') (.seq (.chr 't') (.star .digit))))).fullmatch s =
      (matchPrefixDigits "uint".toList s || matchPrefixDigits "int".toList s) := by
  rw [fullmatch_opt_seq]
  exact congrArg₂ (· || ·) (fullmatch_lit_digits ['u', 'i', 'n', 't'] s) (fullmatch_lit_digits ['i', 'n', 't'] s)

/-- `com\d` -/
theorem pat_com (s : List Char) :
    (Rx.seq (.chr 'c') (.seq (.chr 'o') (.seq (.chr 'm') .digit))).fullmatch s = matchPrefixDigit "com".toList s :=
  fullmatch_lit_digit ['c', 'o', 'm'] s

/-- `lpt\d` -/
theorem pat_lpt (s : List Char) :
    (Rx.seq (.chr 'l') (.seq (.chr 'p') (.seq (.chr 't') .digit))).fullmatch s = matchPrefixDigit "lpt".toList s :=
  fullmatch_lit_digit ['l', 'p', 't'] s

/-- `\d+_\d+` -/
theorem fullmatch_dud (s : List Char) :
    (Rx.seq (.plus .digit) (.seq (.chr '_') (.plus .digit))).fullmatch s = matchDigitsUnderscoreDigits s := by
  have tail : ∀ u : List Char, (Rx.plus .digit).fullmatch u = (!u.isEmpty && u.all Rules.isDigit) := by
    intro u
    cases u with
    | nil => rfl
    | cons e w => rw [fullmatch_digit_seq_cons, fullmatch_star_digit, isDigit_eq]; rfl
  have hR : ∀ v : List Char, (Rx.seq (.chr '_') (.plus .digit)).fullmatch v =
      (match v with | '_' :: t => !t.isEmpty && t.all Rules.isDigit | _ => false) := by
    intro v
    cases v with
    | nil => rfl
    | cons x u =>
      rw [fullmatch_chr_seq_cons, tail]
      by_cases hx : x = '_'
      · subst hx; rfl
      · have : (x == '_') = false := by simpa using hx
        rw [this, Bool.false_and]
        split
        · rename_i heq; cases heq; exact absurd rfl hx
        · rfl
  have hno : ∀ c s, Py.Rx.isDigit c = true → (Rx.seq (.chr '_') (.plus .digit)).fullmatch (c :: s) = false := by
    intro c s hc
    rw [fullmatch_chr_seq_cons]
    have : (c == '_') = false := by
      rw [beq_eq_false_iff_ne]; rintro rfl; exact absurd hc (by decide)
    rw [this, Bool.false_and]
  rw [fullmatch_seq_assoc]
  unfold matchDigitsUnderscoreDigits
  cases s with
  | nil => rfl
  | cons c t =>
    rw [fullmatch_digit_seq_cons,
      fullmatch_star_char_seq (a := .digit) (p := Py.Rx.isDigit) rfl _ hno, hR, isDigit_eq]
    cases hc : Rules.isDigit c
    · simp [List.takeWhile, hc]
    · simp [List.takeWhile, List.dropWhile, hc]
      rfl

/-- `u?q\d+_\d+` -/
theorem pat_q (s : List Char) :
    (Rx.seq (.opt (.chr 'u')) (.seq (.chr 'q') (.seq (.plus .digit) (.seq (.chr '_') (.plus .digit))))).fullmatch s = matchQ s := by
  rw [fullmatch_opt_seq]
  unfold matchQ
  split
  · simp [fullmatch_dud]
  · simp [fullmatch_dud]
  · rename_i h1 h2
    cases s with
    | nil => rfl
    | cons c t =>
      rw [fullmatch_chr_seq_cons, fullmatch_chr_seq_cons]
      have hq : (c == 'q') = false := by
        rw [beq_eq_false_iff_ne]; rintro rfl; exact h2 t rfl
      rw [hq, Bool.false_and, Bool.or_false]
      cases t with
      | nil => simp [nullable]
      | cons d t =>
        rw [fullmatch_chr_seq_cons]
        by_cases hu : c = 'u'
        · subst hu
          have hd : (d == 'q') = false := by
            rw [beq_eq_false_iff_ne]; rintro rfl; exact h1 t rfl
          simp [hd]
        · have : (c == 'u') = false := by simpa using hu
          simp [this]

/-- `_.*_` on a subject without line feeds (`.` does not match one; the model's matcher does not look) -/
theorem pat_underscores (s : List Char) (hs : ∀ c ∈ s, c ≠ '\n') :
    (Rx.seq (.chr '_') (.seq (.star .any) (.chr '_'))).fullmatch s = matchUnderscores s := by
  have key : ∀ t : List Char, (∀ c ∈ t, c ≠ '\n') →
      (Rx.seq (.star .any) (.chr '_')).fullmatch t = (match t.getLast? with | some '_' => true | _ => false) := by
    intro t ht
    rw [Bool.eq_iff_iff, fullmatch_seq_iff]
    simp only [fullmatch_star_any, fullmatch_iff, matches_chr]
    constructor
    · rintro ⟨s1, s2, rfl, _, rfl⟩
      simp
    · intro h
      split at h
      · rename_i hl
        obtain ⟨ys, rfl⟩ := List.getLast?_eq_some_iff.mp hl
        refine ⟨ys, ['_'], rfl, ?_, rfl⟩
        simp only [List.all_eq_true, bne_iff_ne]
        exact fun c hc => ht c (by simp [hc])
      · cases h
  unfold matchUnderscores
  cases s with
  | nil => rfl
  | cons c t =>
    rw [fullmatch_chr_seq_cons, key t fun c hc => hs c (by simp [hc])]
    by_cases hc : c = '_'
    · subst hc; rfl
    · have : (c == '_') = false := by simpa using hc
      rw [this, Bool.false_and]
      split
      · rename_i heq; cases heq; exact absurd rfl hc
      · rfl


/-! ### `check_name` -/

def E : Py.Err := .other "InvalidNameError"

/-! ### weakest preconditions -/
def wp {α : Type} (x : Py.M α) (Q : α → Prop) (R : Py.Err → Prop) : Prop :=
  match x with
  | .ok a => Q a
  | .error e => R e

theorem wp_ok {α : Type} (a : α) (Q : α → Prop) (R : Py.Err → Prop) : wp (Except.ok a) Q R = Q a := rfl
theorem wp_error {α : Type} (e : Py.Err) (Q : α → Prop) (R : Py.Err → Prop) : wp (Except.error e : Py.M α) Q R = R e := rfl
theorem wp_pure {α : Type} (a : α) (Q : α → Prop) (R : Py.Err → Prop) : wp (pure a : Py.M α) Q R = Q a := rfl
theorem wp_throw {α : Type} (e : Py.Err) (Q : α → Prop) (R : Py.Err → Prop) : wp (throw e : Py.M α) Q R = R e := rfl
theorem wp_bind {α β : Type} (x : Py.M α) (f : α → Py.M β) (Q : β → Prop) (R : Py.Err → Prop) :
    wp (x >>= f) Q R = wp x (fun a => wp (f a) Q R) R := by
  cases x <;> rfl
theorem wp_ite {α : Type} (c : Prop) [Decidable c] (x y : Py.M α) (Q : α → Prop) (R : Py.Err → Prop) :
    wp (if c then x else y) Q R = if c then wp x Q R else wp y Q R := by
  split <;> rfl

theorem eq_of_wp (x : Py.M Unit) (v : Bool) (h : wp x (fun _ => v = true) (fun e => e = E ∧ v = false)) :
    x = if v then .ok () else .error E := by
  cases x with
  | ok a => simp only [wp] at h; simp [h]
  | error e => simp only [wp] at h; simp [h.1, h.2]

theorem wp_strIndex_cons_zero (c : Char) (s : List Char) (Q : Char → Prop) (R : Py.Err → Prop) :
    wp (Py.strIndex (c :: s) 0) Q R = Q c := rfl
theorem wp_strIndex_nil (i : Nat) (Q : Char → Prop) (R : Py.Err → Prop) :
    wp (Py.strIndex [] i) Q R = R (.other "IndexError") := rfl
theorem wp_strLower (s : List Char) (Q : Py.Str → Prop) (R : Py.Err → Prop) :
    wp (Py.strLower s) Q R = if s.all Py.isAscii = true then Q (lower s) else R (.other "non-ASCII") := by
  unfold Py.strLower lower
  rw [lowerChar_eq]
  split <;> rfl
theorem wp_match_re (r : Rx) (d : Bool) (s : List Char) (Q : Bool → Prop) (R : Py.Err → Prop) :
    wp (Py.Pat.match (.re r d) s) Q R = if s.all Py.isAscii = true then Q (r.pyMatch d s) else R (.other "non-ASCII") := by
  show wp (if s.all Py.isAscii = true then pure (r.pyMatch d s) else throw (.other "non-ASCII")) Q R = _
  rw [wp_ite]; rfl
theorem wp_match_str (w : Py.Str) (s : List Char) (Q : Bool → Prop) (R : Py.Err → Prop) :
    wp (Py.Pat.match (.str w) s) Q R = R (.other "AttributeError") := rfl
theorem wp_fullmatch_re (r : Rx) (d : Bool) (s : List Char) (Q : Bool → Prop) (R : Py.Err → Prop) :
    wp (Py.Pat.fullmatch (.re r d) s) Q R = if s.all Py.isAscii = true then Q (r.fullmatch s) else R (.other "non-ASCII") := by
  show wp (if s.all Py.isAscii = true then pure (r.fullmatch s) else throw (.other "non-ASCII")) Q R = _
  rw [wp_ite]; rfl
theorem wp_fullmatch_str (w : Py.Str) (s : List Char) (Q : Bool → Prop) (R : Py.Err → Prop) :
    wp (Py.Pat.fullmatch (.str w) s) Q R = R (.other "AttributeError") := rfl

/-! loops over a table: unrolled -/
theorem forEach_pat_nil (body : Unit → Py.Pat → Py.M Unit) : Py.forEach ([] : List Py.Pat) () body = pure () := rfl
theorem forEach_pat_cons (a : Py.Pat) (l : List Py.Pat) (body : Unit → Py.Pat → Py.M Unit) :
    Py.forEach (a :: l) () body = body () a >>= fun _ => Py.forEach l () body := by
  unfold Py.forEach; rw [List.foldlM_cons]
theorem filterM_pat_nil (f : Py.Pat → Py.M Bool) : Py.filterM ([] : List Py.Pat) f = pure [] := rfl
theorem filterM_pat_cons (a : Py.Pat) (l : List Py.Pat) (f : Py.Pat → Py.M Bool) :
    Py.filterM (a :: l) f = f a >>= fun b => Py.filterM l f >>= fun r => pure (if b then a :: r else r) := rfl
theorem anyM_pat_nil (f : Py.Pat → Py.M Bool) : Py.anyM ([] : List Py.Pat) f = pure false := rfl
theorem anyM_pat_cons (a : Py.Pat) (l : List Py.Pat) (f : Py.Pat → Py.M Bool) :
    Py.anyM (a :: l) f = f a >>= fun b => if b then pure true else Py.anyM l f := rfl
theorem allM_pat_nil (f : Py.Pat → Py.M Bool) : Py.allM ([] : List Py.Pat) f = pure true := rfl
theorem allM_pat_cons (a : Py.Pat) (l : List Py.Pat) (f : Py.Pat → Py.M Bool) :
    Py.allM (a :: l) f = f a >>= fun b => if b then Py.allM l f else pure false := rfl

/-! the same over the characters of the name, when the condition cannot raise -/
theorem filterM_pure {α : Type} (l : List α) (p : α → Bool) : Py.filterM l (fun x => (pure (p x))) = pure (l.filter p) := by
  induction l with
  | nil => rfl
  | cons a l ih => simp only [Py.filterM, ih, List.filter_cons]; cases p a <;> rfl
theorem anyM_pure {α : Type} (l : List α) (p : α → Bool) : Py.anyM l (fun x => (pure (p x))) = pure (l.any p) := by
  induction l with
  | nil => rfl
  | cons a l ih => simp only [Py.anyM, ih, List.any_cons]; cases p a <;> rfl
theorem allM_pure {α : Type} (l : List α) (p : α → Bool) : Py.allM l (fun x => (pure (p x))) = pure (l.all p) := by
  induction l with
  | nil => rfl
  | cons a l ih => simp only [Py.allM, ih, List.all_cons]; cases p a <;> rfl

theorem filter_pat_nil (p : Py.Pat → Bool) : ([] : List Py.Pat).filter p = [] := rfl
theorem filter_pat_cons (a : Py.Pat) (l : List Py.Pat) (p : Py.Pat → Bool) :
    (a :: l).filter p = if p a = true then a :: l.filter p else l.filter p := List.filter_cons

theorem isEmpty_ite_cons {α : Type} (b : Bool) (a : α) (r : List α) : (if b = true then a :: r else r).isEmpty = (!b && r.isEmpty) := by
  cases b <;> simp

/-! loops over the characters of the name: the first character on which the body raises decides -/
def errOf (x : Py.M Unit) : Option Py.Err :=
  match x with
  | .ok _ => none
  | .error e => some e
def optCase (o : Option Py.Err) (Q : Prop) (R : Py.Err → Prop) : Prop :=
  match o with
  | none => Q
  | some e => R e

theorem errOf_pure : errOf (pure ()) = none := rfl
theorem errOf_ok : errOf (.ok ()) = none := rfl
theorem errOf_throw (e : Py.Err) : errOf (throw e) = some e := rfl
theorem errOf_error (e : Py.Err) : errOf (.error e) = some e := rfl
theorem errOf_ite (c : Prop) [Decidable c] (x y : Py.M Unit) : errOf (if c then x else y) = if c then errOf x else errOf y := by
  split <;> rfl
theorem errOf_bind (x : Py.M Unit) (f : Unit → Py.M Unit) : errOf (x >>= f) = (errOf x).orElse fun _ => errOf (f ()) := by
  cases x <;> rfl
theorem optCase_none (Q : Prop) (R : Py.Err → Prop) : optCase none Q R = Q := rfl
theorem optCase_some (e : Py.Err) (Q : Prop) (R : Py.Err → Prop) : optCase (some e) Q R = R e := rfl
theorem optCase_ite (c : Prop) [Decidable c] (a b : Option Py.Err) (Q : Prop) (R : Py.Err → Prop) :
    optCase (if c then a else b) Q R = if c then optCase a Q R else optCase b Q R := by
  split <;> rfl

theorem wp_forEach_chars (l : List Char) (body : Unit → Char → Py.M Unit) (Q : Unit → Prop) (R : Py.Err → Prop) :
    wp (Py.forEach l () body) Q R = optCase (l.findSome? fun x => errOf (body () x)) (Q ()) R := by
  unfold Py.forEach
  induction l with
  | nil => rfl
  | cons a l ih =>
    rw [List.foldlM_cons, wp_bind, List.findSome?_cons]
    cases h : body () a with
    | ok u => simp only [wp, errOf]; exact ih
    | error e => simp only [wp, errOf, optCase]

theorem findSome?_ite {α β : Type} (l : List α) (p : α → Bool) (e : β) :
    (l.findSome? fun x => if p x = true then some e else none) = if l.any p = true then some e else none := by
  induction l with
  | nil => rfl
  | cons a l ih =>
    rw [List.findSome?_cons, List.any_cons]
    cases h : p a <;> simp [ih]

theorem findSome?_ite' {α β : Type} (l : List α) (p : α → Bool) (e : β) :
    (l.findSome? fun x => if p x = true then none else some e) = if l.all p = true then none else some e := by
  induction l with
  | nil => rfl
  | cons a l ih =>
    rw [List.findSome?_cons, List.all_cons]
    cases h : p a <;> simp [ih]

theorem isAscii_of_validCont {c : Char} (h : validCont c = true) : Py.isAscii c = true := by
  have := (validCont_iff c).mp h
  simp only [Py.isAscii, decide_eq_true_eq]; omega

theorem ne_newline_of_validCont {c : Char} (h : validCont c = true) : c ≠ '\n' := by
  rintro rfl; exact absurd h (by decide)

theorem validCont_lowerChar {c : Char} (h : validCont c = true) : validCont (Rules.lowerChar c) = true := by
  rw [validCont_lower, h]

/-! facts about table entries, as proper rewrite rules (not `rfl`-lemmas: `simp` must rebuild the `Decidable` instances of the
    conditions it rewrites) -/
theorem isStr_str (w : Py.Str) : (Pat.str w).isStr = true := id rfl
theorem isStr_re (r : Rx) (d : Bool) : (Pat.re r d).isStr = false := id rfl
theorem eqStr_str (w s : Py.Str) : (Pat.str w).eqStr s = (w == s) := id rfl
theorem eqStr_re (r : Rx) (d : Bool) (s : Py.Str) : (Pat.re r d).eqStr s = false := id rfl
theorem strInTable_nil (s : Py.Str) : Py.strInTable s [] = false := id rfl
theorem strInTable_cons (s : Py.Str) (p : Py.Pat) (t : List Py.Pat) : Py.strInTable s (p :: t) = (p.eqStr s || Py.strInTable s t) := id rfl

/-! the end of the computation: a decision tree over boolean conditions whose leaves say what the verdict must be -/
theorem ite_push (c v a b : Bool) : (if c = true then v = a else v = b) = (v = bif c then a else b) := by
  cases c <;> rfl
theorem cond_true_left' (c b : Bool) : (bif c then true else b) = (c || b) := by cases c <;> rfl
theorem cond_false_left' (c b : Bool) : (bif c then false else b) = (!c && b) := by cases c <;> rfl
theorem cond_true_right' (c a : Bool) : (bif c then a else true) = (!c || a) := by cases c <;> cases a <;> rfl
theorem cond_false_right' (c a : Bool) : (bif c then a else false) = (c && a) := by cases c <;> cases a <;> rfl

/-! The rules that compute the weakest precondition of the generated `check_name`; a call is
    `simp only [names_wp, ↓reduceIte, Gen.Names.check_name, <facts about the name>]`. -/
attribute [names_wp] wp_bind wp_ite wp_pure wp_throw wp_ok wp_error wp_strIndex_cons_zero wp_strIndex_nil wp_strLower wp_match_re
  wp_match_str wp_fullmatch_re wp_fullmatch_str forEach_pat_nil forEach_pat_cons filterM_pat_nil filterM_pat_cons anyM_pat_nil
  anyM_pat_cons allM_pat_nil allM_pat_cons wp_forEach_chars errOf_pure errOf_ok errOf_throw errOf_error errOf_ite errOf_bind
  findSome?_ite findSome?_ite' optCase_none optCase_some optCase_ite charIn_first charIn_cont List.isEmpty_cons List.isEmpty_nil
  Bool.false_eq_true Bool.not_true Bool.not_false Bool.not_not if_false if_true isStr_str isStr_re eqStr_str eqStr_re strInTable_nil
  strInTable_cons Option.isSome_none Option.isNone_none Option.isSome_some Option.isNone_some isEmpty_ite_cons filterM_pure anyM_pure
  allM_pure filter_pat_cons filter_pat_nil List.head?_cons List.head?_nil

/-- what one entry of a table does with the (lower-cased) name -/
def hits (n : List Char) : Py.Pat → Bool
  | .str w => w == n
  | .re r dollar => r.pyMatch dollar n

/-- Every string and pattern `check_name` consults (`Gen.Names.reserved`: the entries of the module-level tables it uses, parsed
    from the source) - together they hit a name of valid characters exactly when the model's word list or one of its hand-written
    matchers does. -/
theorem table_any (n : List Char) (hclean : ∀ x ∈ n, validCont x = true) :
    Gen.Names.reserved.any (hits n) = ((reservedWords.any fun w => w.toList == n) || matchesPattern n) := by
  have hnl : ∀ x ∈ n, x ≠ '\n' := fun x hx => ne_newline_of_validCont (hclean x hx)
  have hlast : n.getLast? ≠ some '\n' := fun h => hnl _ (List.mem_of_getLast? h) rfl
  simp only [Gen.Names.reserved, reservedWords_any, reservedChars, matchesPattern, List.any_cons, List.any_nil, hits,
    pyMatch_dollar_eq _ _ hlast, pat_void, pat_int, pat_q, pat_float, pat_com, pat_lpt, pat_underscores n hnl, Bool.or_false]
  ac_rfl

/-- on a name of valid characters the verdict is decided by the table alone -/
theorem checkChars_clean {c : Char} {rest : List Char} (hf : validFirst c = true) (hall : (c :: rest).all validCont = true)
    (hclean : ∀ x ∈ lower (c :: rest), validCont x = true) :
    checkChars (c :: rest) = !Gen.Names.reserved.any (hits (lower (c :: rest))) := by
  rw [table_any _ hclean, reservedWords_any, checkChars, hf, hall, Bool.not_or, Bool.and_assoc]
  rfl

theorem check_name_list (s : List Char) :
    Gen.Names.check_name s = if checkChars s then .ok () else .error E := by
  apply eq_of_wp
  cases s with
  | nil => exact ⟨rfl, rfl⟩
  | cons c rest =>
    -- the weakest precondition for a non-empty name, computed once: a tree of `if`s over the checks in program order
    simp only [names_wp, ↓reduceIte, Gen.Names.check_name]
    by_cases hf : validFirst c = true
    · by_cases hall : (c :: rest).all validCont = true
      · have h1 : (c :: rest).any (fun ch => !validCont ch) = false := by
          rw [← List.not_all_eq_any_not, hall]; rfl
        have h2 : (c :: rest).filter (fun ch => !validCont ch) = [] := List.filter_eq_nil_iff.mpr (List.any_eq_false.mp h1)
        have h3 : (c :: rest).find? (fun ch => !validCont ch) = none := List.find?_eq_none.mpr (List.any_eq_false.mp h1)
        have hasc : (c :: rest).all Py.isAscii = true :=
          List.all_eq_true.mpr fun x hx => isAscii_of_validCont (List.all_eq_true.mp hall x hx)
        have hclean : ∀ x ∈ lower (c :: rest), validCont x = true := by
          intro x hx
          obtain ⟨y, hy, rfl⟩ := List.mem_map.mp hx
          exact validCont_lowerChar (List.all_eq_true.mp hall y hy)
        have hasc' : (lower (c :: rest)).all Py.isAscii = true :=
          List.all_eq_true.mpr fun x hx => isAscii_of_validCont (hclean x hx)
        simp only [names_wp, ↓reduceIte, hf, h1, h2, h3, hall, hasc, hasc']
        -- what is left is the loop over the table: leaves `verdict = true` (falls off the end) / `InvalidNameError ∧ verdict = false`
        simp only [E, true_and, ite_push, checkChars_clean hf hall hclean]
        -- both sides are a conjunction over the entries `hits` of the table: the same one when the program consults them in the
        -- order of the table, the same up to associativity and commutativity otherwise
        simp only [Gen.Names.reserved, List.any_cons, List.any_nil, hits, cond_true_left', cond_false_left', cond_true_right',
          cond_false_right', Bool.not_or, Bool.not_and, Bool.not_not, Bool.not_true, Bool.not_false, Bool.or_false, Bool.false_or,
          Bool.and_true, Bool.true_and, Bool.or_true, Bool.true_or, Bool.and_false, Bool.false_and] <;> ac_rfl
      · have hall' : (c :: rest).all validCont = false := by simpa using hall
        have h1 : (c :: rest).any (fun ch => !validCont ch) = true := by
          rw [← List.not_all_eq_any_not, hall']; rfl
        have h2 : ((c :: rest).filter (fun ch => !validCont ch)).isEmpty = false := by
          rw [List.isEmpty_eq_false_iff, Ne, List.filter_eq_nil_iff]
          intro h
          obtain ⟨x, hx, hv⟩ := List.any_eq_true.mp h1
          exact h x hx hv
        have h3 : ((c :: rest).find? (fun ch => !validCont ch)).isSome = true :=
          List.find?_isSome.mpr (List.any_eq_true.mp h1)
        have h3' : ((c :: rest).find? (fun ch => !validCont ch)).isNone = false := by
          rw [← Option.not_isSome, h3]; rfl
        simp only [names_wp, ↓reduceIte, hf, h1, h2, h3, h3', hall']
        simp [E, checkChars, hall']
    · have hf' : validFirst c = false := by simpa using hf
      simp only [names_wp, ↓reduceIte, hf']
      simp [E, checkChars, hf']

/-- the same for the model's `checkName : String → Bool` -/
theorem check_name_eq (name : String) :
    Gen.Names.check_name name.toList = if checkName name then .ok () else .error E := by
  rw [checkName_eq_chars]; exact check_name_list name.toList

end Bridge.Names
