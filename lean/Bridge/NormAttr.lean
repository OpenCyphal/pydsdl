import Lean.Meta.Tactic.Simp.RegisterCommand
/-- The rewrite rules of `py_simp`: the normal form of generated code (`Bridge/Basic.lean`, namespace `Bridge.Robust`). -/
register_simp_attr py_norm
