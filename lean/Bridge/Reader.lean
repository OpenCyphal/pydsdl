import Bridge.Basic
import Gen.Reader
import Proofs.Reader
/-!
  Bridge for the comment / attribute / line-number automaton of the pydsdl front end (`_ParseTreeProcessor` and `parse` of
  `_parser.py`, `DataTypeBuilder`, `DataSchemaBuilder`, `Error.set_error_location_if_unknown`), translated into
  `Gen/Reader.lean` on every run, against the hand-written model `Model/Reader.lean`.

  The generated code is parametric in the opaque payloads (paths `P`, types `T`, expression values `V`, attribute objects `A`,
  the lookup definitions `L`, the print handler `H`), in the opaque callees (`Env`) and in the meaning `ext` of the visitors
  that are not translated.  The bridge instantiates them from the model: an attribute statement's type payload is the model
  attribute it will become (with the number of its line and the flag "its constructor raises"), an expression value is what the
  model records of it, the lookup definitions are the model's cache, the print handler is the list of deliveries, and the
  untranslated visitors do what the model says a statement's children do (`Ext`: a fault, the resolution of an identifier
  against the constants of the current schema, the evaluation of `_offset_`, the read of a referenced definition).

  `lineEvents k l` is the event stream of the abstract line `l` with number `k` in the order the visitors run; `docEvents` that of
  a document.  Main theorem `gen_parse`: running the generated `parse` over the stream of a document computes exactly what
  `Reader.runLines` followed by the end-of-text `Reader.flush` computes -- the same schemas with the same attributes in the same
  order with the same doc comments, the same header comments, the same pending state, the same `@print` deliveries with the same
  lines, the same cache; and when the model fails, the generated code raises an `_error.Error` whose path and line (after
  `DSDLDefinition.read` has filled in a missing path) are the model's, with the same deliveries made.

  A proof about a generated method runs it once on a symbolic state with the simp set `py_run` (the equations of the `Py.SM`
  combinators and the closed forms proved here) and decides the guards by cases afterwards, so that neither the order in which
  the code tests them nor a helper extracted or inlined (`py_helper`) matters.
-/
set_option linter.unusedSimpArgs false
set_option linter.unusedVariables false
open Reader Gen.Reader
open Py hiding M Err

attribute [py_run] SM.run_pure SM.run_bind SM.run_get SM.run_modify SM.run_throw SM.run_tryCatch SM.run_lift SM.run_zoom SM.run_onObj
  SM.run_ite SM.run_assert_true SM.run_assert_false Res.andThen_ok Res.andThen_error Res.andThen_ite Res.orElse_ok Res.orElse_error
  Res.detach_ok Res.detach_error

namespace Bridge.Rd

/-! ### the instantiation -/

/-- the type payload of an attribute statement: the model attribute it becomes, and whether its constructor raises -/
abbrev TyP := Attr × Bool
/-- an expression value: what the builder sees of it, and its rendering -/
abbrev ValP := EVal × String
abbrev LookP := List (Nat × Composite)
abbrev HandP := List Print

abbrev GErr := ErrorS Nat
abbrev GExc := Gen.Reader.Exc Nat
abbrev GSchema := SchemaS Attr
abbrev GBuilder := BuilderS Nat TyP ValP Attr LookP HandP
abbrev GParser := ParserS Nat TyP ValP Attr LookP HandP

/-- what the untranslated visitors do to the statement stream processor -/
inductive Ext where
  /-- the statement's own fault (`Phase.pre`, `Phase.mid`) -/
  | fail
  /-- `resolve_top_level_identifier(r)` -/
  | resolve (r : String)
  /-- `resolve_top_level_identifier("_offset_")` -/
  | offset
  /-- `resolve_versioned_data_type` of definition `j` -/
  | dep (j : Nat)
  deriving Repr, DecidableEq

abbrev GEvent := Event TyP ValP Ext

def blank : GErr := ⟨none, none⟩
attribute [py_run] blank Error.init

def viewOf : EVal → ExprView
  | .boolean b => .boolean b
  | .rational _ => .rational
  | .other => .other

def mkAttr (t : TyP) (doc : Str) : Except GExc Attr :=
  if t.2 then .error (.dsdl blank) else .ok { t.1 with doc := String.ofList doc }

def env (c : Ctx) : Env Nat TyP ValP Attr HandP where
  Field t _ doc := mkAttr t doc
  PaddingField t doc := mkAttr t doc
  Constant t _ _ doc := mkAttr t doc
  parse_string_literal _ := .ok (.other, "")
  view v := viewOf v.1
  as_native_integer v := match v.1 with
    | .rational n => .ok n
    | _ => .error (.dsdl blank)
  str v := v.2.toList
  call_print_output_handler h line text := h ++ [⟨c.printFile, line, String.ofList text⟩]

def ofMode : Mode → SerializationMode
  | .sealed => .SealedSerializationMode
  | .extent n => .DelimitedSerializationMode n

def toMode : SerializationMode → Mode
  | .SealedSerializationMode => .sealed
  | .DelimitedSerializationMode n => .extent n

def ofSchema (sc : Schema) : GSchema :=
  { fields := sc.fields, constants := sc.consts, serialization_mode := sc.mode.map ofMode, is_union := sc.union,
    bit_length_computed_at_least_once := sc.offsetUsed, doc := sc.doc.toList }

def ofPending (p : Attr × Bool) : Callback TyP ValP :=
  match p.1.core.kind with
  | .field => .on_field p p.1.core.name.toList
  | .padding => .on_padding_field p
  | .const => .on_constant p p.1.core.name.toList (.other, p.1.core.value)

/-- the builder that corresponds to a model state -/
def ofB (c : Ctx) (s : St) : GBuilder :=
  { definition_file_path := c.self, lookup_definitions := s.w.cached, print_output_handler := s.w.prints,
    element_callback := s.pending.map ofPending, structs := (s.done ++ [s.cur]).map ofSchema, is_deprecated := s.deprecated }

/-- the visitor that corresponds to a model state on line `k` with `br` line breaks seen inside string literals -/
def ofSt (c : Ctx) (strict : Bool) (s : St) (k br : Nat) : GParser :=
  { statement_stream_processor := ofB c s, current_line_number := k, comment := s.comment.toList, comment_is_header := s.header,
    last_attribute_line_number := s.lastAttrLine, line_breaks_inside_literals := br, strict := strict }

def worldOf (g : GParser) : W := ⟨g.statement_stream_processor.lookup_definitions, g.statement_stream_processor.print_output_handler⟩

/-- the meaning of the untranslated visitors, from the model (`resolveRefs`, `markOffs`, `readDeps`, the fault markers) -/
def ext (c : Ctx) : Ext → SM GBuilder GExc Unit
  | .fail => SM.throw (.dsdl blank)
  | .resolve r => fun b =>
    match b.structs.getLast? with
    | some sc => if (sc.constants.any fun a => a.core.name == r) then (.ok (), b) else (.error (.dsdl blank), b)
    | none => (.error (.dsdl blank), b)
  | .offset => fun b =>
    match b.structs.getLast? with
    | some sc => (.ok (), { b with structs := b.structs.dropLast ++ [{ sc with bit_length_computed_at_least_once := true }] })
    | none => (.error (.dsdl blank), b)
  | .dep j => fun b =>
    if c.ndefs ≤ j then (.error (.dsdl blank), b)
    else match c.depRead ⟨b.lookup_definitions, b.print_output_handler⟩ j with
      | (w', none) => (.ok (), { b with lookup_definitions := w'.cached, print_output_handler := w'.prints })
      | (w', some e) => (.error (.dsdl ⟨some e.file, e.line⟩), { b with lookup_definitions := w'.cached, print_output_handler := w'.prints })


/-! ### `Error` and `DataSchemaBuilder`: closed forms (for every instantiation) -/

section generic
variable {P T V A L H : Type}

theorem run_set_location (e : ErrorS P) (p : Option P) (l : Option Nat) :
    (Error.set_error_location_if_unknown p l : SM (ErrorS P) (Gen.Reader.Exc P) Unit).run e =
      (.ok (), { path := if e.path.isSome then e.path else p,
                 line := if truthyOptInt e.line then e.line else if truthyOptInt l then l else e.line }) := by
  obtain ⟨ep, el⟩ := e
  simp only [Error.set_error_location_if_unknown, py_run, py_helper]
  generalize truthyOptInt el = a
  generalize truthyOptInt l = b
  cases ep <;> cases p <;> cases a <;> cases b <;> rfl

@[py_run] theorem run_path (e : ErrorS P) : (Error.path : SM (ErrorS P) (Gen.Reader.Exc P) _).run e = (.ok e.path, e) := by
  simp only [Error.path, py_run, py_helper]

variable (t : SchemaS A)

@[py_run] theorem run_union : (DataSchemaBuilder.union : SM (SchemaS A) (Gen.Reader.Exc P) _).run t = (.ok t.is_union, t) := by
  simp only [DataSchemaBuilder.union, py_run, py_helper]
@[py_run] theorem run_serialization_mode :
    (DataSchemaBuilder.serialization_mode : SM (SchemaS A) (Gen.Reader.Exc P) _).run t = (.ok t.serialization_mode, t) := by
  simp only [DataSchemaBuilder.serialization_mode, py_run, py_helper]
@[py_run] theorem run_attributes :
    (DataSchemaBuilder.attributes : SM (SchemaS A) (Gen.Reader.Exc P) _).run t = (.ok (t.fields ++ t.constants), t) := by
  simp only [DataSchemaBuilder.attributes, DataSchemaBuilder.fields, DataSchemaBuilder.constants, py_run, py_helper, List.nil_append]
@[py_run] theorem run_set_comment (d : Str) :
    (DataSchemaBuilder.set_comment d : SM (SchemaS A) (Gen.Reader.Exc P) _).run t = (.ok (), { t with doc := d }) := by
  simp only [DataSchemaBuilder.set_comment, py_run, py_helper]
@[py_run] theorem run_add_field (a : A) :
    (DataSchemaBuilder.add_field a : SM (SchemaS A) (Gen.Reader.Exc P) _).run t =
      if t.is_union && t.bit_length_computed_at_least_once then (.error (.dsdl ⟨none, none⟩), t)
      else (.ok (), { t with fields := t.fields ++ [a] }) := by
  -- whichever way round the code tests the two flags
  simp only [DataSchemaBuilder.add_field, py_run, py_helper] <;>
    cases t.is_union <;> cases t.bit_length_computed_at_least_once <;> rfl
@[py_run] theorem run_add_constant (a : A) :
    (DataSchemaBuilder.add_constant a : SM (SchemaS A) (Gen.Reader.Exc P) _).run t = (.ok (), { t with constants := t.constants ++ [a] }) := by
  simp only [DataSchemaBuilder.add_constant, py_run, py_helper]
@[py_run] theorem run_set_serialization_mode (m : SerializationMode) (h : t.serialization_mode = none) :
    (DataSchemaBuilder.set_serialization_mode m : SM (SchemaS A) (Gen.Reader.Exc P) _).run t =
      (.ok (), { t with serialization_mode := some m }) := by
  simp only [DataSchemaBuilder.set_serialization_mode, h, Option.isNone_none, py_run, py_helper]
@[py_run] theorem run_make_union (h : t.is_union = false) :
    (DataSchemaBuilder.make_union : SM (SchemaS A) (Gen.Reader.Exc P) _).run t = (.ok (), { t with is_union := true }) := by
  simp only [DataSchemaBuilder.make_union, h, Bool.not_false, py_run, py_helper]

end generic


/-! ### the visitor: facts that hold for every instantiation (no model involved) -/

section frame
variable {P T V A L H : Type} (en : Env P T V A H)

/-- the visitor's own bookkeeping: line counter, line of the waiting attribute, line breaks seen in literals -/
def Book (g g' : ParserS P T V A L H) : Prop :=
  g'.current_line_number = g.current_line_number ∧ g'.last_attribute_line_number = g.last_attribute_line_number ∧
    g'.line_breaks_inside_literals = g.line_breaks_inside_literals

theorem Book.rfl' (g : ParserS P T V A L H) : Book g g := ⟨rfl, rfl, rfl⟩
theorem Book.trans' {g g' g'' : ParserS P T V A L H} (a : Book g g') (b : Book g' g'') : Book g g'' :=
  ⟨b.1.trans a.1, b.2.1.trans a.2.1, b.2.2.trans a.2.2⟩

/-- `visit_end_of_line` advances the line counter by one plus the line breaks seen inside the string literals of the line and
    forgets those -/
theorem visit_end_of_line_run (g : ParserS P T V A L H) :
    (ParseTreeProcessor.visit_end_of_line en).run g =
      (.ok (), { g with current_line_number := g.current_line_number + (1 + g.line_breaks_inside_literals),
                        line_breaks_inside_literals := 0 }) := by
  simp only [ParseTreeProcessor.visit_end_of_line, py_run, py_helper]

/-- a string literal adds the number of its raw line breaks -/
theorem visit_literal_string_run (g : ParserS P T V A L H) (t : Str) (v : V) (h : en.parse_string_literal t = .ok v) :
    (ParseTreeProcessor.visit_literal_string en t).run g =
      (.ok v, { g with line_breaks_inside_literals := g.line_breaks_inside_literals + t.count '\n' }) := by
  simp only [ParseTreeProcessor.visit_literal_string, h, strCountChar, py_run, py_helper]

/-- the text of a comment node without its `#` and without ONE blank behind it -/
def stripComment : Str → Str
  | ' ' :: r => r
  | t => t

/-- **`visit_comment`**, whatever the payloads: the comment node `#t` appends `t` without one leading blank to the pending
    comment, behind a line feed unless the pending comment is empty; nothing else changes. -/
theorem visit_comment_run (g : ParserS P T V A L H) (t : Str) :
    (ParseTreeProcessor.visit_comment en ('#' :: t)).run g =
      (.ok (), { g with comment := g.comment ++ (if g.comment = [] then [] else ['\n']) ++ stripComment t }) := by
  have e : (if strStartsWith ('#' :: t) ['#', ' '] then ('#' :: t).drop 2 else ('#' :: t).drop 1) = stripComment t := by
    unfold strStartsWith stripComment
    rcases t with _ | ⟨a, r⟩
    · simp
    · by_cases ha : a = ' '
      · subst ha; simp
      · have ha2 : ¬ (' ' = a) := fun h => ha h.symm
        rw [if_neg (by simp [List.isPrefixOf, ha2])]
        split
        · rename_i heq; simp at heq; exact absurd heq.1 ha
        · simp
  simp only [ParseTreeProcessor.visit_comment, e, py_run, py_helper]
  by_cases h : g.comment = [] <;> simp [h]

/-- `ex.set_error_location_if_unknown(line=la or None)`: a line that is known (not 0) stays -/
def atLine (la : Nat) (e : ErrorS P) : ErrorS P :=
  { e with line := if truthyOptInt e.line then e.line else if la = 0 then e.line else some la }

theorem run_set_line (la : Nat) (e : ErrorS P) :
    (Error.set_error_location_if_unknown none (intOrNone la) : SM (ErrorS P) (Gen.Reader.Exc P) Unit).run e = (.ok (), atLine la e) := by
  rw [run_set_location]
  obtain ⟨p, l⟩ := e
  cases p <;> by_cases h : la = 0 <;> simp [atLine, intOrNone, truthyOptInt, h]

/-- what `_flush_comment` makes of the outcome of the builder's `on_header_comment` / `on_attribute_comment`: the comment is
    consumed; an `_error.Error` raised while the queued attribute is committed gets the line of that attribute's statement -/
def flushed (g : ParserS P T V A L H) : Res (BuilderS P T V A L H) (Gen.Reader.Exc P) Unit → Res (ParserS P T V A L H) (Gen.Reader.Exc P) Unit
  | (.ok _, b) => (.ok (), { g with statement_stream_processor := b, comment_is_header := false, comment := [] })
  | (.error (.dsdl e), b) =>
    (.error (.dsdl (if g.comment_is_header then e else atLine g.last_attribute_line_number e)), { g with statement_stream_processor := b })
  | (.error ex, b) => (.error ex, { g with statement_stream_processor := b })

theorem run_flush_comment (g : ParserS P T V A L H) :
    (ParseTreeProcessor.flush_comment en).run g =
      flushed g ((if g.comment_is_header then DataTypeBuilder.on_header_comment en g.comment
        else DataTypeBuilder.on_attribute_comment en g.comment).run g.statement_stream_processor) := by
  cases hh : g.comment_is_header <;>
    simp only [ParseTreeProcessor.flush_comment, hh, Bool.false_eq_true, if_false, if_true, py_run, py_helper]
  · rcases (DataTypeBuilder.on_attribute_comment en g.comment).run g.statement_stream_processor with ⟨(e | e) | _, b⟩ <;>
      simp only [flushed, run_set_line, hh, Bool.false_eq_true, if_false, py_run]
  · rcases (DataTypeBuilder.on_header_comment en g.comment).run g.statement_stream_processor with ⟨(e | e) | _, b⟩ <;>
      simp only [flushed, hh, if_true, py_run]

/-- `_flush_comment` touches neither the line counter nor the line of the waiting attribute -/
theorem flush_comment_book (g : ParserS P T V A L H) : Book g ((ParseTreeProcessor.flush_comment en).run g).2 := by
  rw [run_flush_comment]
  rcases (if g.comment_is_header then DataTypeBuilder.on_header_comment en g.comment
    else DataTypeBuilder.on_attribute_comment en g.comment).run g.statement_stream_processor with ⟨(e | e) | _, b⟩ <;>
    exact ⟨rfl, rfl, rfl⟩

/-- **A failed lazy commit carries the line of the attribute that was waiting.**  Whatever the payloads and the opaque
    callees are: if the statement stream processor raises an `_error.Error` without a line while it commits the queued attribute
    (`on_attribute_comment`), `_flush_comment` re-raises it with the recorded line of that attribute's statement -- not with the
    line the visitor is on --, path untouched, the visitor's bookkeeping untouched. -/
theorem flush_comment_commit_error (g : ParserS P T V A L H) (e0 : ErrorS P) (b' : BuilderS P T V A L H)
    (hh : g.comment_is_header = false) (hl : truthyOptInt e0.line = false) (hla : g.last_attribute_line_number ≠ 0)
    (h : (DataTypeBuilder.on_attribute_comment en g.comment).run g.statement_stream_processor = (.error (.dsdl e0), b')) :
    (ParseTreeProcessor.flush_comment en).run g =
      (.error (.dsdl ⟨e0.path, some g.last_attribute_line_number⟩), { g with statement_stream_processor := b' }) := by
  rw [run_flush_comment, hh, if_neg Bool.false_ne_true, h]
  simp only [flushed, atLine, hh, hl, hla, Bool.false_eq_true, if_false]

theorem queue_attribute_callback (b b' : BuilderS P T V A L H) (cb : Callback T V)
    (h : (DataTypeBuilder.queue_attribute en cb).run b = (.ok (), b')) : b'.element_callback = some cb := by
  simp only [DataTypeBuilder.queue_attribute, py_run, py_helper, Res.andThen_eq_ok] at h
  obtain ⟨_, b1, _, h⟩ := h
  cases h; rfl

/-- after `on_field` / `on_constant` / `on_padding_field` returned, the attribute is queued, not committed -/
theorem on_attr_callback (b b' : BuilderS P T V A L H) (x : SM (BuilderS P T V A L H) (Gen.Reader.Exc P) Unit) (cb : Callback T V)
    (hx : x = (do DataTypeBuilder.on_attribute en; DataTypeBuilder.queue_attribute en cb))
    (h : x.run b = (.ok (), b')) : b'.element_callback = some cb := by
  subst hx
  rw [SM.run_bind, Res.andThen_eq_ok] at h
  obtain ⟨_, b1, _, h⟩ := h
  exact queue_attribute_callback en b1 b' cb h

/-- **An attribute statement records its own line.**  Whatever the payloads and the opaque callees are: when the visitor of a
    field / constant / padding statement returns, the attribute is queued (not yet committed) and
    `_last_attribute_line_number` is the number of the line the visitor is on -- the statement's own line; the line counter has
    not moved. -/
theorem attr_statement_line (g g' : ParserS P T V A L H) (x : SM (BuilderS P T V A L H) (Gen.Reader.Exc P) Unit) (cb : Callback T V)
    (hx : x = (do DataTypeBuilder.on_attribute en; DataTypeBuilder.queue_attribute en cb))
    (h : ((do
        ParseTreeProcessor.flush_comment en
        SM.zoom (fun self : ParserS P T V A L H => self.statement_stream_processor) (fun self v => { self with statement_stream_processor := v }) x
        let t1 ← ParseTreeProcessor.current_line_number en
        SM.modify fun self => { self with last_attribute_line_number := t1 } : SM (ParserS P T V A L H) (Gen.Reader.Exc P) Unit).run g) =
      (.ok (), g')) :
    g'.last_attribute_line_number = g.current_line_number ∧ g'.current_line_number = g.current_line_number ∧
      g'.statement_stream_processor.element_callback = some cb := by
  have hb := flush_comment_book en g
  simp only [SM.run_bind, Res.andThen_eq_ok] at h
  obtain ⟨_, g1, hf, _, g2, hz, k, g3, hl, h⟩ := h
  rw [hf] at hb
  rw [SM.run_zoom, Prod.mk.injEq] at hz
  have hcb := on_attr_callback en _ _ x cb hx (Prod.ext hz.1 rfl)
  simp only [ParseTreeProcessor.current_line_number, py_run, py_helper, Res.andThen_eq_ok] at hl
  obtain ⟨_, _, hl, hl'⟩ := hl
  cases hl'
  cases h
  by_cases hk : g2.current_line_number > 0 <;> simp only [hk, decide_true, decide_false, py_run] at hl
  · cases hl
    rw [← hz.2]
    exact ⟨hb.1, hb.1, hcb⟩
  · cases hl

end frame


/-! ### the model's steps

Every step of the model that a method of the builder implements either is the model's `raise` on the line it was given or
returns a state; `Outcome` says so, with what is known of the state. -/

def Outcome (c : Ctx) (k : Nat) (s : St) (Q : St → Prop) (r : M St) : Prop :=
  r = raise c s (some k) ∨ ∃ s', r = .ok s' ∧ Q s'

theorem Outcome.raise {c k s Q} : Outcome c k s Q (raise c s (some k)) := .inl rfl
theorem Outcome.ok {c k s s'} {Q : St → Prop} (h : Q s') : Outcome c k s Q (.ok s') := .inr ⟨s', rfl, h⟩
theorem Outcome.ite {c k s Q} {p : Prop} [Decidable p] {a b : M St} (ha : Outcome c k s Q a) (hb : Outcome c k s Q b) :
    Outcome c k s Q (if p then a else b) := by
  split <;> assumption

/-- the visitor's own attributes are those of `s`: what a method of the builder cannot reach -/
def Keeps (s s' : St) : Prop := { s' with comment := s.comment, header := s.header, lastAttrLine := s.lastAttrLine } = s'

/-- a commit changes the current schema and empties the queue -/
def Committed (s s' : St) : Prop := ∃ cur, s' = { s with cur := cur, pending := none }

theorem commitAttr_outcome (c : Ctx) (el : Nat) (s : St) (a : Attr) (bad : Bool) (doc : String) :
    Outcome c el s (Committed s) (commitAttr c el s a bad doc) := by
  unfold commitAttr
  refine .ite .raise ?_
  cases a.core.kind
  · exact .ite .raise (.ok ⟨_, rfl⟩)
  · exact .ite .raise (.ok ⟨_, rfl⟩)
  · exact .ok ⟨_, rfl⟩

theorem flushAttr_outcome (c : Ctx) (el : Nat) (s : St) (doc : String) : Outcome c el s (Committed s) (flushAttr c el s doc) := by
  unfold flushAttr
  cases hp : s.pending with
  | none => exact .ok ⟨s.cur, by cases s; cases hp; rfl⟩
  | some p => exact commitAttr_outcome c el s p.1 p.2 doc

theorem onDirective_outcome (c : Ctx) (k : Nat) (s : St) (name : String) (e : Option EVal) (text : String) :
    Outcome c k s (Keeps s) (onDirective c k s name e text) := by
  unfold onDirective
  refine .ite (.ok rfl) <| .ite ?_ <| .ite (.ite .raise ?_) <| .ite (.ite .raise (.ok rfl)) <|
    .ite (.ite .raise (.ok rfl)) <| .ite (.ite .raise (.ok rfl)) .raise
  · rcases e with _ | (b | n | _)
    · exact .raise
    · cases b
      · exact .raise
      · exact .ok rfl
    · exact .raise
    · exact .raise
  · rcases e with _ | (b | n | _)
    · exact .raise
    · exact .raise
    · exact .ok rfl
    · exact .raise


/-! ### the builder against the model -/

theorem ofB_structs (c : Ctx) (s : St) : (ofB c s).structs = s.done.map ofSchema ++ [ofSchema s.cur] := by
  simp [ofB]

/-- a method of `self._structs[-1]` -/
abbrev onCur {α : Type} (x : SM GSchema GExc α) : SM GBuilder GExc α :=
  SM.zoomLast (fun self => self.structs) (fun self v => { self with structs := v }) x

/-- it runs on the current schema -/
theorem zoomLast_ofB {α : Type} (c : Ctx) (s : St) (x : SM GSchema GExc α) :
    (onCur x).run (ofB c s) =
      ((x.run (ofSchema s.cur)).1, { ofB c s with structs := s.done.map ofSchema ++ [(x.run (ofSchema s.cur)).2] }) :=
  SM.run_zoomLast_concat _ _ x (ofB c s) (s.done.map ofSchema) (ofSchema s.cur) (ofB_structs c s)

theorem ofB_cur (c : Ctx) (s : St) (sc : Schema) :
    ({ ofB c s with structs := s.done.map ofSchema ++ [ofSchema sc] } : GBuilder) = ofB c { s with cur := sc } := by
  simp [ofB]

/-- the outcome of a builder method that either returns with the builder of the new model state or raises an error
    without location, the builder unchanged -/
def resB (c : Ctx) (s : St) : M St → Res GBuilder GExc Unit
  | .ok s' => (.ok (), ofB c s')
  | .error _ => (.error (.dsdl blank), ofB c s)

@[simp] theorem resB_ok (c : Ctx) (s s' : St) : resB c s (.ok s') = (.ok (), ofB c s') := rfl
@[simp] theorem resB_error (c : Ctx) (s : St) (e : Err × W) : resB c s (.error e) = (.error (.dsdl blank), ofB c s) := rfl

theorem ofSchema_addField (sc : Schema) (a : Attr) :
    ({ ofSchema sc with fields := (ofSchema sc).fields ++ [a] } : GSchema) = ofSchema { sc with fields := sc.fields ++ [a] } := rfl
theorem ofSchema_addConst (sc : Schema) (a : Attr) :
    ({ ofSchema sc with constants := (ofSchema sc).constants ++ [a] } : GSchema) = ofSchema { sc with consts := sc.consts ++ [a] } := rfl

@[simp] theorem ofSchema_fields (sc : Schema) : (ofSchema sc).fields = sc.fields := rfl
@[simp] theorem ofSchema_constants (sc : Schema) : (ofSchema sc).constants = sc.consts := rfl
@[simp] theorem ofSchema_mode (sc : Schema) : (ofSchema sc).serialization_mode = sc.mode.map ofMode := rfl
@[simp] theorem ofSchema_union (sc : Schema) : (ofSchema sc).is_union = sc.union := rfl
@[simp] theorem ofSchema_offs (sc : Schema) : (ofSchema sc).bit_length_computed_at_least_once = sc.offsetUsed := rfl
@[simp] theorem ofSchema_doc (sc : Schema) : (ofSchema sc).doc = sc.doc.toList := rfl

theorem ofB_same (c : Ctx) (s : St) :
    ({ ofB c s with structs := s.done.map ofSchema ++ [ofSchema s.cur] } : GBuilder) = ofB c s := by
  simp [ofB]

/-- a method that only reads the current schema -/
theorem onCur_read {α : Type} (c : Ctx) (s : St) {x : SM GSchema GExc α} {v : α} (h : x.run (ofSchema s.cur) = (.ok v, ofSchema s.cur)) :
    (onCur x).run (ofB c s) = (.ok v, ofB c s) := by
  rw [zoomLast_ofB, h, ofB_same]

/-- a method that changes the current schema into that of `sc` -/
theorem onCur_write (c : Ctx) (s : St) {x : SM GSchema GExc Unit} {sc : Schema} (h : x.run (ofSchema s.cur) = (.ok (), ofSchema sc)) :
    (onCur x).run (ofB c s) = (.ok (), ofB c { s with cur := sc }) := by
  rw [zoomLast_ofB, h, ofB_cur]

@[py_run] theorem run_cur_union (c : Ctx) (s : St) : (onCur DataSchemaBuilder.union).run (ofB c s) = (.ok s.cur.union, ofB c s) :=
  onCur_read c s (run_union _)
@[py_run] theorem run_cur_mode (c : Ctx) (s : St) :
    (onCur DataSchemaBuilder.serialization_mode).run (ofB c s) = (.ok (s.cur.mode.map ofMode), ofB c s) :=
  onCur_read c s (run_serialization_mode _)
@[py_run] theorem run_cur_attributes (c : Ctx) (s : St) :
    (onCur DataSchemaBuilder.attributes).run (ofB c s) = (.ok (s.cur.fields ++ s.cur.consts), ofB c s) :=
  onCur_read c s (run_attributes _)
@[py_run] theorem run_cur_set_comment (c : Ctx) (s : St) (d : Str) :
    (onCur (DataSchemaBuilder.set_comment d)).run (ofB c s) = (.ok (), ofB c { s with cur := { s.cur with doc := String.ofList d } }) :=
  onCur_write c s (by rw [run_set_comment]; simp only [ofSchema, String.toList_ofList])
@[py_run] theorem run_cur_add_constant (c : Ctx) (s : St) (a : Attr) :
    (onCur (DataSchemaBuilder.add_constant a)).run (ofB c s) =
      (.ok (), ofB c { s with cur := { s.cur with consts := s.cur.consts ++ [a] } }) :=
  onCur_write c s (run_add_constant _ a)
theorem run_cur_add_field (c : Ctx) (s : St) (a : Attr) (el : Option Nat) :
    (onCur (DataSchemaBuilder.add_field a)).run (ofB c s) =
      resB c s (if s.cur.union && s.cur.offsetUsed then raise c s el
        else .ok { s with cur := { s.cur with fields := s.cur.fields ++ [a] } }) := by
  rw [zoomLast_ofB, run_add_field, ofSchema_union, ofSchema_offs]
  cases s.cur.union && s.cur.offsetUsed
  · exact congrArg (Prod.mk _) (ofB_cur c s { s.cur with fields := s.cur.fields ++ [a] })
  · exact congrArg (Prod.mk _) (ofB_same c s)
theorem run_cur_set_mode (c : Ctx) (s : St) (m : SerializationMode) (h : s.cur.mode = none) :
    (onCur (DataSchemaBuilder.set_serialization_mode m)).run (ofB c s) =
      (.ok (), ofB c { s with cur := { s.cur with mode := some (toMode m) } }) :=
  onCur_write c s (by rw [run_set_serialization_mode _ _ (by rw [ofSchema_mode, h]; rfl)]; cases m <;> rfl)
theorem run_cur_make_union (c : Ctx) (s : St) (h : s.cur.union = false) :
    (onCur DataSchemaBuilder.make_union).run (ofB c s) = (.ok (), ofB c { s with cur := { s.cur with union := true } }) :=
  onCur_write c s (run_make_union _ h)

theorem ofB_callback (c : Ctx) (s : St) : (ofB c s).element_callback = s.pending.map ofPending := rfl
theorem ofB_deprecated (c : Ctx) (s : St) : (ofB c s).is_deprecated = s.deprecated := rfl
theorem ofB_path (c : Ctx) (s : St) : (ofB c s).definition_file_path = c.self := rfl
theorem ofB_prints (c : Ctx) (s : St) : (ofB c s).print_output_handler = s.w.prints := rfl
/-- `len(self._structs) > 1`: the response section has begun -/
theorem ofB_response (c : Ctx) (s : St) : decide ((ofB c s).structs.length > 1) = !s.done.isEmpty := by
  cases h : s.done <;> simp [ofB_structs, h]

@[py_run] theorem ofB_setCallback_none (c : Ctx) (s : St) :
    ({ ofB c s with element_callback := none } : GBuilder) = ofB c { s with pending := none } := rfl
@[py_run] theorem ofB_setCallback_some (c : Ctx) (s : St) (p : Attr × Bool) :
    ({ ofB c s with element_callback := some (ofPending p) } : GBuilder) = ofB c { s with pending := some p } := rfl
@[py_run] theorem ofB_setDeprecated (c : Ctx) (s : St) (b : Bool) :
    ({ ofB c s with is_deprecated := b } : GBuilder) = ofB c { s with deprecated := b } := rfl
@[py_run] theorem ofB_setPrints (c : Ctx) (s : St) (h : HandP) :
    ({ ofB c s with print_output_handler := h } : GBuilder) = ofB c { s with w := { s.w with prints := h } } := rfl

/-- calling the queued callback = `commitAttr` (the callback is still stored afterwards) -/
theorem gen_callback_call (c : Ctx) (el : Nat) (s : St) (a : Attr) (bad : Bool) (doc : Str) :
    (DataTypeBuilder.element_callback_call (env c) (ofPending (a, bad)) doc).run (ofB c s) =
      resB c s ((commitAttr c el s a bad (String.ofList doc)).map fun s' => { s' with pending := s.pending }) := by
  unfold commitAttr ofPending
  cases a.core.kind <;> cases bad <;>
    simp only [DataTypeBuilder.element_callback_call, env, mkAttr, run_cur_add_field c s _ (some el), apply_ite (Except.map _),
      Bool.false_eq_true, if_false, if_true, py_run, py_helper] <;>
    simp only [Except.map, raise, resB_ok, resB_error, blank]

/-- `_flush_attribute(doc)` = `flushAttr` -/
theorem gen_flush_attribute (c : Ctx) (el : Nat) (s : St) (doc : Str) :
    (DataTypeBuilder.flush_attribute (env c) doc).run (ofB c s) = resB c s (flushAttr c el s (String.ofList doc)) := by
  unfold flushAttr
  cases hp : s.pending with
  | none =>
    simp only [DataTypeBuilder.flush_attribute, ofB_callback, hp, Option.map_none, py_run, py_helper, resB_ok]
    rw [← hp]
  | some p =>
    simp only [DataTypeBuilder.flush_attribute, ofB_callback, hp, Option.map_some, gen_callback_call c el, py_run, py_helper]
    rcases commitAttr_outcome c el s p.1 p.2 (String.ofList doc) with h | ⟨_, h, cur, rfl⟩ <;> rw [h] <;> rfl

theorem isDelimited_ofMode (m : Option Mode) :
    SerializationMode.isDelimitedSerializationMode (m.map ofMode) = Mode.isExtent m := by
  cases m with
  | none => rfl
  | some m => cases m <;> rfl

/-- `_on_attribute()` -/
theorem gen_on_attribute (c : Ctx) (s : St) :
    (DataTypeBuilder.on_attribute (env c)).run (ofB c s) =
      if Mode.isExtent s.cur.mode then (.error (.dsdl blank), ofB c s) else (.ok (), ofB c s) := by
  simp only [DataTypeBuilder.on_attribute, isDelimited_ofMode, py_run, py_helper]

/-- the builder's half of `onAttr` (`_on_attribute`, `_queue_attribute`); the visitor then records the line -/
def onAttrB (c : Ctx) (k : Nat) (s : St) (p : Attr × Bool) : M St :=
  if Mode.isExtent s.cur.mode then raise c s (some k) else (flushAttr c k s "").map fun s' => { s' with pending := some p }

/-- `_queue_attribute` -/
theorem gen_queue_attribute (c : Ctx) (k : Nat) (s : St) (p : Attr × Bool) :
    (DataTypeBuilder.queue_attribute (env c) (ofPending p)).run (ofB c s) =
      resB c s ((flushAttr c k s "").map fun s' => { s' with pending := some p }) := by
  simp only [DataTypeBuilder.queue_attribute, gen_flush_attribute c k, String.ofList_nil, py_run, py_helper]
  cases flushAttr c k s "" <;> rfl

/-- `on_field` / `on_constant` / `on_padding_field` -/
theorem gen_on_attr (c : Ctx) (k : Nat) (s : St) (p : Attr × Bool) :
    (match p.1.core.kind with
      | .field => (DataTypeBuilder.on_field (env c) p p.1.core.name.toList : SM GBuilder GExc Unit)
      | .padding => DataTypeBuilder.on_padding_field (env c) p
      | .const => DataTypeBuilder.on_constant (env c) p p.1.core.name.toList (.other, p.1.core.value)).run (ofB c s) =
      resB c s (onAttrB c k s p) := by
  have hq := gen_queue_attribute c k s p
  unfold ofPending at hq
  cases hk : p.1.core.kind <;> simp only [hk] at hq ⊢ <;>
    simp only [DataTypeBuilder.on_field, DataTypeBuilder.on_padding_field, DataTypeBuilder.on_constant, onAttrB, gen_on_attribute, hq,
      apply_ite (resB c s), raise, resB_error, py_run, py_helper]

/-- `on_header_comment` -/
theorem gen_on_header_comment (c : Ctx) (s : St) (d : Str) :
    (DataTypeBuilder.on_header_comment (env c) d).run (ofB c s) =
      (.ok (), ofB c { s with cur := { s.cur with doc := String.ofList d } }) := by
  simp only [DataTypeBuilder.on_header_comment, py_run, py_helper]

theorem init_eq_empty : (DataSchemaBuilder.init : GSchema) = ofSchema Schema.empty := rfl

/-- `on_service_response_marker` -/
theorem gen_on_marker (c : Ctx) (k : Nat) (s : St) :
    (DataTypeBuilder.on_service_response_marker (env c)).run (ofB c s) = resB c s (onMarker c k s) := by
  unfold onMarker
  cases hd : s.done with
  | nil =>
    simp [DataTypeBuilder.on_service_response_marker, ofB_structs, hd, init_eq_empty, py_run, py_helper]
    simp [ofB, hd]
  | cons x xs => simp [DataTypeBuilder.on_service_response_marker, ofB_structs, hd, raise, py_run, py_helper]

theorem toList_beq (a : String) (l : Str) : (a.toList == l) = decide (a = String.ofList l) := by
  by_cases h : a = String.ofList l
  · subst h; simp
  · simp only [h, decide_false, beq_eq_false_iff_ne, ne_eq]
    exact fun h2 => h (by rw [← h2, String.ofList_toList])

/-- the error `on_directive` raises: without location, except for a failed assertion (own path, the directive's line) -/
def dirErr (c : Ctx) (k : Nat) (name : String) (e : Option EVal) : GErr :=
  if name = "assert" ∧ e = some (.boolean false) then ⟨some c.self, some k⟩ else blank

/-- `resB` for a method whose error is `ge` -/
def resE (c : Ctx) (s : St) (ge : GErr) : M St → Res GBuilder GExc Unit
  | .ok s' => (.ok (), ofB c s')
  | .error _ => (.error (.dsdl ge), ofB c s)

@[simp] theorem resE_ok (c : Ctx) (s s' : St) (ge : GErr) : resE c s ge (.ok s') = (.ok (), ofB c s') := rfl
@[simp] theorem resE_error (c : Ctx) (s : St) (ge : GErr) (e : Err × W) : resE c s ge (.error e) = (.error (.dsdl ge), ofB c s) := rfl

theorem hasAttrs_eq (sc : Schema) : (sc.fields ++ sc.consts).isEmpty = !sc.hasAttrs := by
  cases hf : sc.fields <;> cases hc : sc.consts <;> simp [Schema.hasAttrs, hf, hc]

/-- `on_directive` = `onDirective` -/
theorem gen_on_directive (c : Ctx) (k : Nat) (s : St) (name : String) (e : Option EVal) (text : String)
    (ht : e = none → text = "") :
    (DataTypeBuilder.on_directive (env c) k name.toList (e.map fun v => (v, text))).run (ofB c s) =
      resE c s (dirErr c k name e) (onDirective c k s name e text) := by
  unfold onDirective dirErr DataTypeBuilder.on_directive
  simp only [toList_beq, decide_eq_true_eq, String.reduceOfList]
  by_cases h1 : name = "print"
  · subst h1
    simp only [String.reduceEq, false_and, if_true, if_false]
    cases e with
    | none => simp [DataTypeBuilder.on_print_directive, env, strOfOpt, ht rfl, ofB_prints, py_run, py_helper]
    | some v => simp [DataTypeBuilder.on_print_directive, env, strOfOpt, ofB_prints, py_run, py_helper]
  by_cases h2 : name = "assert"
  · subst h2
    simp only [String.reduceEq, true_and, if_true, if_false, DataTypeBuilder.on_assert_directive, py_run, py_helper]
    rcases e with _ | (b | _ | _)
    case some.boolean => cases b <;> simp [env, optView, viewOf, ExprView.isBoolean, ExprView.nativeBool, raise, ofB_path, py_run]
    all_goals simp [env, optView, viewOf, ExprView.isBoolean, raise]
  by_cases h3 : name = "extent"
  · subst h3
    simp only [String.reduceEq, false_and, if_true, if_false, DataTypeBuilder.on_extent_directive, py_run, py_helper]
    cases hm : s.cur.mode with
    | some m => simp [raise]
    | none =>
      rcases e with _ | (_ | _ | _) <;>
        simp [raise, env, optView, viewOf, ExprView.isRational, unwrap, run_cur_set_mode, hm, toMode, py_run]
  by_cases h4 : name = "sealed"
  · subst h4
    simp only [String.reduceEq, false_and, if_true, if_false, DataTypeBuilder.on_sealed_directive, py_run, py_helper]
    cases hm : s.cur.mode with
    | some m => simp [raise]
    | none => cases e <;> simp [raise, run_cur_set_mode, hm, toMode]
  by_cases h5 : name = "union"
  · subst h5
    simp only [String.reduceEq, false_and, if_true, if_false]
    cases hu : s.cur.union <;>
      simp only [DataTypeBuilder.on_union_directive, run_cur_make_union, hu, Option.isSome_map, hasAttrs_eq, Bool.not_not, py_run,
        py_helper] <;>
      cases e.isSome <;> cases s.cur.hasAttrs <;> rfl
  by_cases h6 : name = "deprecated"
  · subst h6
    simp only [String.reduceEq, false_and, if_true, if_false, DataTypeBuilder.on_deprecated_directive, Option.isSome_map,
      ofB_deprecated, ofB_response, hasAttrs_eq, Bool.not_not, py_run, py_helper] <;>
    cases e.isSome <;> cases s.deprecated <;> cases s.done.isEmpty <;> cases s.cur.hasAttrs <;> rfl
  simp only [h1, h2, h3, h4, h5, h6, false_and, if_false, raise, resE_error, py_run]


/-! ### the visitor against the model -/

variable (c : Ctx) (strict : Bool)

@[simp] theorem ofSt_proc (s : St) (k br : Nat) : (ofSt c strict s k br).statement_stream_processor = ofB c s := rfl
@[simp] theorem ofSt_line (s : St) (k br : Nat) : (ofSt c strict s k br).current_line_number = k := rfl
@[simp] theorem ofSt_comment (s : St) (k br : Nat) : (ofSt c strict s k br).comment = s.comment.toList := rfl
@[simp] theorem ofSt_header (s : St) (k br : Nat) : (ofSt c strict s k br).comment_is_header = s.header := rfl
@[simp] theorem ofSt_last (s : St) (k br : Nat) : (ofSt c strict s k br).last_attribute_line_number = s.lastAttrLine := rfl
@[simp] theorem ofSt_br (s : St) (k br : Nat) : (ofSt c strict s k br).line_breaks_inside_literals = br := rfl

/-- the builder changed, the visitor's own attributes did not -/
theorem ofSt_setB (s s' : St) (k br : Nat) :
    ({ ofSt c strict s k br with statement_stream_processor := ofB c s' } : GParser) =
      ofSt c strict { s' with comment := s.comment, header := s.header, lastAttrLine := s.lastAttrLine } k br := rfl

theorem ofSt_setB_keeps {s s' : St} (h : Keeps s s') (k br : Nat) :
    ({ ofSt c strict s k br with statement_stream_processor := ofB c s' } : GParser) = ofSt c strict s' k br := by
  rw [ofSt_setB, h]

theorem atLine_blank (la : Nat) : atLine la blank = ⟨none, intOrNone la⟩ := by
  by_cases h : la = 0 <;> simp [atLine, blank, intOrNone, truthyOptInt, h]

/-- `_flush_comment` = `flush`; a failed commit leaves with the line of the attribute that was waiting (if any) -/
theorem gen_flush_comment (s : St) (k br : Nat) :
    (ParseTreeProcessor.flush_comment (env c)).run (ofSt c strict s k br) =
      match flush c k s with
      | .ok s' => (.ok (), ofSt c strict s' k br)
      | .error _ => (.error (.dsdl ⟨none, intOrNone s.lastAttrLine⟩), ofSt c strict s k br) := by
  rw [run_flush_comment]
  unfold flush
  cases hh : s.header with
  | true =>
    simp only [ofSt_header, hh, if_true, ofSt_comment, ofSt_proc, gen_on_header_comment, String.ofList_toList, flushed]
    rfl
  | false =>
    have hx : (DataTypeBuilder.on_attribute_comment (env c) s.comment.toList).run (ofB c s) =
        resB c s (flushAttr c (if s.lastAttrLine = 0 then k else s.lastAttrLine) s s.comment) := by
      simp only [DataTypeBuilder.on_attribute_comment, gen_flush_attribute c (if s.lastAttrLine = 0 then k else s.lastAttrLine),
        String.ofList_toList, py_run, py_helper]
    simp only [ofSt_header, hh, Bool.false_eq_true, if_false, ofSt_comment, ofSt_proc, hx]
    rcases flushAttr_outcome c (if s.lastAttrLine = 0 then k else s.lastAttrLine) s s.comment with h | ⟨_, h, cur, rfl⟩ <;> rw [h]
    · simp only [raise, resB_error, flushed, ofSt_header, hh, Bool.false_eq_true, if_false, ofSt_last, atLine_blank, Except.map]
      rw [← hh]
      rfl
    · simp only [resB_ok, flushed, Except.map]
      rfl


/-! ### simulation -/

/-- the location an error has when it leaves `_parser.parse` (a line is attached only to an error that names no file yet and
    has no line yet) and `DSDLDefinition.read` has filled in a missing path -/
def finalErr (k : Nat) (ge : GErr) : Reader.Err :=
  ⟨ge.path.getD c.self, if ge.path.isSome then ge.line else if truthyOptInt ge.line then ge.line else some k⟩

/-- the generated visitor, started in the state that corresponds to a model state on line `k`, does what the model does:
    it returns in the state that corresponds to the model's result, or raises an `_error.Error` whose final location is the
    model's, having made the same `@print` deliveries and read the same definitions; the line counter is untouched -/
def Sim (k br : Nat) (r : Res GParser GExc Unit) (m : Reader.M St) : Prop :=
  match m with
  | .ok s' => r = (.ok (), ofSt c strict s' k br)
  | .error (e, w') => ∃ ge g', r = (.error (.dsdl ge), g') ∧ finalErr c k ge = e ∧ worldOf g' = w' ∧ g'.current_line_number = k

theorem Sim.bind {k br br' : Nat} {x : Res GParser GExc Unit} {m : Reader.M St} {f : GParser → Res GParser GExc Unit}
    {n : St → Reader.M St} (h1 : Sim c strict k br x m) (h2 : ∀ s', Sim c strict k br' (f (ofSt c strict s' k br)) (n s')) :
    Sim c strict k br' (x.andThen fun _ g => f g) (m >>= n) := by
  cases m with
  | ok s' =>
    simp only [Sim] at h1
    rw [h1]; exact h2 s'
  | error e =>
    obtain ⟨e, w'⟩ := e
    obtain ⟨ge, g', hr, h⟩ := h1
    rw [hr]; exact ⟨ge, g', rfl, h⟩

theorem finalErr_blank {k : Nat} (hk : 0 < k) : finalErr c k blank = ⟨c.self, some k⟩ := rfl

theorem Sim.raise (k br br' : Nat) (s : St) (hk : 0 < k) :
    Sim c strict k br' ((.error (.dsdl blank), ofSt c strict s k br) : Res GParser GExc Unit) (Reader.raise c s (some k)) :=
  ⟨blank, _, rfl, finalErr_blank c hk, rfl, rfl⟩

/-- a method of the builder called by the visitor: the builder's error is one that `parse` will locate on this line -/
theorem Sim.zoom {k br : Nat} {s : St} {x : SM GBuilder GExc Unit} {m : Reader.M St} (ge : GErr) (hm : Outcome c k s (Keeps s) m)
    (hx : x.run (ofB c s) = resE c s ge m) (hge : finalErr c k ge = ⟨c.self, some k⟩) :
    Sim c strict k br
      ((SM.zoom (fun self : GParser => self.statement_stream_processor) (fun self v => { self with statement_stream_processor := v })
        x).run (ofSt c strict s k br)) m := by
  rw [SM.run_zoom, ofSt_proc, hx]
  rcases hm with rfl | ⟨s', rfl, hs⟩
  · exact ⟨ge, _, rfl, hge, rfl, rfl⟩
  · simp only [Sim, resE_ok, ofSt_setB_keeps c strict hs]

theorem flush_outcome (k : Nat) (s : St) :
    Outcome c (if s.lastAttrLine = 0 then k else s.lastAttrLine) s (fun _ => True) (Reader.flush c k s) := by
  unfold Reader.flush
  refine .ite (.ok trivial) ?_
  rcases flushAttr_outcome c (if s.lastAttrLine = 0 then k else s.lastAttrLine) s s.comment with h | ⟨s', h, _⟩ <;> rw [h]
  · exact .raise
  · exact .ok trivial

/-- `_flush_comment` simulates `flush` -/
theorem Sim.flush (k br : Nat) (s : St) :
    Sim c strict k br ((ParseTreeProcessor.flush_comment (env c)).run (ofSt c strict s k br)) (Reader.flush c k s) := by
  rw [gen_flush_comment]
  rcases flush_outcome c k s with h | ⟨s', h, _⟩ <;> rw [h]
  · refine ⟨_, _, rfl, ?_, rfl, rfl⟩
    by_cases h0 : s.lastAttrLine = 0 <;> simp [finalErr, intOrNone, truthyOptInt, h0]
  · rfl


/-! ### single events -/

theorem bind_pure_M (m : Reader.M St) : (m >>= fun s' => (.ok s' : Reader.M St)) = m := by
  cases m <;> rfl

abbrev step (ev : GEvent) : SM GParser GExc Unit := ParseTreeProcessor.visit (env c) (ext c) ev

theorem step_identifier (t : Str) (ht : t ≠ []) (g : GParser) :
    (step c (.identifier t)).run g = ((ParseTreeProcessor.flush_comment (env c)).run g).andThen fun _ g => (.ok (), g) := by
  cases t with
  | nil => exact absurd rfl ht
  | cons a t => simp only [step, ParseTreeProcessor.visit, ParseTreeProcessor.visit_identifier, List.isEmpty_cons, Bool.not_false, Res.andThen_assoc, py_run, py_helper]

/-- `visit_identifier`: the pending comment is flushed -/
theorem Sim.identifier (k br : Nat) (s : St) (t : Str) (ht : t ≠ []) :
    Sim c strict k br ((step c (.identifier t)).run (ofSt c strict s k br)) (Reader.flush c k s) := by
  rw [step_identifier c t ht, ← bind_pure_M (Reader.flush c k s)]
  exact Sim.bind c strict (Sim.flush c strict k br s) fun s' => rfl


/-- a sequence of events -/
def runEvs (evs : List GEvent) (g : GParser) : Res GParser GExc Unit := (SM.forEach evs (step c)).run g

@[simp] theorem runEvs_nil (g : GParser) : runEvs c [] g = (.ok (), g) := rfl
theorem runEvs_cons (ev : GEvent) (evs : List GEvent) (g : GParser) :
    runEvs c (ev :: evs) g = ((step c ev).run g).andThen fun _ g' => runEvs c evs g' := by
  simp [runEvs]
theorem runEvs_append (a b : List GEvent) (g : GParser) :
    runEvs c (a ++ b) g = (runEvs c a g).andThen fun _ g' => runEvs c b g' := by
  induction a generalizing g with
  | nil => simp
  | cons ev a ih => simp [runEvs_cons, ih]
theorem runEvs_single (ev : GEvent) (g : GParser) : runEvs c [ev] g = (step c ev).run g := by
  rw [runEvs_cons]
  rcases (step c ev).run g with ⟨_ | _, _⟩ <;> rfl

theorem Sim.seq {k br br' : Nat} {a b : List GEvent} {g : GParser} {m : Reader.M St} {n : St → Reader.M St}
    (h1 : Sim c strict k br (runEvs c a g) m)
    (h2 : ∀ s', Sim c strict k br' (runEvs c b (ofSt c strict s' k br)) (n s')) :
    Sim c strict k br' (runEvs c (a ++ b) g) (m >>= n) := by
  rw [runEvs_append]
  exact Sim.bind c strict h1 h2

theorem Sim.nil (k br : Nat) (s : St) : Sim c strict k br (runEvs c [] (ofSt c strict s k br)) (.ok s) := rfl

theorem step_other (x : Ext) (s : St) (k br : Nat) :
    (step c (.other x)).run (ofSt c strict s k br) =
      (((ext c x).run (ofB c s)).1, { ofSt c strict s k br with statement_stream_processor := ((ext c x).run (ofB c s)).2 }) := by
  simp [step, ParseTreeProcessor.visit, py_helper]

theorem getLast_ofB (s : St) : (ofB c s).structs.getLast? = some (ofSchema s.cur) := by
  simp [ofB_structs]

/-- the statement's own fault -/
theorem Sim.fail (k br : Nat) (s : St) (hk : 0 < k) :
    Sim c strict k br (runEvs c [.other .fail] (ofSt c strict s k br)) (Reader.raise c s (some k)) := by
  rw [runEvs_single, step_other]
  exact Sim.raise c strict k br br s hk

/-- `resolve_top_level_identifier(r)` -/
theorem Sim.resolve (k br : Nat) (s : St) (r : String) (hk : 0 < k) :
    Sim c strict k br (runEvs c [.other (.resolve r)] (ofSt c strict s k br))
      (if (s.cur.consts.any fun a => a.core.name == r) then .ok s else Reader.raise c s (some k)) := by
  rw [runEvs_single, step_other]
  cases h : (s.cur.consts.any fun a => a.core.name == r)
  · simp only [ext, SM.run, getLast_ofB, ofSchema_constants, h]
    exact Sim.raise c strict k br br s hk
  · simp only [ext, SM.run, getLast_ofB, ofSchema_constants, h]
    rfl

theorem Sim.resolveRefs (k br : Nat) (hk : 0 < k) (rs : List String) (s : St) :
    Sim c strict k br (runEvs c (rs.map fun r => .other (.resolve r)) (ofSt c strict s k br)) (Reader.resolveRefs c k s rs) := by
  induction rs generalizing s with
  | nil => rfl
  | cons r rs ih =>
    have h := Sim.seq c strict (br' := br) (Sim.resolve c strict k br s r hk) (fun s' => ih s')
    have e : Reader.resolveRefs c k s (r :: rs) =
        ((if (s.cur.consts.any fun a => a.core.name == r) then .ok s else Reader.raise c s (some k)) >>= fun s' =>
          Reader.resolveRefs c k s' rs) := by
      simp only [Reader.resolveRefs]; split <;> rfl
    rw [e]; exact h

/-- `_offset_` is evaluated -/
theorem Sim.offset (k br : Nat) (s : St) :
    Sim c strict k br (runEvs c [.other .offset] (ofSt c strict s k br))
      (.ok { s with cur := { s.cur with offsetUsed := true } }) := by
  rw [runEvs_single, step_other]
  simp only [ext, SM.run, getLast_ofB, Sim]
  all_goals simp [ofSt, ofB, ofSchema]

/-- one referenced definition is read -/
def depStep (k : Nat) (s : St) (j : Nat) : Reader.M St :=
  if c.ndefs ≤ j then Reader.raise c s (some k)
  else match c.depRead s.w j with
    | (w', none) => .ok { s with w := w' }
    | (w', some e) => .error (e, w')

theorem readDeps_cons (k : Nat) (s : St) (j : Nat) (js : List Nat) :
    Reader.readDeps c k s (j :: js) = (depStep c k s j >>= fun s' => Reader.readDeps c k s' js) := by
  simp only [Reader.readDeps, depStep]
  split
  · rfl
  · rcases c.depRead s.w j with ⟨w', _ | e⟩ <;> rfl

theorem Sim.dep (k br : Nat) (s : St) (j : Nat) (hk : 0 < k) :
    Sim c strict k br (runEvs c [.other (.dep j)] (ofSt c strict s k br)) (depStep c k s j) := by
  rw [runEvs_single, step_other]
  unfold depStep
  by_cases hj : c.ndefs ≤ j
  · simp only [ext, SM.run, hj, if_true]
    exact Sim.raise c strict k br br s hk
  · simp only [ext, SM.run, hj, if_false]
    have hw : (⟨(ofB c s).lookup_definitions, (ofB c s).print_output_handler⟩ : W) = s.w := rfl
    rw [hw]
    rcases c.depRead s.w j with ⟨w', _ | e⟩
    · simp only [Sim]
      simp [ofSt, ofB]
    · exact ⟨_, _, rfl, by simp [finalErr], rfl, rfl⟩

theorem Sim.readDeps (k br : Nat) (hk : 0 < k) (js : List Nat) (s : St) :
    Sim c strict k br (runEvs c (js.map fun j => .other (.dep j)) (ofSt c strict s k br)) (Reader.readDeps c k s js) := by
  induction js generalizing s with
  | nil => rfl
  | cons j js ih =>
    rw [readDeps_cons]
    exact Sim.seq c strict (br' := br) (Sim.dep c strict k br s j hk) (fun s' => ih s')


/-- a string literal with `n` raw line breaks -/
theorem step_literal (k br n : Nat) (s : St) :
    runEvs c [.literal_string_double_quoted (List.replicate n '\n')] (ofSt c strict s k br) = (.ok (), ofSt c strict s k (br + n)) := by
  rw [runEvs_single]
  simp only [step, ParseTreeProcessor.visit, ParseTreeProcessor.visit_literal_string_double_quoted,
    visit_literal_string_run (env c) _ _ (.other, "") rfl, List.count_replicate_self, py_run, py_helper]
  rfl

theorem toList_ne_nil {t : String} (h : t ≠ "") : t.toList ≠ [] :=
  fun h2 => h (String.toList_inj.mp (by rw [h2]; rfl))

theorem isEmpty_toList {t : String} (h : t ≠ "") : t.toList.isEmpty = false := by
  cases h2 : t.toList with
  | nil => exact absurd h2 (toList_ne_nil h)
  | cons a r => rfl

theorem cleanComment_toList (t : String) : (cleanComment t).toList = stripComment t.toList := by
  unfold cleanComment stripComment
  split <;> simp [*]

/-- `visit_comment` = `St.addComment` -/
theorem step_comment (k br : Nat) (s : St) (t : String) :
    runEvs c [.comment ('#' :: t.toList)] (ofSt c strict s k br) = (.ok (), ofSt c strict (s.addComment t) k br) := by
  rw [runEvs_single]
  have e : (ofSt c strict s k br).comment ++ (if (ofSt c strict s k br).comment = [] then [] else ['\n']) ++ stripComment t.toList =
      (s.addComment t).comment.toList := by
    unfold St.addComment
    by_cases h : s.comment = ""
    · simp [h, cleanComment_toList]
    · simp [h, toList_ne_nil h, cleanComment_toList]
  simp only [step, ParseTreeProcessor.visit, visit_comment_run]
  rw [e]
  rfl

/-- `visit_line` -/
theorem Sim.line (k br : Nat) (s : St) (e : Bool) :
    Sim c strict k br (runEvs c [.line (if e then [] else ['x'])] (ofSt c strict s k br))
      (if e then Reader.flush c k s else .ok s) := by
  rw [runEvs_single]
  cases e <;> simp only [step, ParseTreeProcessor.visit, ParseTreeProcessor.visit_line, List.length_nil, List.length_singleton,
    Bool.false_eq_true, if_false, if_true, py_run, py_helper]
  · rfl
  · exact Sim.flush c strict k br s

/-- `visit_end_of_line` -/
theorem step_eol (k br : Nat) (s : St) :
    runEvs c [.end_of_line] (ofSt c strict s k br) = (.ok (), ofSt c strict s (k + 1 + br) 0) := by
  rw [runEvs_single]
  simp only [step, ParseTreeProcessor.visit, visit_end_of_line_run, ofSt_line, ofSt_br, Nat.add_assoc]
  rfl


/-! ### statements -/

def attrEvent (k : Nat) (core : Core) (bad : Bool) : GEvent :=
  match core.kind with
  | .field => .statement_field (⟨core, "", k⟩, bad) core.name.toList
  | .padding => .statement_padding_field (⟨core, "", k⟩, bad)
  | .const => .statement_constant (⟨core, "", k⟩, bad) core.name.toList (.other, core.value)

def stmtEvent (k : Nat) (l : Line) : Stmt → GEvent
  | .attr core => attrEvent k core (l.fault == some .commit)
  | .directive name none _ => .statement_directive_without_expression name.toList
  | .directive name (some v) text => .statement_directive_with_expression name.toList (v, text)
  | .marker => .statement_service_response_marker

theorem run_current_line {k : Nat} (hk : 0 < k) (s : St) (br : Nat) :
    (ParseTreeProcessor.current_line_number (env c)).run (ofSt c strict s k br) = (.ok k, ofSt c strict s k br) := by
  simp only [ParseTreeProcessor.current_line_number, ofSt_line, gt_iff_lt, hk, decide_true, py_run, py_helper]

theorem onAttrB_outcome (k : Nat) (s : St) (p : Attr × Bool) : Outcome c k s (Keeps s) (onAttrB c k s p) := by
  unfold onAttrB
  refine .ite .raise ?_
  rcases flushAttr_outcome c k s "" with h | ⟨_, h, cur, rfl⟩ <;> rw [h]
  · exact .raise
  · exact .ok rfl

/-- what follows the flush in `visit_statement_field` / `_constant` / `_padding_field` -/
theorem Sim.onAttr (k br : Nat) (s : St) (core : Core) (bad : Bool) (hk : 0 < k)
    (x : SM GBuilder GExc Unit) (hx : x.run (ofB c s) = resB c s (onAttrB c k s (⟨core, "", k⟩, bad))) :
    Sim c strict k br
      ((do
        SM.zoom (fun self : GParser => self.statement_stream_processor) (fun self v => { self with statement_stream_processor := v }) x
        let t1 ← ParseTreeProcessor.current_line_number (env c)
        SM.modify fun self => { self with last_attribute_line_number := t1 } : SM GParser GExc Unit).run (ofSt c strict s k br))
      (Reader.onAttr c k s core bad) := by
  have e : Reader.onAttr c k s core bad = (onAttrB c k s (⟨core, "", k⟩, bad) >>= fun s' => .ok { s' with lastAttrLine := k }) := by
    unfold Reader.onAttr onAttrB
    split
    · rfl
    · cases flushAttr c k s "" <;> rfl
  rw [e, SM.run_bind]
  refine Sim.bind c strict (Sim.zoom c strict blank (onAttrB_outcome c k s _) hx (finalErr_blank c hk)) fun s' => ?_
  simp only [run_current_line c strict hk, py_run]
  rfl

theorem Sim.attr (k br : Nat) (s : St) (core : Core) (bad : Bool) (hk : 0 < k) (hn : core.kind ≠ .padding → core.name ≠ "") :
    Sim c strict k br (runEvs c [attrEvent k core bad] (ofSt c strict s k br))
      (Reader.flush c k s >>= fun s4 => Reader.onAttr c k s4 core bad) := by
  rw [runEvs_single]
  have tail := fun s4 => Sim.onAttr c strict k br s4 core bad hk _ (gen_on_attr c k s4 (⟨core, "", k⟩, bad))
  unfold attrEvent
  cases hkd : core.kind <;> simp only [hkd] at tail
  · simp only [step, ParseTreeProcessor.visit, ParseTreeProcessor.visit_statement_field, isEmpty_toList (hn (by simp [hkd])),
      Bool.not_false, py_helper]
    rw [SM.run_bind, SM.run_assert_true, Res.andThen_ok, SM.run_bind]
    exact Sim.bind c strict (Sim.flush c strict k br s) tail
  · simp only [step, ParseTreeProcessor.visit, ParseTreeProcessor.visit_statement_padding_field, py_helper]
    rw [SM.run_bind]
    exact Sim.bind c strict (Sim.flush c strict k br s) tail
  · simp only [step, ParseTreeProcessor.visit, ParseTreeProcessor.visit_statement_constant, isEmpty_toList (hn (by simp [hkd])),
      Bool.not_false, py_helper]
    rw [SM.run_bind, SM.run_assert_true, Res.andThen_ok, SM.run_bind]
    exact Sim.bind c strict (Sim.flush c strict k br s) tail

theorem finalErr_dirErr (k : Nat) (name : String) (e : Option EVal) (hk : 0 < k) : finalErr c k (dirErr c k name e) = ⟨c.self, some k⟩ := by
  unfold dirErr
  split <;> rfl

/-- what follows the flush in the directive visitors -/
theorem Sim.onDirective (k br : Nat) (s : St) (name : String) (e : Option EVal) (text : String) (hk : 0 < k)
    (ht : e = none → text = "") :
    Sim c strict k br
      ((do
        let t1 ← ParseTreeProcessor.current_line_number (env c)
        SM.zoom (fun self : GParser => self.statement_stream_processor) (fun self v => { self with statement_stream_processor := v })
          (DataTypeBuilder.on_directive (env c) t1 name.toList (e.map fun v => (v, text))) : SM GParser GExc Unit).run (ofSt c strict s k br))
      (Reader.onDirective c k s name e text) := by
  rw [SM.run_bind, run_current_line c strict hk, Res.andThen_ok]
  exact Sim.zoom c strict _ (onDirective_outcome c k s name e text) (gen_on_directive c k s name e text ht) (finalErr_dirErr c k name e hk)

theorem Sim.directive (k br : Nat) (s : St) (l : Line) (name : String) (e : Option EVal) (text : String) (hk : 0 < k)
    (hn : name ≠ "") (ht : e = none → text = "") :
    Sim c strict k br (runEvs c [stmtEvent k l (.directive name e text)] (ofSt c strict s k br))
      (Reader.flush c k s >>= fun s4 => Reader.onDirective c k s4 name e text) := by
  rw [runEvs_single]
  have tail := fun s4 => Sim.onDirective c strict k br s4 name e text hk ht
  cases e <;>
    simp only [stmtEvent, step, ParseTreeProcessor.visit, ParseTreeProcessor.visit_statement_directive_without_expression,
      ParseTreeProcessor.visit_statement_directive_with_expression, isEmpty_toList hn, Bool.not_false, py_helper] <;>
    rw [SM.run_bind, SM.run_assert_true, Res.andThen_ok, SM.run_bind] <;>
    exact Sim.bind c strict (Sim.flush c strict k br s) tail

theorem onMarker_outcome (k : Nat) (s : St) : Outcome c k s (Keeps { s with header := true }) (Reader.onMarker c k s) := by
  unfold Reader.onMarker
  exact .ite .raise (.ok rfl)

theorem Sim.marker (k br : Nat) (s : St) (l : Line) (hk : 0 < k) :
    Sim c strict k br (runEvs c [stmtEvent k l .marker] (ofSt c strict s k br))
      (Reader.flush c k s >>= fun s4 => Reader.onMarker c k s4) := by
  rw [runEvs_single]
  simp only [stmtEvent, step, ParseTreeProcessor.visit, ParseTreeProcessor.visit_statement_service_response_marker, py_run, py_helper]
  refine Sim.bind c strict (Sim.flush c strict k br s) fun s4 => ?_
  exact Sim.zoom c strict (s := { s4 with header := true }) blank (onMarker_outcome c k s4) (gen_on_marker c k s4) (finalErr_blank c hk)

/-! ### lines -/

def litEvs (l : Line) : List GEvent :=
  if l.inner = 0 then [] else [.literal_string_double_quoted (List.replicate l.inner '\n')]
def identEvs (l : Line) (st : Stmt) : List GEvent :=
  if st.hasIdent || !l.refs.isEmpty || !l.deps.isEmpty then [.identifier ['x']] else []
def offsEvs (l : Line) : List GEvent := if l.offs then [.other .offset] else []
def midEvs (l : Line) : List GEvent := if l.fault = some .mid then [.other .fail] else []

/-- the visitors of the children of a statement, in the order they run: string literals, the type constructor that raises
    (`pre`), the first identifier (which flushes), the identifiers and `_offset_` that are resolved, the referenced definitions that
    are read, the expression or type that raises (`mid`) -/
def childEvents (l : Line) (st : Stmt) : List GEvent :=
  litEvs l ++
    (if l.fault = some .pre then [.other .fail]
     else identEvs l st ++ ((l.refs.map fun r => .other (.resolve r)) ++ (offsEvs l ++ ((l.deps.map fun j => .other (.dep j)) ++ midEvs l))))

/-- the events of one line: `line = statement? _? comment?` visited children first, then `visit_line` -/
def lineEvents (k : Nat) (l : Line) : List GEvent :=
  (match l.stmt with
    | some st => childEvents l st ++ [stmtEvent k l st]
    | none => []) ++
  ((match l.comment with
    | some t => [.comment ('#' :: t.toList)]
    | none => []) ++
  [.line (if l.textEmpty then [] else ['x'])])

def StmtOk : Stmt → Prop
  | .attr core => core.kind ≠ .padding → core.name ≠ ""
  | .directive name e text => name ≠ "" ∧ (e = none → text = "")
  | .marker => True

/-- what the grammar guarantees of a line (and the one fault phase that has no counterpart in the code: `emit` is never used) -/
def LineOk (l : Line) : Prop :=
  l.fault ≠ some .emit ∧ (l.stmt = none → l.inner = 0) ∧ (match l.stmt with | some st => StmtOk st | none => True)

instance (st : Stmt) : Decidable (StmtOk st) := by
  cases st <;> unfold StmtOk <;> infer_instance
instance (l : Line) : Decidable (LineOk l) := by
  unfold LineOk
  cases l.stmt <;> infer_instance

theorem Sim.lit (k br : Nat) (s : St) (l : Line) :
    Sim c strict k (br + l.inner) (runEvs c (litEvs l) (ofSt c strict s k br)) (.ok s) := by
  unfold litEvs
  by_cases h : l.inner = 0
  · simp [h, Sim]
  · simp only [h, if_false, step_literal]; rfl

/-- an event that is there only under a condition -/
theorem Sim.opt {k br : Nat} {s : St} (p : Prop) [Decidable p] {ev : GEvent} {m : Reader.M St}
    (h : Sim c strict k br (runEvs c [ev] (ofSt c strict s k br)) m) :
    Sim c strict k br (runEvs c (if p then [ev] else []) (ofSt c strict s k br)) (if p then m else .ok s) := by
  split
  · exact h
  · rfl

theorem Sim.children (k br : Nat) (s : St) (l : Line) (st : Stmt) (hk : 0 < k) :
    Sim c strict k (br + l.inner) (runEvs c (childEvents l st) (ofSt c strict s k br)) (visitChildren c k l st s) := by
  unfold childEvents
  refine Sim.seq c strict (n := visitChildren c k l st) (Sim.lit c strict k br s l) fun s0 => ?_
  generalize br + l.inner = br'
  unfold visitChildren
  split
  · exact Sim.fail c strict k br' s0 hk
  · refine Sim.seq c strict (Sim.opt c strict _ (by rw [runEvs_single]; exact Sim.identifier c strict k br' s0 ['x'] (by simp)))
      fun s1 => Sim.seq c strict (Sim.resolveRefs c strict k br' hk l.refs s1)
      fun s2 => Sim.seq c strict (m := .ok (markOffs l s2)) ?_
      fun s2' => Sim.seq c strict (Sim.readDeps c strict k br' hk l.deps s2') fun s3 => Sim.opt c strict _ (Sim.fail c strict k br' s3 hk)
    unfold markOffs
    rw [apply_ite Except.ok]
    exact Sim.opt c strict _ (Sim.offset c strict k br' s2)

theorem Sim.stmt (k br : Nat) (s : St) (l : Line) (st : Stmt) (hk : 0 < k) (hf : l.fault ≠ some .emit) (hs : StmtOk st) :
    Sim c strict k br (runEvs c [stmtEvent k l st] (ofSt c strict s k br)) (emitStmt c k l st s) := by
  simp only [emitStmt, hf, if_false]
  cases st with
  | attr core => exact Sim.attr c strict k br s core _ hk hs
  | directive name e text => exact Sim.directive c strict k br s l name e text hk hs.1 hs.2
  | marker => exact Sim.marker c strict k br s l hk

/-- one line: the generated visitors run over its events do what `stepLine` does -/
theorem Sim.stepLine (k : Nat) (s : St) (l : Line) (hk : 0 < k) (hl : LineOk l) :
    Sim c strict k l.inner (runEvs c (lineEvents k l) (ofSt c strict s k 0)) (Reader.stepLine c k s l) := by
  obtain ⟨hf, hin, hst⟩ := hl
  unfold lineEvents Reader.stepLine
  refine Sim.seq c strict (br := l.inner) ?_ fun s1 => Sim.seq c strict (m := .ok (addLineComment l s1)) ?_
    fun s2 => Sim.line c strict k l.inner s2 l.textEmpty
  · cases hs : l.stmt with
    | none => rw [hin hs]; rfl
    | some st =>
      rw [hs] at hst
      rw [← Nat.zero_add l.inner]
      exact Sim.seq c strict (Sim.children c strict k 0 s l st hk) fun s' => Sim.stmt c strict k _ s' l st hk hf hst
  · unfold addLineComment
    cases l.comment with
    | none => rfl
    | some t => rw [step_comment]; rfl


/-! ### documents -/

/-- the event stream of a document whose first line has number `k`: `definition = line (end_of_line line)*` -/
def docEvents : Nat → List Line → List GEvent
  | _, [] => []
  | k, [l] => lineEvents k l
  | k, l :: l' :: ls => lineEvents k l ++ (.end_of_line :: docEvents (l.next k) (l' :: ls))

/-- the line breaks inside the string literals of the last line (not yet added to the line counter at the end of the text) -/
def lastInner : List Line → Nat
  | [] => 0
  | [l] => l.inner
  | _ :: l' :: ls => lastInner (l' :: ls)

/-- like `Sim`, for a run over several lines: the line counter ends at `kEnd`; an error carries the location it gets on the
    line where it was raised -/
def DocSim (kEnd brEnd : Nat) (r : Res GParser GExc Unit) (m : Reader.M St) : Prop :=
  match m with
  | .ok s' => r = (.ok (), ofSt c strict s' kEnd brEnd)
  | .error (e, w') => ∃ ge g', r = (.error (.dsdl ge), g') ∧ finalErr c g'.current_line_number ge = e ∧ worldOf g' = w' ∧
      0 < g'.current_line_number

theorem DocSim.of_sim {k br : Nat} {r : Res GParser GExc Unit} {m : Reader.M St} (hk : 0 < k) (h : Sim c strict k br r m) :
    DocSim c strict k br r m := by
  cases m with
  | ok s' => exact h
  | error e =>
    obtain ⟨e, w'⟩ := e
    obtain ⟨ge, g', hr, he, hw, hl⟩ := h
    exact ⟨ge, g', hr, by rw [hl]; exact he, hw, by rw [hl]; exact hk⟩

theorem DocSim.bind {k br k' br' : Nat} {x : Res GParser GExc Unit} {m : Reader.M St} {f : GParser → Res GParser GExc Unit}
    {n : St → Reader.M St} (h1 : DocSim c strict k br x m) (h2 : ∀ s', DocSim c strict k' br' (f (ofSt c strict s' k br)) (n s')) :
    DocSim c strict k' br' (x.andThen fun _ g => f g) (m >>= n) := by
  cases m with
  | ok s' =>
    simp only [DocSim] at h1
    rw [h1]; exact h2 s'
  | error e =>
    obtain ⟨e, w'⟩ := e
    obtain ⟨ge, g', hr, h⟩ := h1
    rw [hr]; exact ⟨ge, g', rfl, h⟩

theorem le_lastLine (ls : List Line) : ∀ k, k ≤ lastLine k ls := by
  induction ls with
  | nil => intro k; exact Nat.le_refl _
  | cons l ls ih =>
    intro k
    cases ls with
    | nil => exact Nat.le_refl _
    | cons l' ls =>
      have := ih (l.next k)
      simp only [lastLine]
      unfold Line.next at this ⊢
      omega

/-- all lines: the generated visitors run over the events of a document do what `runLines` does -/
theorem docSim (ls : List Line) (hls : ∀ l ∈ ls, LineOk l) : ∀ (k : Nat) (s : St), 0 < k →
    DocSim c strict (lastLine k ls) (lastInner ls) (runEvs c (docEvents k ls) (ofSt c strict s k 0)) (runLines c k s ls) := by
  induction ls with
  | nil => intro k s _; rfl
  | cons l ls ih =>
    intro k s hk
    have hl := DocSim.of_sim c strict hk (Sim.stepLine c strict k s l hk (hls l (by simp)))
    cases ls with
    | nil =>
      simp only [runLines]
      rwa [bind_pure_M]
    | cons l' ls =>
      simp only [docEvents, lastLine, lastInner, runLines, runEvs_append]
      refine DocSim.bind c strict hl fun s1 => ?_
      rw [runEvs_cons, ← runEvs_single, step_eol]
      exact ih (fun x hx => hls x (by simp [hx])) (l.next k) s1 (by unfold Line.next; omega)


/-! ### `parse` -/

/-- the location an error has when it has left `parse` and `DSDLDefinition.read` has filled in a missing path -/
def readErr (ge : GErr) : Reader.Err := ⟨ge.path.getD c.self, ge.line⟩

/-- the body of the `try` statement of `parse` -/
def parseBody (evs : List GEvent) (b : GBuilder) : Res GParser GExc Unit :=
  (runEvs c evs (ParseTreeProcessor.init b strict)).andThen fun _ g => (ParseTreeProcessor.flush_comment (env c)).run g

theorem parse_ok (evs : List GEvent) (b : GBuilder) (g : GParser) (h : parseBody c strict evs b = (.ok (), g)) :
    parse (env c) (ext c) evs b strict = (.ok (), g) := by
  have : parse (env c) (ext c) evs b strict = Res.orElse (parseBody c strict evs b) _ := rfl
  rw [this, h]; rfl

/-- the handler of `parse`: `if ex.path is None: ex.set_error_location_if_unknown(line=pr.current_line_number)` -/
def onError (ge : GErr) : SM GParser GExc Unit := do
  let mut ex := ge
  let t1 ← SM.onObj ex (Error.path)
  if (t1.1).isNone then
    let t2 ← ParseTreeProcessor.current_line_number (env c)
    let t3 ← SM.onObj ex (Error.set_error_location_if_unknown none (some t2))
    ex := t3.2
  SM.throw (.dsdl ex)

theorem parse_error (evs : List GEvent) (b : GBuilder) (ge : GErr) (g : GParser) (h : parseBody c strict evs b = (.error (.dsdl ge), g)) :
    parse (env c) (ext c) evs b strict = (onError c ge).run g := by
  have : parse (env c) (ext c) evs b strict = Res.orElse (parseBody c strict evs b) _ := rfl
  rw [this, h]; rfl

theorem run_onError (ge : GErr) (g : GParser) (hk : 0 < g.current_line_number) :
    ∃ ge', (onError c ge).run g = (.error (.dsdl ge'), g) ∧ readErr c ge' = finalErr c g.current_line_number ge := by
  obtain ⟨p, ln⟩ := ge
  cases p with
  | some p => exact ⟨⟨some p, ln⟩, by simp only [onError, Option.isNone_some, Bool.false_eq_true, if_false, py_run], rfl⟩
  | none =>
    have h1 : truthyOptInt (some g.current_line_number) = true := by simp [truthyOptInt]; omega
    refine ⟨⟨none, if truthyOptInt ln then ln else some g.current_line_number⟩, ?_, rfl⟩
    simp only [onError, ParseTreeProcessor.current_line_number, gt_iff_lt, hk, decide_true, run_set_location, h1, Option.isNone_none,
      if_true, Option.isSome_none, Bool.false_eq_true, if_false, py_run, py_helper]

/-- **The generated `parse` is the model.**  For every document whose lines satisfy what the grammar guarantees, running the
    generated `parse` -- the constructor of the visitor, every visitor over the event stream of the document, the end-of-text
    flush, the handler that injects the line -- on the builder of the initial model state yields what `runLines` followed by the
    end-of-text `flush` yields: on success the state that corresponds to the model's (same schemas, attributes, doc comments,
    header comments, queue, line of the last attribute, deliveries, cache), with the line counter on the last line; on
    failure an `_error.Error` whose location is the model's, the deliveries made and the definitions read being the model's. -/
theorem gen_parse (ls : List Line) (w : W) (hls : ∀ l ∈ ls, LineOk l) :
    match runLines c 1 (St.init w) ls >>= fun s => Reader.flush c (lastLine 1 ls) s with
    | .ok s' => parse (env c) (ext c) (docEvents 1 ls) (ofB c (St.init w)) strict = (.ok (), ofSt c strict s' (lastLine 1 ls) (lastInner ls))
    | .error (e, w') => ∃ ge g', parse (env c) (ext c) (docEvents 1 ls) (ofB c (St.init w)) strict = (.error (.dsdl ge), g') ∧
        readErr c ge = e ∧ worldOf g' = w' := by
  have hK : 0 < lastLine 1 ls := Nat.lt_of_lt_of_le (by decide) (le_lastLine ls 1)
  have hb : DocSim c strict (lastLine 1 ls) (lastInner ls) (parseBody c strict (docEvents 1 ls) (ofB c (St.init w)))
      (runLines c 1 (St.init w) ls >>= fun s => Reader.flush c (lastLine 1 ls) s) :=
    DocSim.bind c strict (docSim c strict ls hls 1 (St.init w) (by decide)) fun s1 =>
      DocSim.of_sim c strict hK (Sim.flush c strict _ _ s1)
  cases hr : runLines c 1 (St.init w) ls >>= fun s => Reader.flush c (lastLine 1 ls) s with
  | ok s' =>
    rw [hr] at hb
    exact parse_ok c strict _ _ _ hb
  | error e =>
    obtain ⟨e, w'⟩ := e
    rw [hr] at hb
    obtain ⟨ge, g', h1, h2, h3, h4⟩ := hb
    obtain ⟨ge', h5, h6⟩ := run_onError c ge g' h4
    exact ⟨ge', g', (parse_error c strict _ _ ge g' h1).trans h5, h6.trans h2, h3⟩


/-! ### `DSDLDefinition.read` over the generated `parse` -/

def toSchema (g : GSchema) : Schema :=
  ⟨g.fields, g.constants, g.serialization_mode.map toMode, g.is_union, String.ofList g.doc, g.bit_length_computed_at_least_once⟩

def toPending : Callback TyP ValP → Attr × Bool
  | .on_field p _ => p
  | .on_padding_field p => p
  | .on_constant p _ _ => p

/-- the model state a generated visitor stands for -/
def toSt (g : GParser) : St :=
  let b := g.statement_stream_processor
  { done := b.structs.dropLast.map toSchema, cur := (b.structs.getLast?.map toSchema).getD Schema.empty,
    pending := b.element_callback.map toPending, comment := String.ofList g.comment, header := g.comment_is_header,
    deprecated := b.is_deprecated, lastAttrLine := g.last_attribute_line_number, w := worldOf g }

theorem toSchema_ofSchema (sc : Schema) : toSchema (ofSchema sc) = sc := by
  obtain ⟨f, k, m, u, d, o⟩ := sc
  simp only [toSchema, ofSchema, Option.map_map, String.ofList_toList]
  congr
  cases m with
  | none => rfl
  | some m => cases m <;> rfl

theorem toPending_ofPending (p : Attr × Bool) : toPending (ofPending p) = p := by
  unfold ofPending
  cases p.1.core.kind <;> rfl

theorem toSt_ofSt (s : St) (k br : Nat) : toSt (ofSt c strict s k br) = s := by
  obtain ⟨d, cu, p, co, h, de, la, w⟩ := s
  simp only [toSt, ofSt, ofB, worldOf, List.map_append, List.map_cons, List.map_nil, List.dropLast_concat, List.getLast?_concat,
    List.map_map, Option.map_map, String.ofList_toList, Option.map_some, Option.getD_some, toSchema_ofSchema]
  congr
  · have : (toSchema ∘ ofSchema) = id := funext toSchema_ofSchema
    rw [this, List.map_id]
  · cases p with
    | none => rfl
    | some p => simp [toPending_ofPending]

/-- `DSDLDefinition.read` (grammar check, `parse`, `finalize`, path injection) with the GENERATED `parse` in the middle; the
    grammar check and `finalize` (`_make_composite` and the constructors of the composite types) are the model's -/
def genRead (ls : List Line) (w : W) : Reader.M (Composite × W) :=
  match firstSyntaxError 1 ls with
  | some k => .error (⟨c.self, some k⟩, w)
  | none =>
    match parse (env c) (ext c) (docEvents 1 ls) (ofB c (St.init w)) strict with
    | (.ok (), g) => (finalize c (toSt g)).map fun comp => (comp, worldOf g)
    | (.error (.dsdl ge), g) => .error (readErr c ge, worldOf g)
    | (.error (.py _), g) => .error (⟨c.self, none⟩, worldOf g)

/-- **`read` over the generated automaton is the model's `readText`.** -/
theorem genRead_eq (ls : List Line) (w : W) (hls : ∀ l ∈ ls, LineOk l) : genRead c strict ls w = readText c ls w := by
  unfold genRead readText
  cases firstSyntaxError 1 ls with
  | some k => rfl
  | none =>
    have h := gen_parse c strict ls w hls
    have e : (runLines c 1 (St.init w) ls >>= fun s => Reader.flush c (lastLine 1 ls) s >>= fun s' =>
        (finalize c s').map fun comp => (comp, s'.w)) =
        ((runLines c 1 (St.init w) ls >>= fun s => Reader.flush c (lastLine 1 ls) s) >>= fun s' =>
          (finalize c s').map fun comp => (comp, s'.w)) := by
      cases runLines c 1 (St.init w) ls <;> rfl
    simp only [e]
    cases hr : runLines c 1 (St.init w) ls >>= fun s => Reader.flush c (lastLine 1 ls) s with
    | ok s' =>
      rw [hr] at h
      simp only [h, toSt_ofSt]
      rfl
    | error e =>
      obtain ⟨e, w'⟩ := e
      rw [hr] at h
      obtain ⟨ge, g', h1, rfl, rfl⟩ := h
      rw [h1]
      rfl

/-- a successful `genRead` is a successful generated `parse`, and the schemas of the composite are the schema builders of
    the generated `DataTypeBuilder`, in order -/
theorem genRead_ok (ls : List Line) (w w' : W) (comp : Composite) (h : genRead c strict ls w = .ok (comp, w')) :
    ∃ g, parse (env c) (ext c) (docEvents 1 ls) (ofB c (St.init w)) strict = (.ok (), g) ∧
      comp.schemas = (toSt g).done ++ [(toSt g).cur] ∧ comp.deprecated = g.statement_stream_processor.is_deprecated ∧ w' = worldOf g := by
  unfold genRead at h
  cases hf : firstSyntaxError 1 ls with
  | some k => simp [hf] at h
  | none =>
    simp only [hf] at h
    rcases hp : parse (env c) (ext c) (docEvents 1 ls) (ofB c (St.init w)) strict with ⟨⟨ge | pe⟩ | _, g⟩ <;> rw [hp] at h
    · simp at h
    · simp at h
    · simp only [map_ok, finalize] at h
      obtain ⟨comp', hfin, he⟩ := h
      split at hfin
      · simp [Reader.raise] at hfin
      · cases hfin; cases he
        exact ⟨g, rfl, rfl, rfl, rfl⟩


theorem lineOk_emptyLine (b : Bool) : LineOk (emptyLine b) := by
  cases b <;> decide

/-- `docEvents` gives every statement ONE identifier event; a statement with several identifiers produces several, and they
    change nothing: on a state in which a queued attribute implies that the header comment is done (true of every state the
    reader reaches), a second `visit_identifier` directly behind the first is a no-op. -/
theorem identifier_idem (k br : Nat) (s : St) (t1 t2 : Str) (h1 : t1 ≠ []) (h2 : t2 ≠ [])
    (hi : s.pending.isSome → s.header = false) :
    runEvs c [.identifier t1, .identifier t2] (ofSt c strict s k br) = runEvs c [.identifier t1] (ofSt c strict s k br) := by
  rw [runEvs_cons, runEvs_single, step_identifier c t1 h1, gen_flush_comment]
  cases hf : Reader.flush c k s with
  | error x => rfl
  | ok s' =>
    simp only [Res.andThen_ok, runEvs_single]
    rw [step_identifier c t2 h2, gen_flush_comment, Reader.flush_flush hf hi]
    rfl

end Bridge.Rd
