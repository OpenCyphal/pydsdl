import Bridge.Serdes
import Gen.Codec
import Model.WireIO
/-!
  Bridge for the CODEC FUNCTIONS of `pydsdl/_serdes.py` (`deserialize`, `_deserialize_primitive / _array / _element / _composite /
  _field_value`), translated into `Gen/Codec.lean` on every run (tools/py2lean_codec.py).

  The generated functions work on schema objects (`Py.Obj`: dynamic attribute access, `isinstance` along the class hierarchy), return
  Python values (`Py.Value`), thread the `_BitReader` state (`Gen.ReaderS`) explicitly and recurse with fuel (one unit per Python
  frame).  `Model/WireIO.lean` is the hand-written codec over the type descriptors `Wire.Ty`, canonical values `Wire.Val` and the
  bit-level reader model `BitIO.Rd`.

  * `tyOf`    : the type descriptor a schema object denotes (names, stored layout attributes forgotten);
  * `okT`     : the object graph is one that pydsdl's constructors build: `length_field_type` / `tag_field_type` /
                `delimiter_header_type` are unsigned integers of the widths `_array.py` / `_composite.py` compute, composites are
                byte-aligned, `fields` are `Field` / `PaddingField` objects, padding fields carry void types and only they do, a
                delimited type wraps a structure or a union;
  * `valueOf` : the Python value that stands for a canonical value of a type (dict by field name without padding, one-entry dict
                for a union, `str` / `bytes` / list for arrays, …);
  * `Agree`   : the generated outcome is the model's: same value and the same reader moved forward, or the same error class.

  Main theorem `gen_deserialize`: for every schema object with `okT` whose descriptor is well-formed (`Ty.wf`), every reader state
  whose data are bytes and whose position is not before its start, and enough fuel for the depth of the type, the generated
  deserializer returns exactly what `WireIO.decR` returns.  (This file imports `Bridge.Serdes`: the codec functions call the
  generated `_BitReader` methods, whose bridge lemmas are used, not re-proved; both are about the same source file.)
-/
set_option linter.unusedSimpArgs false
set_option linter.unusedVariables false
open BitIO Py

namespace Bridge
open Wire (Ty Val Mode Cast)
open WireIO

/-! ### Schema objects and type descriptors -/

def castOf : CastMode → Cast
  | .saturated => .sat
  | .truncated => .trunc

mutual
/-- the type descriptor a schema object denotes -/
def tyOf : Obj → Ty
  | .boolean => .bool
  | .signed n c => .sint n (castOf c)
  | .unsigned n c => .uint n (castOf c)
  | .byte => .byte
  | .utf8 => .utf8
  | .float n c => .float n (castOf c)
  | .void n => .void n
  | .fixedArray e cap => .farr (tyOf e) cap
  | .varArray e cap _ => .varr (tyOf e) cap
  | .structure fs _ _ => .struct (tysOf fs) .sealed
  | .union fs _ _ _ => .union (tysOf fs) .sealed
  | .delimited i _ x _ =>
      match tyOf i with
      | .struct fs _ => .struct fs (.delimited x)
      | .union fs _ => .union fs (.delimited x)
      | t => t
  | .service _ _ _ => .void 0
  | .field d _ => tyOf d
  | .paddingField d => tyOf d
def tysOf : List Obj → List Ty
  | [] => []
  | o :: os => tyOf o :: tysOf os
end

/-- `UnsignedIntegerType` of the given width (the implicit length / tag / delimiter header fields) -/
def isUnsignedOf (o : Obj) (n : Nat) : Bool :=
  match o with
  | .unsigned m _ => m == n
  | _ => false

def isStructOrUnion : Obj → Bool
  | .structure _ _ _ | .union _ _ _ _ => true
  | _ => false

mutual
/-- the object graph is one that the constructors of `pydsdl._serializable` build (see the header) -/
def okT : Obj → Bool
  | .boolean | .byte | .utf8 | .signed _ _ | .unsigned _ _ | .float _ _ | .void _ => true
  | .fixedArray e _ => okT e
  | .varArray e cap l => okT e && isUnsignedOf l (Wire.lenBits cap)
  | .structure fs a _ => okFs fs && a == 8
  | .union fs t a _ => okFs fs && a == 8 && isUnsignedOf t (Wire.tagBits fs.length)
  | .delimited i h _ a => okT i && isStructOrUnion i && a == 8 && isUnsignedOf h Wire.headerBits
  | _ => false
/-- `fields`: `Field` objects with non-void types, `PaddingField` objects with void types -/
def okFs : List Obj → Bool
  | [] => true
  | .field d _ :: fs => okT d && !(tyOf d).isVoid && okFs fs
  | .paddingField d :: fs => okT d && (tyOf d).isVoid && okFs fs
  | _ :: _ => false
end

mutual
/-- the number of Python frames the (de)serializer needs below the frame that receives the object -/
def depth : Obj → Nat
  | .fixedArray e _ => depth e + 2
  | .varArray e _ _ => depth e + 2
  | .structure fs _ _ => depthFs fs + 2
  | .union fs _ _ _ => depthFs fs + 2
  | .delimited i _ _ _ => depth i + 1
  | .field d _ => depth d
  | .paddingField d => depth d
  | _ => 0
def depthFs : List Obj → Nat
  | [] => 0
  | o :: os => max (depth o) (depthFs os)
end

/-! the cases of `okT` / `okFs`, and what well-formedness of the denoted descriptor says about the parts -/

theorem okT_varArray {e l : Obj} {cap : Nat} :
    okT (.varArray e cap l) = true ↔ okT e = true ∧ isUnsignedOf l (Wire.lenBits cap) = true := by
  simp only [okT, Bool.and_eq_true]

theorem okT_structure {fs : List Obj} {a : Nat} {n : String} : okT (.structure fs a n) = true ↔ okFs fs = true ∧ a = 8 := by
  simp only [okT, Bool.and_eq_true, beq_iff_eq]

theorem okT_union {fs : List Obj} {t : Obj} {a : Nat} {n : String} :
    okT (.union fs t a n) = true ↔ okFs fs = true ∧ a = 8 ∧ isUnsignedOf t (Wire.tagBits fs.length) = true := by
  simp only [okT, Bool.and_eq_true, beq_iff_eq, and_assoc]

theorem okT_delimited {i h : Obj} {x a : Nat} :
    okT (.delimited i h x a) = true ↔
      okT i = true ∧ isStructOrUnion i = true ∧ a = 8 ∧ isUnsignedOf h Wire.headerBits = true := by
  simp only [okT, Bool.and_eq_true, beq_iff_eq, and_assoc]

theorem okFs_field {d : Obj} {n : String} {fs : List Obj} :
    okFs (.field d n :: fs) = true ↔ okT d = true ∧ (tyOf d).isVoid = false ∧ okFs fs = true := by
  simp only [okFs, Bool.and_eq_true, Bool.not_eq_true', and_assoc]

theorem okFs_padding {d : Obj} {fs : List Obj} :
    okFs (.paddingField d :: fs) = true ↔ okT d = true ∧ (tyOf d).isVoid = true ∧ okFs fs = true := by
  simp only [okFs, Bool.and_eq_true, and_assoc]

theorem wf_fixedArray {e : Obj} {cap : Nat} (h : (tyOf (.fixedArray e cap)).wf = true) :
    (tyOf e).wf = true ∧ (tyOf e).isUtf8 = false := by
  simp only [tyOf, Ty.wf, Bool.and_eq_true, Bool.not_eq_true'] at h
  exact ⟨h.1.1.1, h.2⟩

theorem wf_varArray {e l : Obj} {cap : Nat} (h : (tyOf (.varArray e cap l)).wf = true) : (tyOf e).wf = true := by
  simp only [tyOf, Ty.wf, Bool.and_eq_true] at h
  exact h.1.1.1

theorem wf_structure {fs : List Obj} {a : Nat} {n : String} (h : (tyOf (.structure fs a n)).wf = true) :
    Wire.wfFields (tysOf fs) = true := by
  simp only [tyOf, Ty.wf, Bool.and_eq_true] at h
  exact h.1

theorem wf_union {fs : List Obj} {t : Obj} {a : Nat} {n : String} (h : (tyOf (.union fs t a n)).wf = true) :
    Wire.wfFields (tysOf fs) = true ∧ Wire.noVoid (tysOf fs) = true := by
  simp only [tyOf, Ty.wf, Bool.and_eq_true] at h
  exact ⟨h.1.1.1.1, h.1.1.1.2⟩

theorem wfFields_cons {f : Obj} {fs : List Obj} (h : Wire.wfFields (tysOf (f :: fs)) = true) :
    (tyOf f).wf = true ∧ Wire.wfFields (tysOf fs) = true := by
  simp only [tysOf, Wire.wfFields, Bool.and_eq_true] at h
  exact ⟨h.1.1, h.2⟩

/-! ### Values -/

/-- the Python value of an array whose elements are `vals` (`_deserialize_array`: str, bytes or list) -/
def arrValue (e : Obj) (vs : List Val) (vals : List Value) : Value :=
  match e with
  | .utf8 => .str (vs.map Val.byteOf)
  | .byte => .bytes (vs.map Val.byteOf)
  | _ => .list vals

mutual
/-- the Python value that stands for the canonical value `v` of the type of the schema object -/
def valueOf : Obj → Val → Value
  | .boolean, .bool b => .bool b
  | .signed _ _, .int i => .int i
  | .unsigned _ _, .int i => .int i
  | .byte, .int i => .int i
  | .utf8, .int i => .int i
  | .float _ _, .flt b => .float b
  | .void _, _ => .none
  | .fixedArray e _, .arr vs => arrValue e vs (valuesOf e vs)
  | .varArray e _ _, .arr vs => arrValue e vs (valuesOf e vs)
  | .structure fs _ _, .recd vs => .dict (structDict fs vs [])
  | .union fs _ _ _, .var tag v => variantValue fs tag v
  | .delimited i _ _ _, v => valueOf i v
  | .field d _, v => valueOf d v
  | .paddingField d, v => valueOf d v
  | _, _ => .none
def valuesOf : Obj → List Val → List Value
  | _, [] => []
  | e, v :: vs => valueOf e v :: valuesOf e vs
/-- `result[field.name] = value` over the fields, padding skipped -/
def structDict : List Obj → List Val → List (String × Value) → List (String × Value)
  | .field d n :: fs, v :: vs, acc => structDict fs vs (Py.dictSet acc n (valueOf d v))
  | _ :: fs, _ :: vs, acc => structDict fs vs acc
  | _, _, acc => acc
/-- `{field.name: value}` for `field = fields[tag]` -/
def variantValue : List Obj → Nat → Val → Value
  | .field d n :: _, 0, v => .dict [(n, valueOf d v)]
  | _ :: fs, k + 1, v => variantValue fs k v
  | _, _, _ => .none
end

def errOf : Wire.Err → Py.Err
  | .arrayLength => .other "ArrayLengthError"
  | .unionTag => .other "UnionTagError"
  | .delimiterHeader => .other "DelimiterHeaderError"
  | .unionField => .other "UnionFieldError"
  | .value => .valueError
  | .type => .typeError

/-- The generated outcome `x` (started in state `g`) is the model's outcome `y` (started in `toRd g`): the same error class, or
    the value `f v` for the model's value `v` and the same reader moved forward to the model's resulting reader. -/
def AgreeWith {α β : Type} (f : α → β) (g : Gen.ReaderS) (x : Py.M (β × Gen.ReaderS)) (y : Except Wire.Err (α × Rd)) : Prop :=
  match y with
  | .ok (v, r') => ∃ k, x = .ok (f v, advance g k) ∧ toRd (advance g k) = r'
  | .error e => x = .error (errOf e)

abbrev Agree (s : Obj) := AgreeWith (valueOf s)

theorem advance_advance (g : Gen.ReaderS) (a b : Nat) : advance (advance g a) b = advance g (a + b) := by
  simp only [advance, Gen.ReaderS.mk.injEq, true_and, and_true]; omega

theorem advance_zero (g : Gen.ReaderS) : advance g 0 = g := by
  simp only [advance, Nat.add_zero]

theorem AgreeWith.intro_ok {α β : Type} {f : α → β} {g : Gen.ReaderS} (v : α) (k : Nat) :
    AgreeWith f g (.ok (f v, advance g k)) (.ok (v, toRd (advance g k))) := ⟨k, rfl, rfl⟩

theorem AgreeWith.intro_err {α β : Type} {f : α → β} {g : Gen.ReaderS} (e : Wire.Err) :
    AgreeWith f g (.error (errOf e) : Py.M (β × Gen.ReaderS)) (.error e) := rfl

/-- returning without reading -/
theorem AgreeWith.ret {α β : Type} {f : α → β} {g : Gen.ReaderS} (v : α) {b : β} (h : f v = b) :
    AgreeWith f g (.ok (b, g)) (.ok (v, toRd g)) :=
  ⟨0, by rw [advance_zero, h], by rw [advance_zero]⟩

theorem AgreeWith.mono {α β : Type} {f : α → β} {g : Gen.ReaderS} {k : Nat} {x : Py.M (β × Gen.ReaderS)}
    {y : Except Wire.Err (α × Rd)} (h : AgreeWith f (advance g k) x y) : AgreeWith f g x y := by
  cases y with
  | error e => exact h
  | ok p =>
    obtain ⟨k2, e1, e2⟩ := h
    exact ⟨k + k2, by rw [e1, advance_advance], by rw [← advance_advance]; exact e2⟩

/-- Sequencing: a generated step that agrees, followed by continuations that agree from every later state on every value the
    model's step can return.  All codec lemmas below are chains of this rule: errors propagate on both sides, the reader
    positions add up. -/
theorem AgreeWith.bind_of {α β α' β' : Type} {f : α → β} {f' : α' → β'} {g : Gen.ReaderS}
    {x : Py.M (β × Gen.ReaderS)} {y : Except Wire.Err (α × Rd)}
    {kx : β × Gen.ReaderS → Py.M (β' × Gen.ReaderS)} {ky : α × Rd → Except Wire.Err (α' × Rd)}
    (h : AgreeWith f g x y)
    (hk : ∀ v k, y = .ok (v, toRd (advance g k)) →
      AgreeWith f' (advance g k) (kx (f v, advance g k)) (ky (v, toRd (advance g k)))) :
    AgreeWith f' g (x >>= kx) (y >>= ky) := by
  cases y with
  | error e =>
    have hx : x = .error (errOf e) := h
    subst hx
    exact AgreeWith.intro_err e
  | ok p =>
    obtain ⟨v, r'⟩ := p
    obtain ⟨k, hx, hr⟩ := h
    subst hx; subst hr
    exact (hk v k rfl).mono

theorem AgreeWith.bind {α β α' β' : Type} {f : α → β} {f' : α' → β'} {g : Gen.ReaderS}
    {x : Py.M (β × Gen.ReaderS)} {y : Except Wire.Err (α × Rd)}
    {kx : β × Gen.ReaderS → Py.M (β' × Gen.ReaderS)} {ky : α × Rd → Except Wire.Err (α' × Rd)}
    (h : AgreeWith f g x y)
    (hk : ∀ v k, AgreeWith f' (advance g k) (kx (f v, advance g k)) (ky (v, toRd (advance g k)))) :
    AgreeWith f' g (x >>= kx) (y >>= ky) :=
  h.bind_of fun v k _ => hk v k

/-- the model post-processes its value; the generated value is already the one that stands for the result -/
theorem AgreeWith.map {α α' β : Type} {f : α → β} {f' : α' → β} {g : Gen.ReaderS} {x : Py.M (β × Gen.ReaderS)}
    {y : Except Wire.Err (α × Rd)} (c : α → α') (h : AgreeWith f g x y) (hc : ∀ v, f' (c v) = f v) :
    AgreeWith f' g x (y >>= fun p => pure (c p.1, p.2)) := by
  cases y with
  | error e => exact h
  | ok p =>
    obtain ⟨k, hx, hr⟩ := h
    exact ⟨k, by rw [hx, hc], hr⟩

/-! ### Reader steps -/

theorem readBits_lt (r : Rd) (n : Nat) (h : r.start ≤ r.off) : (readBits r n).1 < 2 ^ n := by
  rw [(readBits_spec r n h).1]
  have := ofBits_lt (takeZ n r.window)
  rwa [takeZ_length] at this

/-- `reader.read_bits(n)` in the generated code, in the form the codec proofs use -/
theorem read_step (g : Gen.ReaderS) (n : Nat) (hg : RdOk g) :
    Gen.BitReader.read_bits g n = .ok ((readBits (toRd g) n).1, advance g n) ∧
      toRd (advance g n) = (readBits (toRd g) n).2 ∧ RdOk (advance g n) :=
  ⟨(gen_read_bits g n hg).1, (gen_read_bits g n hg).2, rdOk_advance hg n⟩

theorem readBits_eta (r : Rd) (n : Nat) : readBits r n = ((readBits r n).1, (readBits r n).2) := rfl

/-- every generated function spends one unit of fuel on its own frame -/
theorem fuel_succ {d fuel : Nat} (h : d + 1 ≤ fuel) : ∃ m, fuel = m + 1 ∧ d ≤ m :=
  ⟨fuel - 1, (Nat.sub_add_cancel (Nat.le_trans (Nat.le_add_left 1 d) h)).symm, Nat.le_sub_one_of_lt h⟩

/-! ### The normal form of generated code -/

theorem isi_boolean (c : Cls) : isinstance .boolean c = (c == .BooleanType || c == .PrimitiveType || c == .SerializableType) := rfl
theorem isi_signed (n : Nat) (m : CastMode) (c : Cls) : isinstance (.signed n m) c =
    (c == .SignedIntegerType || c == .IntegerType || c == .ArithmeticType || c == .PrimitiveType || c == .SerializableType) := rfl
theorem isi_unsigned (n : Nat) (m : CastMode) (c : Cls) : isinstance (.unsigned n m) c =
    (c == .UnsignedIntegerType || c == .IntegerType || c == .ArithmeticType || c == .PrimitiveType || c == .SerializableType) := rfl
theorem isi_byte (c : Cls) : isinstance .byte c =
    (c == .ByteType || c == .UnsignedIntegerType || c == .IntegerType || c == .ArithmeticType || c == .PrimitiveType ||
      c == .SerializableType) := rfl
theorem isi_utf8 (c : Cls) : isinstance .utf8 c =
    (c == .UTF8Type || c == .UnsignedIntegerType || c == .IntegerType || c == .ArithmeticType || c == .PrimitiveType ||
      c == .SerializableType) := rfl
theorem isi_float (n : Nat) (m : CastMode) (c : Cls) : isinstance (.float n m) c =
    (c == .FloatType || c == .ArithmeticType || c == .PrimitiveType || c == .SerializableType) := rfl
theorem isi_void (n : Nat) (c : Cls) : isinstance (.void n) c = (c == .VoidType || c == .SerializableType) := rfl
theorem isi_fixedArray (e : Obj) (n : Nat) (c : Cls) : isinstance (.fixedArray e n) c =
    (c == .FixedLengthArrayType || c == .ArrayType || c == .SerializableType) := rfl
theorem isi_varArray (e : Obj) (n : Nat) (l : Obj) (c : Cls) : isinstance (.varArray e n l) c =
    (c == .VariableLengthArrayType || c == .ArrayType || c == .SerializableType) := rfl
theorem isi_structure (fs : List Obj) (a : Nat) (n : String) (c : Cls) : isinstance (.structure fs a n) c =
    (c == .StructureType || c == .CompositeType || c == .SerializableType) := rfl
theorem isi_union (fs : List Obj) (t : Obj) (a : Nat) (n : String) (c : Cls) : isinstance (.union fs t a n) c =
    (c == .UnionType || c == .CompositeType || c == .SerializableType) := rfl
theorem isi_delimited (i h : Obj) (x a : Nat) (c : Cls) : isinstance (.delimited i h x a) c =
    (c == .DelimitedType || c == .CompositeType || c == .SerializableType) := rfl
theorem isi_service (a b : Obj) (n : String) (c : Cls) : isinstance (.service a b n) c =
    (c == .ServiceType || c == .CompositeType || c == .SerializableType) := rfl
theorem isi_field (d : Obj) (n : String) (c : Cls) : isinstance (.field d n) c = (c == .Field || c == .Attribute) := rfl
theorem isi_paddingField (d : Obj) (c : Cls) : isinstance (.paddingField d) c =
    (c == .PaddingField || c == .Field || c == .Attribute) := rfl

@[simp] theorem error_bind {ε α β : Type} (e : ε) (f : α → Except ε β) : (Except.error e >>= f) = .error e := rfl
@[simp] theorem throw_eq {ε α : Type} (e : ε) : (throw e : Except ε α) = .error e := rfl

/-- `x = f(); return x` and `return f()` have the same normal form -/
theorem bind_ok_self {ε α : Type} (x : Except ε α) : (x >>= fun a => Except.ok a) = x := by
  cases x <;> rfl

/-- the same for a pair that is taken apart and put together again -/
theorem bind_ok_pair {ε α β : Type} (x : Except ε (α × β)) : (x >>= fun p => Except.ok (p.1, p.2)) = x := by
  cases x <;> rfl

theorem ite_bind {ε α β : Type} (c : Prop) [Decidable c] (x y : Except ε α) (f : α → Except ε β) :
    ((if c then x else y) >>= f) = if c then x >>= f else y >>= f := by
  split <;> rfl

theorem except_bind_assoc {ε α β γ : Type} (x : Except ε α) (f : α → Except ε β) (g : β → Except ε γ) :
    (x >>= f >>= g) = x >>= fun a => f a >>= g := by
  cases x <;> rfl

/-- unfold generated code one level and NORMALISE it: class tests on known constructors are decided, binds are associated to the
    right, `x >>= ok` is `x`, `throw` / `pure` are constructors, lookups in constant tables and on `Option`s are evaluated, the
    private helpers the translator found through the call graph (`codec_helper`) are unfolded -/
macro "codec_simp" "[" args:Lean.Parser.Tactic.simpLemma,* "]" : tactic =>
  `(tactic| simp (config := {decide := true}) only [isi_boolean, isi_signed, isi_unsigned, isi_byte, isi_utf8, isi_float, isi_void,
      isi_fixedArray, isi_varArray, isi_structure, isi_union, isi_delimited, isi_service, isi_field, isi_paddingField,
      ↓reduceIte, if_true, if_false, ok_bind, pure_eq_ok, error_bind, throw_eq, Bool.or_self, Bool.or_false, Bool.false_or,
      bind_ok_self, bind_ok_pair, except_bind_assoc, Py.constLookup, Py.optGet, Option.isNone, Option.isSome, codec_helper,
      $args,*])

/-! ### `_deserialize_primitive` -/

/-- one `read_bits` whose result is wrapped: the shape of the boolean, unsigned, byte, UTF-8 and void decoders -/
theorem agree_read (s : Obj) (g : Gen.ReaderS) (hg : RdOk g) (n : Nat) (c : Nat → Val) (b : Nat → Value)
    (h : ∀ x, valueOf s (c x) = b x) :
    Agree s g (Gen.BitReader.read_bits g n >>= fun p => .ok (b p.1, p.2))
      (.ok (c (readBits (toRd g) n).1, (readBits (toRd g) n).2)) := by
  obtain ⟨e1, e2, _⟩ := read_step g n hg
  rw [e1, ← e2]
  exact ⟨n, by rw [ok_bind, h], rfl⟩

theorem forEach_range_succ_const {σ : Type} (n : Nat) (init : σ) (body : σ → Nat → Py.M σ) (b : σ → Py.M σ)
    (hb : ∀ s i, body s i = b s) :
    Py.forEach (Py.range (n + 1)) init body = b init >>= fun s => Py.forEach (Py.range n) s body := by
  have hbody : body = fun s _ => b s := funext fun s => funext fun i => hb s i
  subst hbody
  unfold Py.forEach Py.range
  rw [List.range_succ_eq_map, List.foldlM_cons]
  simp only [List.foldlM_map]

theorem shiftCount_pred (n : Nat) (h : 1 ≤ n) : Py.shiftCount (Int.ofNat n - Int.ofNat 1) = .ok (n - 1) := by
  unfold Py.shiftCount
  have : (0 : Int) ≤ Int.ofNat n - Int.ofNat 1 := by simp only [Int.ofNat_eq_natCast]; omega
  rw [if_pos this]
  simp only [pure_eq_ok, Int.ofNat_eq_natCast]
  congr 1
  omega

theorem leNat_eq (l : List Nat) : leNat l = Py.fromBytesLittle l := by
  induction l with
  | nil => rfl
  | cons a l ih => simp only [leNat, Py.fromBytesLittle, ih]

theorem readBytes_length (k : Nat) (r : Rd) : (readBytes k r).1.length = k := by
  induction k generalizing r with
  | zero => rfl
  | succ k ih => simp only [readBytes, List.length_cons, ih]

theorem bytes_loop (k : Nat) (g : Gen.ReaderS) (hg : RdOk g) (acc : List Nat)
    (body : List Nat × Gen.ReaderS → Nat → Py.M (List Nat × Gen.ReaderS))
    (hb : ∀ s i, body s i = (do
      let x ← Gen.BitReader.read_bits s.2 8
      let t ← Py.appendByte s.1 x.1
      Except.ok (t, x.2))) :
    Py.forEach (Py.range k) (acc, g) body = .ok (acc ++ (readBytes k (toRd g)).1, advance g (8 * k)) ∧
      toRd (advance g (8 * k)) = (readBytes k (toRd g)).2 := by
  induction k generalizing g acc with
  | zero => exact ⟨by simp [Py.forEach, Py.range, readBytes, advance_zero], by simp [readBytes, advance_zero]⟩
  | succ k ih =>
    obtain ⟨e1, e2, e3⟩ := read_step g 8 hg
    have hlt : (readBits (toRd g) 8).1 < 256 := readBits_lt (toRd g) 8 hg.2
    obtain ⟨i1, i2⟩ := ih (advance g 8) e3 (acc ++ [(readBits (toRd g) 8).1])
    rw [forEach_range_succ_const k (acc, g) body _ hb]
    simp only [e1, ok_bind, Py.appendByte, hlt, if_true, pure_eq_ok, i1, readBytes, e2, advance_advance, List.append_assoc,
      List.singleton_append]
    refine ⟨by congr 3; omega, ?_⟩
    rw [← e2, ← i2, advance_advance]; congr 2; omega

/-- the classes `_deserialize_primitive` handles -/
def isPrimObj : Obj → Bool
  | .boolean | .signed _ _ | .unsigned _ _ | .byte | .utf8 | .float _ _ | .void _ => true
  | _ => false

/-- **`_deserialize_primitive`**: for every primitive / void schema object with a well-formed descriptor -/
theorem gen_primitive (s : Obj) (hp : isPrimObj s = true) (hw : (tyOf s).wf = true) (g : Gen.ReaderS) (hg : RdOk g) :
    Agree s g (Gen.Codec.deserialize_primitive g s) (decR (tyOf s) (toRd g)) := by
  cases s with
  | boolean =>
    codec_simp [Gen.Codec.deserialize_primitive, tyOf, decR]
    exact agree_read _ g hg 1 (fun x => .bool (x != 0)) (fun x => .bool (x != 0)) (fun _ => by simp only [valueOf])
  | unsigned n c =>
    codec_simp [Gen.Codec.deserialize_primitive, Obj.bit_length, tyOf, decR]
    exact agree_read _ g hg n (fun x => .int x) (fun x => .int (Int.ofNat x)) (fun _ => by simp only [valueOf]; rfl)
  | byte | utf8 =>
    codec_simp [Gen.Codec.deserialize_primitive, Obj.bit_length, tyOf, decR]
    exact agree_read _ g hg 8 (fun x => .int x) (fun x => .int (Int.ofNat x)) (fun _ => by simp only [valueOf]; rfl)
  | void n =>
    codec_simp [Gen.Codec.deserialize_primitive, Obj.bit_length, tyOf, decR]
    exact agree_read _ g hg n (fun _ => .unit) (fun _ => .none) (fun _ => by simp only [valueOf])
  | signed n c =>
    -- two's complement: `raw - (1 << n)` when the sign bit `1 << (n - 1)` is set
    simp only [tyOf, Ty.wf, Bool.and_eq_true, decide_eq_true_eq] at hw
    obtain ⟨e1, e2, _⟩ := read_step g n hg
    codec_simp [Gen.Codec.deserialize_primitive, Obj.bit_length, e1, tyOf, decR, shiftCount_pred n (by omega), Wire.ofTwos,
      Nat.one_shiftLeft]
    rw [← e2]
    by_cases h : (readBits (toRd g) n).1 ≥ 2 ^ (n - 1)
    · rw [if_pos (decide_eq_true h), if_pos h]
      exact AgreeWith.mono (k := n) (AgreeWith.ret _ (by simp only [valueOf]; rfl))
    · rw [if_neg (by rw [decide_eq_false h]; exact Bool.false_ne_true), if_neg h]
      exact AgreeWith.mono (k := n) (AgreeWith.ret _ (by simp only [valueOf]; rfl))
  | float n c =>
    -- `n // 8` bytes one by one, then `struct.unpack`
    simp only [tyOf, Ty.wf, Bool.or_eq_true, beq_iff_eq] at hw
    have hlen := readBytes_length (n / 8) (toRd g)
    rcases hw with (rfl | rfl) | rfl <;>
    · codec_simp [Gen.Codec.deserialize_primitive, Obj.bit_length, tyOf, decR]
      rw [(bytes_loop _ g hg [] _ (fun s i => rfl)).1, ← (bytes_loop _ g hg [] _ (fun s i => rfl)).2]
      simp only [ok_bind, List.nil_append, Py.structUnpackFloat, hlen, leNat_eq, if_true, pure_eq_ok]
      exact AgreeWith.mono (AgreeWith.ret _ (by simp only [valueOf]))
  | _ => cases hp

/-! ### Dispatch, arrays, composites -/

def isArrObj : Obj → Bool
  | .fixedArray _ _ | .varArray _ _ _ => true
  | _ => false
def isCompObj : Obj → Bool
  | .structure _ _ _ | .union _ _ _ _ | .delimited _ _ _ _ => true
  | _ => false

/-- what the recursion promises about a schema object: each of the three decoders, on the objects it is responsible for -/
def Good (s : Obj) : Prop := ∀ (g : Gen.ReaderS), RdOk g →
  (isPrimObj s = true → Agree s g (Gen.Codec.deserialize_primitive g s) (decR (tyOf s) (toRd g))) ∧
  (isArrObj s = true → ∀ fuel, depth s ≤ fuel →
    Agree s g (Gen.Codec.deserialize_array_rec fuel g s) (decR (tyOf s) (toRd g))) ∧
  (isCompObj s = true → ∀ fuel, depth s ≤ fuel →
    Agree s g (Gen.Codec.deserialize_composite_rec fuel g s) (decR (tyOf s) (toRd g)))

/-- **`_deserialize_field_value`** dispatches to the decoder that is responsible -/
theorem gen_field_value (s : Obj) (hs : okT s = true) (hG : Good s) (g : Gen.ReaderS) (hg : RdOk g) (fuel : Nat)
    (hf : depth s + 1 ≤ fuel) :
    Agree s g (Gen.Codec.deserialize_field_value_rec fuel g s) (decR (tyOf s) (toRd g)) := by
  obtain ⟨m, rfl, hm⟩ := fuel_succ hf
  obtain ⟨h1, h2, h3⟩ := hG g hg
  simp only [Gen.Codec.deserialize_field_value_rec]
  cases s with
  | boolean | signed | unsigned | byte | utf8 | float | void => codec_simp []; exact h1 rfl
  | fixedArray | varArray => codec_simp []; exact h2 rfl m hm
  | service | field | paddingField => cases hs
  | _ => codec_simp []; exact h3 rfl m hm

/-- **`_deserialize_element`** likewise -/
theorem gen_element (s : Obj) (hs : okT s = true) (hG : Good s) (g : Gen.ReaderS) (hg : RdOk g) (fuel : Nat)
    (hf : depth s + 1 ≤ fuel) :
    Agree s g (Gen.Codec.deserialize_element_rec fuel g s) (decR (tyOf s) (toRd g)) := by
  obtain ⟨m, rfl, hm⟩ := fuel_succ hf
  obtain ⟨h1, h2, h3⟩ := hG g hg
  simp only [Gen.Codec.deserialize_element_rec]
  cases s with
  | boolean | signed | unsigned | byte | utf8 | float | void => codec_simp []; exact h1 rfl
  | fixedArray | varArray => codec_simp []; exact h2 rfl m hm
  | service | field | paddingField => cases hs
  | _ => codec_simp []; exact h3 rfl m hm

/-- `for _ in range(length): elements.append(_deserialize_element(reader, schema.element_type))` -/
theorem elems_loop (e : Obj) (he : okT e = true) (hG : Good e) (m : Nat) (hm : depth e + 1 ≤ m) (n : Nat) :
    ∀ (g : Gen.ReaderS), RdOk g → ∀ (acc : List Value) (body : List Value × Gen.ReaderS → Nat → Py.M (List Value × Gen.ReaderS)),
      (∀ s i, body s i = (do
        let x ← Gen.Codec.deserialize_element_rec m s.2 e
        Except.ok (s.1 ++ [x.1], x.2))) →
      AgreeWith (fun vs => acc ++ valuesOf e vs) g (Py.forEach (Py.range n) (acc, g) body)
        (decRepR (fun q => decR (tyOf e) q) n (toRd g)) := by
  induction n with
  | zero =>
    intro g hg acc body hb
    exact AgreeWith.ret (f := fun vs => acc ++ valuesOf e vs) [] (by simp only [valuesOf, List.append_nil])
  | succ n ih =>
    intro g hg acc body hb
    rw [forEach_range_succ_const n (acc, g) body _ hb, except_bind_assoc]
    refine AgreeWith.bind (gen_element e he hG g hg m hm) (fun v k => ?_)
    refine AgreeWith.map (List.cons v) (ih (advance g k) (rdOk_advance hg k) (acc ++ [valueOf e v]) body hb) (fun vs => ?_)
    simp only [valuesOf, List.append_assoc, List.singleton_append]

/-- the model's values of a `byte` / `utf8` array are byte values -/
def AreBytes (vs : List Val) : Prop := ∀ v ∈ vs, ∃ x : Nat, x < 256 ∧ v = .int x

theorem decRep_bytes (t : Ty) (ht : t = .byte ∨ t = .utf8) (n : Nat) :
    ∀ (r : Rd), r.start ≤ r.off → ∀ vs r', decRepR (fun q => decR t q) n r = .ok (vs, r') → AreBytes vs := by
  induction n with
  | zero =>
    intro r _ vs r' h
    simp only [decRepR, Except.ok.injEq, Prod.mk.injEq] at h
    intro v hv; rw [← h.1] at hv; cases hv
  | succ n ih =>
    intro r hr vs r' h
    have hd : decR t r = .ok (.int (readBits r 8).1, (readBits r 8).2) := by
      rcases ht with rfl | rfl <;> simp only [decR]
    simp only [decRepR, hd, ok_bind] at h
    cases h2 : decRepR (fun q => decR t q) n (readBits r 8).2 with
    | error e => rw [h2] at h; cases h
    | ok p =>
      obtain ⟨ws, r2⟩ := p
      rw [h2] at h
      simp only [ok_bind, pure_eq_ok, Except.ok.injEq, Prod.mk.injEq] at h
      have hr2 : (readBits r 8).2.start ≤ (readBits r 8).2.off := by
        rw [(readBits_spec r 8 hr).2.1]; exact Nat.le_trans hr (Nat.le_add_right _ _)
      intro v hv
      rw [← h.1] at hv
      rcases List.mem_cons.mp hv with rfl | hv
      · exact ⟨_, readBits_lt r 8 hr, rfl⟩
      · exact ih _ hr2 ws r2 h2 v hv

theorem bytesOfValues_bytes (e : Obj) (he : e = .byte ∨ e = .utf8) (vs : List Val) (h : AreBytes vs) :
    Py.bytesOfValues (valuesOf e vs) = .ok (vs.map Val.byteOf) := by
  induction vs with
  | nil => simp [valuesOf, Py.bytesOfValues]
  | cons v vs ih =>
    obtain ⟨x, hx, rfl⟩ := h v (by simp)
    have := ih (fun w hw => h w (by simp [hw]))
    rcases he with rfl | rfl <;>
    · simp only [valuesOf, valueOf, Py.bytesOfValues, this, ok_bind, pure_eq_ok, List.map_cons, Val.byteOf]
      rw [if_pos (by omega)]

/-- the tail of `_deserialize_array`: str for UTF-8 arrays, bytes for byte arrays, the list otherwise -/
@[reducible] def arrFinish (e : Obj) (p : List Value × Gen.ReaderS) : Py.M (Value × Gen.ReaderS) :=
  if isinstance e Cls.UTF8Type = true then do
    let t13 ← bytesOfValues p.1
    let t14 ← decodeUtf8 t13
    Except.ok (t14, p.2)
  else
    if isinstance e Cls.ByteType = true then do
      let t16 ← bytesOfValues p.1
      Except.ok (Value.bytes t16, p.2)
    else Except.ok (Value.list p.1, p.2)

theorem not_isinstance_UTF8Type {e : Obj} (h : e ≠ .utf8) : ¬ isinstance e .UTF8Type = true := by
  cases e with
  | utf8 => exact absurd rfl h
  | _ => exact Bool.false_ne_true

theorem not_isinstance_ByteType {e : Obj} (h : e ≠ .byte) : ¬ isinstance e .ByteType = true := by
  cases e with
  | byte => exact absurd rfl h
  | _ => exact Bool.false_ne_true

theorem arrValue_other (e : Obj) (h1 : e ≠ .utf8) (h2 : e ≠ .byte) (vs : List Val) (vals : List Value) :
    arrValue e vs vals = .list vals := by
  cases e <;> first | rfl | exact absurd rfl h1 | exact absurd rfl h2

/-- the descriptor of a delimited type: the inner structure / union with mode `delimited` -/
theorem tyOf_delimited (i h : Obj) (x a : Nat) (hs : okT (.delimited i h x a) = true) :
    okT i = true ∧ a = 8 ∧ isUnsignedOf h Wire.headerBits = true ∧
    ((∃ fs al n, i = .structure fs al n ∧ tyOf (.delimited i h x a) = .struct (tysOf fs) (.delimited x)) ∨
     (∃ fs t al n, i = .union fs t al n ∧ tyOf (.delimited i h x a) = .union (tysOf fs) (.delimited x))) := by
  obtain ⟨h1, h2, h3, h4⟩ := okT_delimited.mp hs
  refine ⟨h1, h3, h4, ?_⟩
  cases i <;> first | cases h2 | skip
  · exact Or.inl ⟨_, _, _, rfl, by simp only [tyOf]⟩
  · exact Or.inr ⟨_, _, _, _, rfl, by simp only [tyOf]⟩

theorem tyOf_utf8 (e : Obj) (he : okT e = true) (h : (tyOf e).isUtf8 = true) : e = .utf8 := by
  cases e with
  | utf8 => rfl
  | delimited i hd x a =>
    obtain ⟨_, _, _, ⟨fs, al, n, _, e2⟩ | ⟨fs, t, al, n, _, e2⟩⟩ := tyOf_delimited i hd x a he <;>
    · rw [e2] at h; cases h
  | service | field | paddingField => cases he
  | _ => cases h

theorem isUtf8_tyOf (e : Obj) (he : okT e = true) : (tyOf e).isUtf8 = true ↔ e = .utf8 :=
  ⟨tyOf_utf8 e he, fun h => by subst h; rfl⟩

theorem tyOf_byte (e : Obj) (h : e = .byte ∨ e = .utf8) : tyOf e = .byte ∨ tyOf e = .utf8 := by
  rcases h with rfl | rfl
  · exact Or.inl (by simp only [tyOf])
  · exact Or.inr (by simp only [tyOf])

/-- the tail of `_deserialize_array` against the tail of the model's array decoder (which validates UTF-8; a fixed-length array
    has no UTF-8 elements, so the same statement serves it) -/
theorem arr_tail (s e : Obj) (hv : ∀ vs, valueOf s (.arr vs) = arrValue e vs (valuesOf e vs)) (he : okT e = true)
    (vs : List Val) (g : Gen.ReaderS) (hb : e = .byte ∨ e = .utf8 → AreBytes vs) :
    Agree s g (arrFinish e (valuesOf e vs, g))
      (if ((tyOf e).isUtf8 && !Wire.validUtf8 (vs.map Val.byteOf)) = true then .error .value else .ok (.arr vs, toRd g)) := by
  by_cases h1 : e = .utf8
  · subst h1
    cases hu : Wire.validUtf8 (vs.map Val.byteOf) <;>
      codec_simp [arrFinish, bytesOfValues_bytes .utf8 (Or.inr rfl) vs (hb (Or.inr rfl)), Py.decodeUtf8, hu, tyOf, Ty.isUtf8]
    · exact AgreeWith.intro_err .value
    · exact AgreeWith.ret _ (by rw [hv]; rfl)
  · have hnu : (tyOf e).isUtf8 = false := Bool.eq_false_iff.mpr (mt (tyOf_utf8 e he) h1)
    rw [hnu, Bool.false_and, if_neg Bool.false_ne_true, arrFinish, if_neg (not_isinstance_UTF8Type h1)]
    by_cases h2 : e = .byte
    · subst h2
      codec_simp [bytesOfValues_bytes .byte (Or.inl rfl) vs (hb (Or.inl rfl))]
      exact AgreeWith.ret _ (by rw [hv]; rfl)
    · rw [if_neg (not_isinstance_ByteType h2)]
      exact AgreeWith.ret _ (by rw [hv, arrValue_other e h1 h2])

/-- **`_deserialize_array`**, fixed-length arrays -/
theorem gen_fixedArray (e : Obj) (cap : Nat) (hs : okT (.fixedArray e cap) = true) (hw : (tyOf (.fixedArray e cap)).wf = true)
    (hG : Good e) (g : Gen.ReaderS) (hg : RdOk g) (fuel : Nat) (hf : depth (.fixedArray e cap) ≤ fuel) :
    Agree (.fixedArray e cap) g (Gen.Codec.deserialize_array_rec fuel g (.fixedArray e cap))
      (decR (tyOf (.fixedArray e cap)) (toRd g)) := by
  simp only [depth] at hf
  obtain ⟨m, rfl, hm⟩ := fuel_succ hf
  have he : okT e = true := hs
  codec_simp [Gen.Codec.deserialize_array_rec, Obj.capacity, Obj.element_type, tyOf, decR]
  refine AgreeWith.bind_of (elems_loop e he hG m hm cap g hg [] _ (fun s i => rfl)) (fun vs k hy => ?_)
  have := arr_tail (.fixedArray e cap) e (fun _ => by simp only [valueOf]) he vs (advance g k)
    (fun h => decRep_bytes (tyOf e) (tyOf_byte e h) cap (toRd g) hg.2 vs _ hy)
  rwa [(wf_fixedArray hw).2, Bool.false_and, if_neg Bool.false_ne_true] at this

theorem isUnsignedOf_elim {o : Obj} {n : Nat} (h : isUnsignedOf o n = true) : ∃ c, o = .unsigned n c := by
  cases o <;> first | cases h | skip
  exact ⟨_, by rw [eq_of_beq h]⟩

/-- **`_deserialize_array`**, variable-length arrays: length prefix, capacity check, elements, UTF-8 validation -/
theorem gen_varArray (e : Obj) (cap : Nat) (l : Obj) (hs : okT (.varArray e cap l) = true)
    (hG : Good e) (g : Gen.ReaderS) (hg : RdOk g) (fuel : Nat) (hf : depth (.varArray e cap l) ≤ fuel) :
    Agree (.varArray e cap l) g (Gen.Codec.deserialize_array_rec fuel g (.varArray e cap l))
      (decR (tyOf (.varArray e cap l)) (toRd g)) := by
  simp only [depth] at hf
  obtain ⟨m, rfl, hm⟩ := fuel_succ hf
  obtain ⟨he, hl⟩ := okT_varArray.mp hs
  obtain ⟨c, rfl⟩ := isUnsignedOf_elim hl
  obtain ⟨e1, e2, e3⟩ := read_step g (Wire.lenBits cap) hg
  codec_simp [Gen.Codec.deserialize_array_rec, Obj.capacity, Obj.element_type, Obj.length_field_type, Obj.bit_length, tyOf, decR, e1]
  by_cases hc : (readBits (toRd g) (Wire.lenBits cap)).1 > cap
  · rw [if_pos (decide_eq_true hc), if_pos hc]
    exact AgreeWith.intro_err .arrayLength
  · rw [if_neg (by rw [decide_eq_false hc]; exact Bool.false_ne_true), if_neg hc, ← e2]
    refine AgreeWith.mono (k := Wire.lenBits cap) (AgreeWith.bind_of
      (elems_loop e he hG m hm _ (advance g (Wire.lenBits cap)) e3 [] _ (fun s i => rfl)) (fun vs k hy => ?_))
    exact arr_tail (.varArray e cap (.unsigned _ c)) e (fun _ => by simp only [valueOf]) he vs _
      (fun h => decRep_bytes (tyOf e) (tyOf_byte e h) _ _ e3.2 vs _ hy)

/-- `x.alignment_requirement` of a well-formed type object is the descriptor's alignment -/
theorem align_ok : ∀ (d : Obj), okT d = true → Obj.alignment_requirement d = .ok (tyOf d).align := fun d h => by
  cases d with
  | fixedArray e _ => simp only [Obj.alignment_requirement, tyOf, Ty.align, align_ok e h]
  | varArray e _ _ => simp only [Obj.alignment_requirement, tyOf, Ty.align, align_ok e (okT_varArray.mp h).1]
  | «structure» _ a _ => simp only [Obj.alignment_requirement, tyOf, Ty.align, pure_eq_ok, (okT_structure.mp h).2]
  | union _ _ a _ => simp only [Obj.alignment_requirement, tyOf, Ty.align, pure_eq_ok, (okT_union.mp h).2.1]
  | delimited i hd x a =>
    obtain ⟨_, ha, _, ⟨fs, al, n, _, e2⟩ | ⟨fs, t, al, n, _, e2⟩⟩ := tyOf_delimited i hd x a h <;>
    · rw [e2]; simp only [Obj.alignment_requirement, Ty.align, pure_eq_ok, ha]
  | service | field | paddingField => cases h
  | _ => rfl

theorem void_of (d : Obj) (hd : okT d = true) (hv : (tyOf d).isVoid = true) : ∃ w, d = .void w := by
  cases d with
  | void w => exact ⟨w, rfl⟩
  | delimited i h x a =>
    obtain ⟨_, _, _, ⟨fs, al, n, _, e2⟩ | ⟨fs, t, al, n, _, e2⟩⟩ := tyOf_delimited i h x a hd <;>
    · rw [e2] at hv; cases hv
  | service | field | paddingField => cases hd
  | _ => cases hv

theorem depth_le_depthFs {f : Obj} {fs : List Obj} (h : f ∈ fs) : depth f ≤ depthFs fs := by
  induction fs with
  | nil => cases h
  | cons a fs ih =>
    simp only [depthFs]
    rcases List.mem_cons.mp h with rfl | h
    · exact Nat.le_max_left _ _
    · exact Nat.le_trans (ih h) (Nat.le_max_right _ _)

/-- the body of the field loop of `_deserialize_composite` (compared with the generated term by `rfl`) -/
@[reducible] def structBody (m : Nat) (x : List (String × Value) × Gen.ReaderS) (field : Obj) :
    Py.M (List (String × Value) × Gen.ReaderS) := do
  let t32 ← field.data_type
  let t33 ← t32.alignment_requirement
  let reader ← Gen.BitReader.align_to x.2 t33
  if isinstance field Cls.PaddingField = true then do
      let t34 ← field.data_type
      let t35 ← t34.bit_length
      let __x ← Gen.BitReader.read_bits reader t35
      Except.ok (x.1, __x.2)
    else do
      let t38 ← field.data_type
      let __x ← Gen.Codec.deserialize_field_value_rec m reader t38
      let t41 ← field.name
      Except.ok (dictSet x.1 t41 __x.1, __x.2)

theorem forEach_cons {α σ : Type} (a : α) (l : List α) (init : σ) (body : σ → α → Py.M σ) :
    Py.forEach (a :: l) init body = body init a >>= fun s => Py.forEach l s body := rfl

/-- `for field in schema.fields: reader.align_to(...); <padding | field value>` -/
theorem fields_loop (m : Nat) : ∀ (fs : List Obj), okFs fs = true → Wire.wfFields (tysOf fs) = true →
    (∀ d n, Obj.field d n ∈ fs → Good d) → depthFs fs + 1 ≤ m →
    ∀ (g : Gen.ReaderS), RdOk g → ∀ acc,
      AgreeWith (fun vs => structDict fs vs acc) g (Py.forEach fs (acc, g) (structBody m)) (decFieldsR (tysOf fs) (toRd g)) := by
  intro fs
  induction fs with
  | nil =>
    intro _ _ _ _ g hg acc
    simp only [tysOf, decFieldsR]
    exact AgreeWith.ret (f := fun vs => structDict [] vs acc) [] (by simp only [structDict])
  | cons f fs ih =>
    intro hok hwf hG hm g hg acc
    simp only [depthFs] at hm
    have hwfs := (wfFields_cons hwf).2
    have hGs : ∀ d n, Obj.field d n ∈ fs → Good d := fun d n h => hG d n (List.mem_cons_of_mem _ h)
    have hms : depthFs fs + 1 ≤ m := Nat.le_trans (Nat.succ_le_succ (Nat.le_max_right _ _)) hm
    rw [forEach_cons]
    cases f with
    | field d n =>
      obtain ⟨hd, _, hoks⟩ := okFs_field.mp hok
      obtain ⟨k, a1, a2⟩ := gen_reader_align_to g (tyOf d).align
      codec_simp [structBody, Obj.data_type, Obj.name, align_ok d hd, a1, tysOf, tyOf, decFieldsR]
      rw [← a2]
      simp only [depth] at hm
      refine AgreeWith.mono (k := k) (AgreeWith.bind
        (gen_field_value d hd (hG d n List.mem_cons_self) _ (rdOk_advance hg k) m
          (Nat.le_trans (Nat.succ_le_succ (Nat.le_max_left _ _)) hm)) (fun v k1 => ?_))
      refine AgreeWith.map (List.cons v)
        (ih hoks hwfs hGs hms _ (rdOk_advance (rdOk_advance hg k) k1) (dictSet acc n (valueOf d v))) (fun vs => ?_)
      simp only [structDict]
    | paddingField d =>
      obtain ⟨hd, hv, hoks⟩ := okFs_padding.mp hok
      obtain ⟨w, rfl⟩ := void_of d hd hv
      obtain ⟨k, a1, a2⟩ := gen_reader_align_to g (Ty.void w).align
      obtain ⟨e1, e2, e3⟩ := read_step (advance g k) w (rdOk_advance hg k)
      codec_simp [structBody, Obj.data_type, Obj.bit_length, align_ok (.void w) hd, a1, e1, tysOf, tyOf, decFieldsR, decR]
      rw [← a2, ← e2]
      refine AgreeWith.mono (k := k) (AgreeWith.mono (k := w) (AgreeWith.map (List.cons .unit)
        (ih hoks hwfs hGs hms _ e3 acc) (fun vs => ?_)))
      simp only [structDict]
    | _ => cases hok

theorem tysOf_length (fs : List Obj) : (tysOf fs).length = fs.length := by
  induction fs with
  | nil => rfl
  | cons f fs ih => simp only [tysOf, List.length_cons, ih]

/-- **`_deserialize_composite`**, StructureType branch -/
theorem gen_structure (fs : List Obj) (a : Nat) (n : String) (hs : okT (.structure fs a n) = true)
    (hw : (tyOf (.structure fs a n)).wf = true) (hG : ∀ d n, Obj.field d n ∈ fs → Good d)
    (g : Gen.ReaderS) (hg : RdOk g) (fuel : Nat) (hf : depth (.structure fs a n) ≤ fuel) :
    Agree (.structure fs a n) g (Gen.Codec.deserialize_composite_rec fuel g (.structure fs a n))
      (decR (tyOf (.structure fs a n)) (toRd g)) := by
  simp only [depth] at hf
  obtain ⟨m, rfl, hm⟩ := fuel_succ hf
  obtain ⟨hfs, rfl⟩ := okT_structure.mp hs
  codec_simp [Gen.Codec.deserialize_composite_rec, Obj.fields, Obj.alignment_requirement, tyOf, decR, unwrapDelimR]
  refine AgreeWith.bind (fields_loop m fs hfs (wf_structure hw) hG hm g hg []) (fun vs k => ?_)
  obtain ⟨k2, a1, a2⟩ := gen_reader_align_to (advance g k) 8
  rw [a1, ← a2]
  exact AgreeWith.mono (k := k2) (AgreeWith.ret (Val.recd vs) (by simp only [valueOf]))

theorem index_cons_succ {α : Type} (a : α) (l : List α) (i : Nat) : Py.index (a :: l) (i + 1) = Py.index l i := by
  simp only [Py.index, List.getElem?_cons_succ]

theorem index_cons_zero {α : Type} (a : α) (l : List α) : Py.index (a :: l) 0 = .ok a := rfl

/-- `field = schema.fields[tag]` of a union: a `Field` (unions have no padding), whose type the model's `decVariantR` decodes -/
theorem variant_lookup : ∀ (fs : List Obj) (tag : Nat), okFs fs = true → Wire.noVoid (tysOf fs) = true → tag < fs.length →
    ∃ d n, Py.index fs tag = .ok (.field d n) ∧ Obj.field d n ∈ fs ∧ okT d = true ∧
      (∀ r, decVariantR (tysOf fs) tag r = decR (tyOf d) r) ∧ (∀ v, variantValue fs tag v = .dict [(n, valueOf d v)]) := by
  intro fs
  induction fs with
  | nil => intro _ _ _ h; cases h
  | cons f fs ih =>
    intro tag hok hnv h
    cases f with
    | field d n =>
      obtain ⟨hd, _, hoks⟩ := okFs_field.mp hok
      cases tag with
      | zero =>
        exact ⟨d, n, rfl, List.mem_cons_self, hd, fun r => by simp only [tysOf, tyOf, decVariantR],
          fun v => by simp only [variantValue]⟩
      | succ tag =>
        simp only [tysOf, Wire.noVoid, Bool.and_eq_true] at hnv
        obtain ⟨d', n', h1, h2, h3, h4, h5⟩ := ih tag hoks hnv.2 (Nat.lt_of_succ_lt_succ h)
        exact ⟨d', n', by rw [index_cons_succ, h1], List.mem_cons_of_mem _ h2, h3,
          fun r => by simp only [tysOf, decVariantR, h4], fun v => by simp only [variantValue, h5]⟩
    | paddingField d =>
      simp only [tysOf, tyOf, Wire.noVoid, (okFs_padding.mp hok).2.1, Bool.not_true, Bool.false_and, Bool.false_eq_true] at hnv
    | _ => cases hok

/-- **`_deserialize_composite`**, UnionType branch -/
theorem gen_union (fs : List Obj) (t : Obj) (a : Nat) (n : String) (hs : okT (.union fs t a n) = true)
    (hw : (tyOf (.union fs t a n)).wf = true) (hG : ∀ d n, Obj.field d n ∈ fs → Good d)
    (g : Gen.ReaderS) (hg : RdOk g) (fuel : Nat) (hf : depth (.union fs t a n) ≤ fuel) :
    Agree (.union fs t a n) g (Gen.Codec.deserialize_composite_rec fuel g (.union fs t a n))
      (decR (tyOf (.union fs t a n)) (toRd g)) := by
  simp only [depth] at hf
  obtain ⟨m, rfl, hm⟩ := fuel_succ hf
  obtain ⟨hfs, rfl, ht⟩ := okT_union.mp hs
  obtain ⟨c, rfl⟩ := isUnsignedOf_elim ht
  obtain ⟨e1, e2, e3⟩ := read_step g (Wire.tagBits fs.length) hg
  codec_simp [Gen.Codec.deserialize_composite_rec, Obj.fields, Obj.alignment_requirement, Obj.tag_field_type, Obj.full_name,
    Obj.bit_length, tyOf, decR, unwrapDelimR, tysOf_length, e1]
  by_cases hc : (readBits (toRd g) (Wire.tagBits fs.length)).1 ≥ fs.length
  · rw [if_pos (decide_eq_true hc), if_pos hc]
    exact AgreeWith.intro_err .unionTag
  · rw [if_neg (by rw [decide_eq_false hc]; exact Bool.false_ne_true), if_neg hc]
    obtain ⟨d, nm, h1, h2, h3, h4, h5⟩ := variant_lookup fs _ hfs (wf_union hw).2 (Nat.lt_of_not_le hc)
    have hd : depth (.field d nm) ≤ depthFs fs := depth_le_depthFs h2
    simp only [depth] at hd
    rw [← e2, h4]
    codec_simp [h1, Obj.data_type, Obj.name]
    refine AgreeWith.mono (k := Wire.tagBits fs.length) (AgreeWith.bind
      (gen_field_value d h3 (hG d nm h2) _ e3 m (Nat.le_trans (Nat.succ_le_succ hd) hm)) (fun v k => ?_))
    obtain ⟨k2, a1, a2⟩ := gen_reader_align_to (advance (advance g (Wire.tagBits fs.length)) k) 8
    rw [a1, ← a2]
    exact AgreeWith.mono (k := k2) (AgreeWith.ret (Val.var _ v) (by simp only [valueOf, h5]))

theorem decR_delimited (i h : Obj) (x a : Nat) (hs : okT (.delimited i h x a) = true) (r : Rd) :
    decR (tyOf (.delimited i h x a)) r = unwrapDelimR (.delimited x) r (fun q => decR (tyOf i) q) := by
  obtain ⟨_, _, _, ⟨fs, al, n, rfl, e2⟩ | ⟨fs, t, al, n, rfl, e2⟩⟩ := tyOf_delimited i h x a hs <;>
  · rw [e2]; simp only [tyOf, decR, unwrapDelimR]

theorem message_name_ok (i : Obj) (h : isStructOrUnion i = true) :
    ∃ s, (if i.hasattr "full_name" = true then i.full_name else Except.ok "") = .ok s := by
  cases i <;> first | cases h | skip
  all_goals
    cases hh : Obj.hasattr _ "full_name"
    · exact ⟨"", by simp only [Bool.false_eq_true, if_false]⟩
    · exact ⟨_, by simp only [if_true, Obj.full_name, pure_eq_ok]; rfl⟩

theorem isCompObj_of_structOrUnion {i : Obj} (h : isStructOrUnion i = true) : isCompObj i = true := by
  cases i with
  | «structure» | union => rfl
  | _ => cases h

/-- **`_deserialize_composite`**, DelimitedType branch: header, check against `remaining_bits`, bounded sub-reader -/
theorem gen_delimited (i h : Obj) (x a : Nat) (hs : okT (.delimited i h x a) = true) (hG : Good i)
    (g : Gen.ReaderS) (hg : RdOk g) (fuel : Nat) (hf : depth (.delimited i h x a) ≤ fuel) :
    Agree (.delimited i h x a) g (Gen.Codec.deserialize_composite_rec fuel g (.delimited i h x a))
      (decR (tyOf (.delimited i h x a)) (toRd g)) := by
  simp only [depth] at hf
  obtain ⟨m, rfl, hm⟩ := fuel_succ hf
  rw [decR_delimited i h x a hs]
  obtain ⟨hi, hsu, _, hh⟩ := okT_delimited.mp hs
  obtain ⟨c, rfl⟩ := isUnsignedOf_elim hh
  obtain ⟨e1, e2, e3⟩ := read_step g Wire.headerBits hg
  have hrem := gen_remaining_bits (advance g Wire.headerBits) e3.2
  codec_simp [Gen.Codec.deserialize_composite_rec, Obj.delimiter_header_type, Obj.inner_type, Obj.bit_length, e1, hrem, unwrapDelimR]
  rw [← e2]
  by_cases hc : (readBits (toRd g) Wire.headerBits).1 * 8 > (toRd (advance g Wire.headerBits)).remaining
  · -- the guard, in whichever orientation the source spells it
    have hc1 : decide ((toRd (advance g Wire.headerBits)).remaining < (readBits (toRd g) Wire.headerBits).1 * 8) = true :=
      decide_eq_true hc
    have hc2 : decide ((readBits (toRd g) Wire.headerBits).1 * 8 ≤ (toRd (advance g Wire.headerBits)).remaining) = false :=
      decide_eq_false (Nat.not_le_of_gt hc)
    obtain ⟨s, hmsg⟩ := message_name_ok i hsu
    simp only [hc, hc1, hc2, decide_true, decide_false, if_true, if_false, Bool.false_eq_true, hmsg, ok_bind, hrem, error_bind]
    exact AgreeWith.intro_err .delimiterHeader
  · have hc1 : decide ((toRd (advance g Wire.headerBits)).remaining < (readBits (toRd g) Wire.headerBits).1 * 8) = false :=
      decide_eq_false hc
    have hc2 : decide ((readBits (toRd g) Wire.headerBits).1 * 8 ≤ (toRd (advance g Wire.headerBits)).remaining) = true :=
      decide_eq_true (Nat.le_of_not_gt hc)
    obtain ⟨b1, b2, b3⟩ := gen_bounded_subreader (advance g Wire.headerBits) ((readBits (toRd g) Wire.headerBits).1 * 8)
    -- the inner type is decoded from the sub-reader; the result reader is the parent behind the payload
    have hsub : RdOk ⟨(advance g Wire.headerBits).data, (advance g Wire.headerBits).bit_offset,
        (advance g Wire.headerBits).bit_offset, some ((readBits (toRd g) Wire.headerBits).1 * 8)⟩ := ⟨e3.1, Nat.le_refl _⟩
    have hin := (hG _ hsub).2.2 (isCompObj_of_structOrUnion hsu) m hm
    simp only [hc, hc1, hc2, decide_true, decide_false, if_true, if_false, Bool.false_eq_true, b1, ok_bind]
    rw [← b2, ← b3]
    refine AgreeWith.mono (k := Wire.headerBits) ?_
    cases hy : decR (tyOf i) (toRd ⟨(advance g Wire.headerBits).data, (advance g Wire.headerBits).bit_offset,
        (advance g Wire.headerBits).bit_offset, some ((readBits (toRd g) Wire.headerBits).1 * 8)⟩) with
    | error e0 => rw [hy] at hin; rw [show Gen.Codec.deserialize_composite_rec m _ i = _ from hin]; exact AgreeWith.intro_err e0
    | ok p =>
      rw [hy] at hin
      obtain ⟨k, hx, _⟩ := hin
      rw [hx]
      exact ⟨_, by simp only [ok_bind, pure_eq_ok, valueOf], rfl⟩

theorem wf_inner_of_delimited (i h : Obj) (x a : Nat) (hs : okT (.delimited i h x a) = true)
    (hw : (tyOf (.delimited i h x a)).wf = true) : (tyOf i).wf = true := by
  obtain ⟨_, _, _, h1 | h1⟩ := tyOf_delimited i h x a hs
  · obtain ⟨fs, al, n, rfl, e2⟩ := h1
    rw [e2] at hw
    simp only [Ty.wf, Bool.and_eq_true] at hw
    simp only [tyOf, Ty.wf, Wire.modeOk, hw.1, Bool.and_self]
  · obtain ⟨fs, t, al, n, rfl, e2⟩ := h1
    rw [e2] at hw
    simp only [Ty.wf, Bool.and_eq_true] at hw
    simp only [tyOf, Ty.wf, Wire.modeOk, hw.1.1.1.1, hw.1.1.1.2, hw.1.1.2, hw.1.2, Bool.and_self]

mutual
/-- **Every decoder on every well-formed schema object**: by recursion over the object graph -/
theorem good : ∀ (s : Obj), okT s = true → (tyOf s).wf = true → Good s
  | s, hs, hw, g, hg => by
    cases s with
    | fixedArray e cap =>
      exact ⟨(nomatch ·), fun _ fuel hf => gen_fixedArray e cap hs hw (good e hs (wf_fixedArray hw).1) g hg fuel hf, (nomatch ·)⟩
    | varArray e cap l =>
      exact ⟨(nomatch ·), fun _ fuel hf => gen_varArray e cap l hs (good e (okT_varArray.mp hs).1 (wf_varArray hw)) g hg fuel hf,
        (nomatch ·)⟩
    | «structure» fs a n =>
      exact ⟨(nomatch ·), (nomatch ·),
        fun _ fuel hf => gen_structure fs a n hs hw (good_all fs (okT_structure.mp hs).1 (wf_structure hw)) g hg fuel hf⟩
    | union fs t a n =>
      exact ⟨(nomatch ·), (nomatch ·),
        fun _ fuel hf => gen_union fs t a n hs hw (good_all fs (okT_union.mp hs).1 (wf_union hw).1) g hg fuel hf⟩
    | delimited i h x a =>
      have hi : okT i = true := (tyOf_delimited i h x a hs).1
      exact ⟨(nomatch ·), (nomatch ·),
        fun _ fuel hf => gen_delimited i h x a hs (good i hi (wf_inner_of_delimited i h x a hs hw)) g hg fuel hf⟩
    | service | field | paddingField => cases hs
    | _ => exact ⟨fun _ => gen_primitive _ rfl hw g hg, (nomatch ·), (nomatch ·)⟩
theorem good_all : ∀ (fs : List Obj), okFs fs = true → Wire.wfFields (tysOf fs) = true →
    ∀ d n, Obj.field d n ∈ fs → Good d
  | fs, hok, hwf, d, n, h => by
    cases fs with
    | nil => cases h
    | cons f fs =>
      obtain ⟨hwf1, hwfs⟩ := wfFields_cons hwf
      cases f with
      | field d' n' =>
        rcases List.mem_cons.mp h with h | h
        · rw [(Obj.field.inj h).1]
          exact good d' (okFs_field.mp hok).1 hwf1
        · exact good_all fs (okFs_field.mp hok).2.2 hwfs d n h
      | paddingField d' =>
        rcases List.mem_cons.mp h with h | h
        · cases h
        · exact good_all fs (okFs_padding.mp hok).2.2 hwfs d n h
      | _ => cases hok
end

/-- the outcome of `deserialize` that corresponds to an outcome of the model -/
def liftTop (s : Obj) : Except Wire.Err Val → Py.M Value
  | .ok v => .ok (valueOf s v)
  | .error e => .error (errOf e)

theorem rdOk_initial (data : List Nat) (hb : IsBytes data) : RdOk ⟨data, 0, 0, none⟩ := ⟨hb, Nat.le_refl _⟩

theorem toRd_initial (data : List Nat) : toRd ⟨data, 0, 0, none⟩ = ⟨bytesToBits data, 0, 0, none⟩ := rfl

/-- running a decoder from the initial reader and dropping the final reader -/
theorem top_of_agree {s : Obj} {g : Gen.ReaderS} {x : Py.M (Value × Gen.ReaderS)} {y : Except Wire.Err (Val × Rd)}
    (h : Agree s g x y) :
    (x >>= fun p => Except.ok p.1) = liftTop s (y >>= fun p => pure p.1) := by
  cases y with
  | error e => rw [show x = _ from h]; rfl
  | ok p => obtain ⟨k, hx, _⟩ := h; rw [hx]; rfl

theorem inner_sealed (s : Obj) (hs : okT s = true) (h : isStructOrUnion s = true) :
    (tyOf s).inner = tyOf s ∧ (tyOf s).isDelimited = false := by
  cases s with
  | «structure» | union => exact ⟨by simp only [tyOf, Ty.inner], by simp only [tyOf, Ty.isDelimited]⟩
  | _ => cases h

theorem inner_delimited (i h : Obj) (x a : Nat) (hs : okT (.delimited i h x a) = true) :
    (tyOf (.delimited i h x a)).inner = tyOf i ∧ (tyOf (.delimited i h x a)).isDelimited = true := by
  obtain ⟨_, _, _, ⟨fs, al, n, rfl, e2⟩ | ⟨fs, t, al, n, rfl, e2⟩⟩ := tyOf_delimited i h x a hs <;>
  · rw [e2]; exact ⟨by simp only [tyOf, Ty.inner], by simp only [Ty.isDelimited]⟩

/-- the class tests at the head of `deserialize` on a structure or union -/
theorem isinstance_sealed {s : Obj} (h : isStructOrUnion s = true) :
    isinstance s .ServiceType = false ∧ isinstance s .DelimitedType = false := by
  cases s with
  | «structure» | union => exact ⟨rfl, rfl⟩
  | _ => cases h

/-- **`deserialize`** on a structure or union type -/
theorem gen_deserialize_sealed (s : Obj) (hs : okT s = true) (hsu : isStructOrUnion s = true) (hw : (tyOf s).wf = true)
    (hd : depth s ≤ Py.recursionLimit) (data : List Nat) (hb : IsBytes data) (hdr : Bool) :
    Gen.Codec.deserialize s data hdr = liftTop s (deserializeR (tyOf s) (bytesToBits data) hdr) := by
  obtain ⟨hin, hdl⟩ := inner_sealed s hs hsu
  obtain ⟨i1, i2⟩ := isinstance_sealed hsu
  cases hdr with
  | true =>
    -- a delimiter header is asked of a type that has none
    simp only [deserializeR, hdl, Bool.not_false, Bool.and_self, if_true]
    codec_simp [Gen.Codec.deserialize, i1, i2, Bool.not_false, Bool.and_self, Bool.false_eq_true]
    rfl
  | false =>
    have hA := ((good s hs hw) _ (rdOk_initial data hb)).2.2 (isCompObj_of_structOrUnion hsu) _ hd
    rw [toRd_initial] at hA
    simp only [deserializeR, Bool.false_and, Bool.false_eq_true, if_false, hin]
    rw [← top_of_agree hA]
    codec_simp [Gen.Codec.deserialize, Gen.Codec.deserialize_composite, Gen.BitReader.init, i1, i2, Bool.false_and,
      Bool.false_eq_true]

theorem valueOf_delimited (i h : Obj) (x a : Nat) (v : Val) : valueOf (.delimited i h x a) v = valueOf i v := by
  cases v <;> simp only [valueOf]

theorem liftTop_delimited (i h : Obj) (x a : Nat) (y : Except Wire.Err Val) : liftTop (.delimited i h x a) y = liftTop i y := by
  cases y with
  | error e => rfl
  | ok v => simp only [liftTop, valueOf_delimited]

/-- **`deserialize`** on a delimited type, with or without the delimiter header -/
theorem gen_deserialize_delimited (i h : Obj) (x a : Nat) (hs : okT (.delimited i h x a) = true)
    (hw : (tyOf (.delimited i h x a)).wf = true) (hd : depth (.delimited i h x a) ≤ Py.recursionLimit)
    (data : List Nat) (hb : IsBytes data) (hdr : Bool) :
    Gen.Codec.deserialize (.delimited i h x a) data hdr =
      liftTop (.delimited i h x a) (deserializeR (tyOf (.delimited i h x a)) (bytesToBits data) hdr) := by
  obtain ⟨hin, hdl⟩ := inner_delimited i h x a hs
  obtain ⟨hi, hsu, _, _⟩ := okT_delimited.mp hs
  simp only [depth] at hd
  rw [liftTop_delimited]
  cases hdr with
  | false =>
    -- without the header the inner type is decoded from the initial reader
    have hA := (good i hi (wf_inner_of_delimited i h x a hs hw) _ (rdOk_initial data hb)).2.2
      (isCompObj_of_structOrUnion hsu) Py.recursionLimit (Nat.le_of_succ_le hd)
    rw [toRd_initial] at hA
    simp only [deserializeR, Bool.false_and, Bool.false_eq_true, if_false, hin]
    rw [← top_of_agree hA]
    codec_simp [Gen.Codec.deserialize, Gen.Codec.deserialize_composite, Gen.BitReader.init, Bool.false_and, Obj.inner_type]
  | true =>
    -- with the header the entry point is the DelimitedType branch of `_deserialize_composite` on the initial reader, whether it
    -- spells that branch out once more (one frame less) or delegates to it
    have key : ∃ F, depth i + 1 ≤ F ∧ Gen.Codec.deserialize (.delimited i h x a) data true =
        (Gen.Codec.deserialize_composite_rec F ⟨data, 0, 0, none⟩ (.delimited i h x a) >>= fun p => Except.ok p.1) := by
      first
        | (refine ⟨Py.recursionLimit + 1, Nat.le_succ_of_le hd, ?_⟩
           codec_simp [Gen.Codec.deserialize, Gen.Codec.deserialize_composite, Gen.BitReader.init, Obj.inner_type,
             Obj.delimiter_header_type, Gen.Codec.deserialize_composite_rec, Bool.not_true, Bool.and_false, Bool.false_eq_true,
             ite_bind]
           done)
        | (refine ⟨Py.recursionLimit, hd, ?_⟩
           codec_simp [Gen.Codec.deserialize, Gen.Codec.deserialize_composite, Gen.BitReader.init, Obj.inner_type, Bool.not_true,
             Bool.and_false, Bool.false_eq_true, ite_bind]
           done)
    obtain ⟨F, hF, hEq⟩ := key
    have hA := (good (.delimited i h x a) hs hw _ (rdOk_initial data hb)).2.2 rfl F (by simp only [depth]; exact hF)
    rw [toRd_initial] at hA
    have := top_of_agree hA
    rw [liftTop_delimited] at this
    simp only [deserializeR, hdl, Bool.not_true, Bool.and_false, Bool.false_eq_true, if_false, if_true]
    rw [hEq, this]

/-- **`deserialize`**: for every well-formed composite schema object (structure, union, or delimited) whose nesting depth fits
    into CPython's recursion limit, every byte string and both values of `with_delimiter_header`, the generated function returns
    what the model's `deserializeR` returns: the Python value of the model's value, or the exception of the model's error class. -/
theorem gen_deserialize (s : Obj) (hs : okT s = true) (hc : isCompObj s = true) (hw : (tyOf s).wf = true)
    (hd : depth s ≤ Py.recursionLimit) (data : List Nat) (hb : IsBytes data) (hdr : Bool) :
    Gen.Codec.deserialize s data hdr = liftTop s (deserializeR (tyOf s) (bytesToBits data) hdr) := by
  cases s with
  | «structure» fs a n => exact gen_deserialize_sealed _ hs rfl hw hd data hb hdr
  | union fs t a n => exact gen_deserialize_sealed _ hs rfl hw hd data hb hdr
  | delimited i h x a => exact gen_deserialize_delimited i h x a hs hw hd data hb hdr
  | _ => cases hc

/-! ### The equality test used to evaluate examples is sound -/

mutual
theorem beq_sound : ∀ (a b : Value), a.beq b = true → a = b
  | .none, .none, _ => rfl
  | .sentinel, .sentinel, _ => rfl
  | .bool a, .bool b, h => by simp only [Value.beq, beq_iff_eq] at h; rw [h]
  | .int a, .int b, h => by simp only [Value.beq, beq_iff_eq] at h; rw [h]
  | .float a, .float b, h => by simp only [Value.beq, beq_iff_eq] at h; rw [h]
  | .str a, .str b, h => by simp only [Value.beq, beq_iff_eq] at h; rw [h]
  | .bytes a, .bytes b, h => by simp only [Value.beq, beq_iff_eq] at h; rw [h]
  | .list a, .list b, h => by simp only [Value.beq] at h; rw [beqList_sound a b h]
  | .dict a, .dict b, h => by simp only [Value.beq] at h; rw [beqDict_sound a b h]
  | .none, .bool _, h | .none, .int _, h => by simp [Value.beq] at h
theorem beqList_sound : ∀ (a b : List Value), Value.beqList a b = true → a = b
  | [], [], _ => rfl
  | x :: xs, y :: ys, h => by
      simp only [Value.beqList, Bool.and_eq_true] at h
      rw [beq_sound x y h.1, beqList_sound xs ys h.2]
  | [], _ :: _, h | _ :: _, [], h => by simp [Value.beqList] at h
theorem beqDict_sound : ∀ (a b : List (String × Value)), Value.beqDict a b = true → a = b
  | [], [], _ => rfl
  | (k, x) :: xs, (l, y) :: ys, h => by
      simp only [Value.beqDict, Bool.and_eq_true, beq_iff_eq] at h
      rw [h.1.1, beq_sound x y h.1.2, beqDict_sound xs ys h.2]
  | [], _ :: _, h | _ :: _, [], h => by simp [Value.beqDict] at h
end

/-- `Py.sameOutcome x y = true` means `x = y` -/
theorem sameOutcome_sound {x y : Py.M Value} (h : Py.sameOutcome x y = true) : x = y := by
  cases x with
  | ok a => cases y with
    | ok b => simp only [Py.sameOutcome] at h; rw [beq_sound a b h]
    | error f => simp [Py.sameOutcome] at h
  | error e => cases y with
    | ok b => simp [Py.sameOutcome] at h
    | error f => simp only [Py.sameOutcome, beq_iff_eq] at h; rw [h]

end Bridge
