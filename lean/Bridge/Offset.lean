import Bridge.Layout
import Props.C01
/-!
  Bridge for `DataSchemaBuilder.offset` (the `_offset_` intrinsic; translated into `Gen/Layout.lean` on every run): it picks
  `UnionType` / `StructureType` by the builder's union flag, calls `aggregate_bit_length_sets` and asserts that the result
  is a non-empty set (`len(out) > 0`, a numerical expansion); on constructible fields it returns the model's expression.
-/
set_option linter.unusedSimpArgs false
open Bls Layout

namespace Bridge

theorem blsLen_pos (o : Op) (h : o.wf = true) : 0 < Py.blsLen o := by
  unfold Py.blsLen
  have h1 := (C01.expand_exact o).2.2
  have h2 := C01.den_nonempty o h
  rw [h1]; exact Finset.card_pos.mpr h2

theorem offset_struct_ok (fs : List Ty) (h : ∀ f ∈ fs, f.wf = true) :
    Gen.DataSchemaBuilder.offset false (fs.map tyI) = .ok (offsetIntrinsic false fs) := by
  have : (fs.map tyI).map (fun f => f) = fs.map tyI := by simp
  simp only [Gen.DataSchemaBuilder.offset, this, Bool.false_eq_true, if_false, aggStruct_ok, ok_bind, Bool.true_and,
    decide_eq_true (blsLen_pos _ (aggStruct_wf fs fun f hf => bls_wf f (h f hf))), assert_true, pure_eq_ok, offsetIntrinsic]

theorem offset_union_ok (fs : List Ty) (h : ∀ f ∈ fs, f.wf = true) (h2 : 2 ≤ fs.length) (h64 : tagBits fs ≤ 64) :
    Gen.DataSchemaBuilder.offset true (fs.map tyI) = .ok (offsetIntrinsic true fs) := by
  have : (fs.map tyI).map (fun f => f) = fs.map tyI := by simp
  simp only [Gen.DataSchemaBuilder.offset, this, if_true, aggUnion_ok fs h2 h64, ok_bind, Bool.true_and,
    decide_eq_true (blsLen_pos _ (aggUnion_wf fs (fun f hf => bls_wf f (h f hf)) h2)), assert_true, pure_eq_ok, offsetIntrinsic]

end Bridge
