import Bridge.Codec
/-!
  Bridge for the SERIALIZING side of the codec functions of `pydsdl/_serdes.py` (`serialize`, `_serialize_primitive / _array /
  _element / _composite / _field_value`, `_default_value`), translated into `Gen/Codec.lean` on every run.

  The generated functions take a schema object (`Py.Obj`), a Python value (`Py.Value`, inspected dynamically) and the `_BitWriter`
  state (`Gen.WriterS`); the model is `Wire.coerce` (what the input denotes: cast modes, defaults for omitted fields, container checks)
  followed by `WireIO.encW` (the canonical value written through the two-path writer model).

  * `inpOf`    : the model's input (`Wire.Inp`: dict keys are field positions) a Python value given for a schema object denotes;
  * `plain`    : the values of the theorems: no float object (the float conversions are uninterpreted), no sentinel, `str` carrying
                 valid UTF-8, bytes below 256;
  * `serOk`    : the schema objects of the theorems: no float type (the conversion region of `_serialize_primitive` is an
                 uninterpreted function of the source text), field names of every composite pairwise distinct;
  * `WAgree`   : the generated outcome is the model's: a writer state whose bit view is the model's writer and that satisfies the
                 generated code's invariant again, or the exception of the model's error class;
  * `thenWrite`: the shape of the model's encoders (coerce everything, then write); `WAgree.seq` / `WAgree.andThen` carry agreement
                 through the binds of the generated code, which coerces and writes piece by piece;
  * `defaultOf`: what `_default_value` returns; `gen_default_value` (generated code = `defaultOf`), `defCo` (in the model it coerces
                 to `Wire.dflt`).

  A function that inspects its value dynamically is unfolded once per kind of value, by what it can find out about a plain value:
  `plain_number` (`_serialize_primitive`), `plain_seq` (`_serialize_array`), `plain_dict` (`_serialize_composite`); the schema object
  is split by constructor, so that every class test of the source is decided.  `okT_induction` is the recursion over the object graph.

  Main theorems: `gen_serialize_primitive` (input check, saturation / truncation as `Int` arithmetic incl. `&` on negative ints),
  `gen_ser_fixedArray` / `gen_ser_varArray` (str / bytes / list inputs by element type, length checks, length prefix),
  `gen_ser_structure` (unknown keys, lookup by name = lookup by position, defaults for omitted fields, padding),
  `gen_ser_union` (exactly one entry, search loop with `break`, UnionFieldError), `gen_ser_delimited` (temporary writer, header
  after the payload length is known, payload byte by byte), `sgood` (all of them by recursion over the object graph),
  `gen_serialize` (entry point, with / without delimiter header; `relaxed=False`).
  (This file imports `Bridge.Codec`: same source file, shared definitions `tyOf`, `okT`, `depth`.)
-/
set_option linter.unusedSimpArgs false
set_option linter.unusedVariables false
open BitIO Py Bridge
open Wire (Ty Val Mode Cast Inp)
open WireIO
namespace Bridge

/-! ### Python ints -/

/-- `i & (2^n - 1)` on a Python int is `i mod 2^n`, also for negative `i` (two's complement with infinitely many sign bits) -/
theorem iand_mask (i : Int) (n : Nat) : Py.iand i (((1 <<< n : Nat) : Int) - 1) = i % (2 : Int) ^ n := by
  have h1 : 1 ≤ 2 ^ n := Nat.one_le_two_pow
  have hm : ((1 <<< n : Nat) : Int) - 1 = ((2 ^ n - 1 : Nat) : Int) := by
    rw [Nat.one_shiftLeft]; omega
  rw [hm]
  cases i with
  | ofNat a =>
    simp only [Py.iand, Nat.and_two_pow_sub_one_eq_mod, Int.ofNat_eq_natCast]
    norm_cast
  | negSucc a =>
    have hlt : a % 2 ^ n < 2 ^ n := Nat.mod_lt _ (Nat.two_pow_pos n)
    -- bit `j` of `¬a ∧ (2^n - 1)` is set iff `j < n` and bit `j` of `a mod 2^n` is clear
    have hbit : Nat.bitwise (fun x y => !x && y) a (2 ^ n - 1) = 2 ^ n - (a % 2 ^ n + 1) := by
      apply Nat.eq_of_testBit_eq
      intro j
      rw [Nat.testBit_bitwise (by rfl), Nat.testBit_two_pow_sub_one, Nat.testBit_two_pow_sub_succ hlt, Nat.testBit_mod_two_pow]
      by_cases hj : j < n <;> simp [hj]
    rw [Int.negSucc_emod a (by positivity)]
    simp only [Py.iand, hbit, Int.ofNat_eq_natCast]
    push_cast [Nat.cast_sub (Nat.succ_le_of_lt hlt)]
    ring

theorem toNat_nonneg {i : Int} (h : 0 ≤ i) : Py.toNat i = .ok i.toNat := by
  unfold Py.toNat; rw [if_pos h]; rfl

theorem emod_two_pow_nonneg (i : Int) (n : Nat) : 0 ≤ i % (2 : Int) ^ n :=
  Int.emod_nonneg _ (ne_of_gt (by positivity))

/-! ### The model's casts -/

theorem castU_nonneg (n : Nat) (c : Cast) (i : Int) : 0 ≤ Wire.castU n c i := by
  have hpos : (0 : Int) < (2 : Int) ^ n := by positivity
  cases c
  · simp only [Wire.castU, Wire.clamp]; omega
  · simp only [Wire.castU]; exact emod_two_pow_nonneg i n

theorem castU_lt (n : Nat) (c : Cast) (i : Int) : Wire.castU n c i < (2 : Int) ^ n := by
  have hpos : (0 : Int) < (2 : Int) ^ n := by positivity
  cases c
  · simp only [Wire.castU, Wire.clamp]; omega
  · simp only [Wire.castU]; exact Int.emod_lt_of_pos _ hpos

/-- what `coerce` makes of a Python number given to an unsigned field is the value `write_bits` receives -/
theorem toTwos_castU (n : Nat) (c : Cast) (i : Int) : Wire.toTwos n (Wire.castU n c i) = (Wire.castU n c i).toNat := by
  unfold Wire.toTwos
  rw [Int.emod_eq_of_lt (castU_nonneg n c i) (castU_lt n c i)]

theorem castU_zero (n : Nat) (c : Cast) : Wire.castU n c 0 = 0 := by
  have hpos : (0 : Int) < (2 : Int) ^ n := by positivity
  cases c
  · simp only [Wire.castU, Wire.clamp]; omega
  · simp only [Wire.castU, Int.zero_emod]

theorem castS_sat_zero (n : Nat) : Wire.castS n .sat 0 = 0 := by
  have hpos : (0 : Int) < (2 : Int) ^ (n - 1) := by positivity
  simp only [Wire.castS, Wire.clamp]
  omega

/-! ### Agreement of a generated writer function with a model encoder -/

/-- the generated writer writes what the model writes, from a state that satisfies the generated code's invariant -/
def WAgree (w : Gen.WriterS) (x : Py.M Gen.WriterS) (y : Except Wire.Err W) : Prop :=
  match y with
  | .ok w' => ∃ g', x = .ok g' ∧ toW g' = w' ∧ WInv g'
  | .error e => x = .error (errOf e)

theorem WAgree.elim {w : Gen.WriterS} {x : Py.M Gen.WriterS} {y : Except Wire.Err W} (h : WAgree w x y) :
    (∃ e, y = .error e ∧ x = .error (errOf e)) ∨ (∃ g', y = .ok (toW g') ∧ x = .ok g' ∧ WInv g') := by
  cases y with
  | error e => exact Or.inl ⟨e, rfl, h⟩
  | ok w' => obtain ⟨g', hx, hr, hi⟩ := h; exact Or.inr ⟨g', by rw [hr], hx, hi⟩

theorem wagree_bind_id {w : Gen.WriterS} {x : Py.M Gen.WriterS} {y : Except Wire.Err W} (h : WAgree w x y) :
    WAgree w (x >>= fun t => Except.ok t) y := by
  rwa [bind_ok_self]

theorem wr_step (w : Gen.WriterS) (v n : Nat) (hw : WInv w) :
    WAgree w (Gen.BitWriter.write_bits w v n) (.ok (writeBits (toW w) v n)) := gen_write_bits w v n hw

theorem align_step (w : Gen.WriterS) (a : Nat) (hw : WInv w) :
    WAgree w (Gen.BitWriter.align_to w a) (.ok (alignTo (toW w) a)) := gen_writer_align_to w a hw

/-- The shape of the model's encoders: coerce the input (this may fail), then write the canonical value. -/
def thenWrite {α : Type} (c : Except Wire.Err α) (enc : α → W → W) (w : W) : Except Wire.Err W :=
  match c with
  | .ok v => .ok (enc v w)
  | .error e => .error e

/-- Writer threading.  The generated code coerces and writes piece by piece, the model coerces everything before it writes anything:
    when the first piece agrees (from `W₁`, wherever the writer is then) and the rest agrees from every state the first piece can
    leave, the whole agrees. -/
theorem WAgree.seq {α β γ : Type} {w : Gen.WriterS} {x : Py.M Gen.WriterS} {f : Gen.WriterS → Py.M Gen.WriterS} {W₀ W₁ : W}
    {c₁ : Except Wire.Err α} {c₂ : Except Wire.Err β} {e₁ : α → W → W} {e₂ : β → W → W} {k : α → β → γ} {e : γ → W → W}
    (h₁ : WAgree w x (thenWrite c₁ e₁ W₁)) (h₂ : ∀ g, WInv g → WAgree g (f g) (thenWrite c₂ e₂ (toW g)))
    (he : ∀ a b, e (k a b) W₀ = e₂ b (e₁ a W₁)) :
    WAgree w (x >>= f) (thenWrite (do let a ← c₁; let b ← c₂; pure (k a b)) e W₀) := by
  cases c₁ with
  | error err => rw [show x = .error (errOf err) from h₁]; rfl
  | ok a =>
    obtain ⟨g, hx, hr, hi⟩ := h₁
    have h := h₂ g hi
    rw [hx]
    cases c₂ with
    | error err => exact h
    | ok b => obtain ⟨g', hx', hr', hi'⟩ := h; exact ⟨g', hx', by rw [hr', hr]; exact (he a b).symm, hi'⟩

/-- The same when the rest cannot fail (`write_bits`, `align_to`). -/
theorem WAgree.andThen {α β : Type} {w : Gen.WriterS} {x : Py.M Gen.WriterS} {f : Gen.WriterS → Py.M Gen.WriterS} {W₀ W₁ : W}
    {c : Except Wire.Err α} {e₁ : α → W → W} {post : W → W} {k : α → β} {e : β → W → W}
    (h₁ : WAgree w x (thenWrite c e₁ W₁)) (h₂ : ∀ g, WInv g → WAgree g (f g) (.ok (post (toW g))))
    (he : ∀ a, e (k a) W₀ = post (e₁ a W₁)) :
    WAgree w (x >>= f) (thenWrite (do let a ← c; pure (k a)) e W₀) := by
  cases c with
  | error err => rw [show x = .error (errOf err) from h₁]; rfl
  | ok a =>
    obtain ⟨g, hx, hr, hi⟩ := h₁
    obtain ⟨g', hx', hr', hi'⟩ := h₂ g hi
    exact ⟨g', by rw [hx]; exact hx', by rw [hr', hr]; exact (he a).symm, hi'⟩

/-! ### Python input values and the model's input values -/

mutual
/-- a value in the domain of the serializer theorems: no float token (the float conversions are uninterpreted), no sentinel; a
    `str` is represented by a valid UTF-8 encoding, bytes are bytes -/
def plain : Value → Bool
  | .none | .bool _ | .int _ => true
  | .float _ | .sentinel => false
  | .str bs => bs.all (fun b => decide (b < 256)) && Wire.validUtf8 bs
  | .bytes bs => bs.all (fun b => decide (b < 256))
  | .list xs => plainList xs
  | .dict kvs => plainDict kvs
def plainList : List Value → Bool
  | [] => true
  | x :: xs => plain x && plainList xs
def plainDict : List (String × Value) → Bool
  | [] => true
  | (_, x) :: kvs => plain x && plainDict kvs
end

/-- a delimited type without its wrapper -/
def strip : Obj → Obj
  | .delimited i _ _ _ => i
  | o => o

def elemOf : Obj → Obj
  | .fixedArray e _ | .varArray e _ _ => e
  | _ => .void 0

def fieldsOf : Obj → List Obj
  | .structure fs _ _ | .union fs _ _ _ => fs
  | _ => []

/-- position of the first (non-padding) field named `k`, counted from `i`; the position behind the list when there is none -/
def fieldIdx (k : String) : List Obj → Nat → Nat
  | [], i => i
  | .field _ n :: fs, i => if n == k then i else fieldIdx k fs (i + 1)
  | _ :: fs, i => fieldIdx k fs (i + 1)

/-- the type of that field -/
def fieldType (k : String) : List Obj → Obj
  | [] => .void 0
  | .field d n :: fs => if n == k then d else fieldType k fs
  | _ :: fs => fieldType k fs

mutual
/-- the model's input value (`Wire.Inp`: dict keys are field positions) that a Python value given for a schema object denotes -/
def inpOf : Value → Obj → Inp
  | .none, _ | .float _, _ | .sentinel, _ => .none
  | .bool b, _ => .bool b
  | .int i, _ => .int i
  | .str bs, _ => .bytes bs
  | .bytes bs, _ => .bytes bs
  | .list xs, s => .list (inpList xs (elemOf (strip s)))
  | .dict kvs, s => .dict (inpDict kvs (fieldsOf (strip s)))
def inpList : List Value → Obj → List Inp
  | [], _ => []
  | x :: xs, e => inpOf x e :: inpList xs e
def inpDict : List (String × Value) → List Obj → List (Nat × Inp)
  | [], _ => []
  | (k, x) :: kvs, fs => (fieldIdx k fs 0, inpOf x (fieldType k fs)) :: inpDict kvs fs
end

/-- the model's serializer on an input value: coerce, then write -/
def modelSer (t : Ty) (x : Inp) (w : W) : Except Wire.Err W :=
  match Wire.coerce t x with
  | .ok v => .ok (encW t v w)
  | .error e => .error e

theorem modelSer_eq (t : Ty) (x : Inp) (w : W) : modelSer t x w = thenWrite (Wire.coerce t x) (encW t) w := by
  unfold modelSer thenWrite; cases Wire.coerce t x <;> rfl

/-! ### `_serialize_primitive` on bool / int / void -/

theorem numQ_inpOf (pv : Value) (s : Obj) (hp : plain pv = true) :
    (inpOf pv s).num? = (match pv with | .bool b => some (if b then 1 else 0) | .int i => some i | _ => none) := by
  cases pv <;> simp [inpOf, Wire.Inp.num?, plain] at hp ⊢

/-- What `_serialize_primitive` finds out about a plain value: it is a number (a `bool` or an `int`, never a float) with its `int()`
    and truth value, or it is of none of the three classes. -/
theorem plain_number (pv : Value) (hp : plain pv = true) :
    (∃ i, (∀ s, (inpOf pv s).num? = some i) ∧ pv.toInt = .ok i ∧ pv.truthy = (i != 0) ∧ pv.isinstance .int = true ∧
      pv.isinstance .float = false) ∨
    ((∀ s, (inpOf pv s).num? = none) ∧ pv.isinstance .bool = false ∧ pv.isinstance .int = false ∧ pv.isinstance .float = false) := by
  have hn := fun s => numQ_inpOf pv s hp
  cases pv with
  | bool b => exact Or.inl ⟨_, hn, rfl, by cases b <;> rfl, rfl, rfl⟩
  | int i => exact Or.inl ⟨_, hn, rfl, rfl, rfl, rfl⟩
  | float _ | sentinel => simp only [plain, Bool.false_eq_true] at hp
  | _ => exact Or.inr ⟨hn, rfl, rfl, rfl⟩

/-- the model's input check of a boolean field, by the number the input denotes -/
theorem coerce_bool (x : Inp) :
    Wire.coerce .bool x = match x.num? with | some i => .ok (.bool (i != 0)) | none => .error .value := by
  cases x <;> simp only [Wire.coerce, Wire.Inp.num?]
  rename_i b; cases b <;> rfl

/-- `(if c then ok a else ok b)` is `ok (if c then a else b)`: early returns of values inside helpers -/
theorem ite_ok {ε α : Type} (c : Prop) [Decidable c] (a b : α) :
    (if c then (Except.ok a : Except ε α) else Except.ok b) = Except.ok (if c then a else b) := by
  split <;> rfl

/-- The step the integer encoders end in, `write_bits(<int expression>, n)`: the model writes the two's complement pattern of the
    coerced number `v`, so the two agree when the expression is `v mod 2^n`. -/
theorem ser_write_int (w : Gen.WriterS) (hw : WInv w) (n : Nat) (X v : Int) (hX : X = v % (2 : Int) ^ n) :
    WAgree w (Py.toNat X >>= fun t => Gen.BitWriter.write_bits w t n) (.ok (writeBits (toW w) (Wire.toTwos n v) n)) := by
  rw [hX, toNat_nonneg (emod_two_pow_nonneg v n)]
  exact wr_step w _ n hw

theorem ser_write_nat (w : Gen.WriterS) (hw : WInv w) (n v : Nat) (W' : W) (hW : W' = writeBits (toW w) v n) :
    WAgree w (Gen.BitWriter.write_bits w v n) (.ok W') :=
  hW ▸ wr_step w v n hw

/-- The arithmetic side condition of the integer encoders, for whatever way the source spells saturation / truncation (`max` / `min`,
    comparison chains, `&` with the mask once or twice): after normalising (`&` with `2^n - 1` is `% 2^n`, `% 2^n % 2^n` is `% 2^n`,
    model casts unfolded) it is a linear fact about ints in which the powers of two are atoms, or needs one `Int.emod_eq_of_lt`.
    `hP : 0 < 2^n` and `hQ : 0 < 2^(n-1)` must be in the context. -/
macro "int_side" : tactic =>
  `(tactic| (
      try simp only [WireIO.encW, Wire.castU, Wire.castS, Wire.clamp, castOf, iand_mask, Int.emod_emod, decide_eq_true_eq,
        Int.ofNat_eq_natCast, Nat.cast_ofNat, Nat.cast_one, Nat.cast_zero, gt_iff_lt, ge_iff_le]
      first
        | done
        | rfl
        | omega
        | (congr 1; omega)
        | (rw [Int.emod_eq_of_lt (by omega) (by omega)]; try omega)))

/-- closes an integer / bool case of `_serialize_primitive` once the generated code is unfolded and normalised -/
macro "ser_int_close" w:term "," hw:term "," n:term : tactic =>
  `(tactic| first
      | exact rfl
      | (simp only [WireIO.encW]; apply ser_write_int $w $hw $n; int_side)
      | (apply ser_write_nat $w $hw $n; int_side))

theorem ser_unsigned (w : Gen.WriterS) (hw : WInv w) (n : Nat) (c : CastMode) (pv : Value) (hp : plain pv = true) :
    WAgree w (Gen.Codec.serialize_primitive w (.unsigned n c) pv)
      (modelSer (.uint n (castOf c)) (inpOf pv (.unsigned n c)) (toW w)) := by
  have hP : (0 : Int) < (2 : Int) ^ n := by positivity
  rcases plain_number pv hp with ⟨i, h⟩ | h <;> cases c <;>
    codec_simp [Gen.Codec.serialize_primitive, Obj.bit_length, Obj.cast_mode, Obj.inclusive_value_range, h, Bool.or_true,
      modelSer, Wire.coerce, ite_ok, castOf] <;> ser_int_close w, hw, n

/-- `ByteType` and `UTF8Type`: truncated unsigned integers of 8 bits -/
theorem ser_byte (w : Gen.WriterS) (hw : WInv w) (s : Obj) (hs : s = .byte ∨ s = .utf8) (pv : Value) (hp : plain pv = true) :
    WAgree w (Gen.Codec.serialize_primitive w s pv) (modelSer (tyOf s) (inpOf pv s) (toW w)) := by
  have hP : (0 : Int) < (2 : Int) ^ 8 := by positivity
  rcases plain_number pv hp with ⟨i, h⟩ | h <;> rcases hs with rfl | rfl <;>
    codec_simp [Gen.Codec.serialize_primitive, Obj.bit_length, Obj.cast_mode, Obj.inclusive_value_range, h, Bool.or_true,
      modelSer, tyOf, Wire.coerce, ite_ok] <;> ser_int_close w, hw, 8

theorem ser_signed (w : Gen.WriterS) (hw : WInv w) (n : Nat) (pv : Value) (hp : plain pv = true) :
    WAgree w (Gen.Codec.serialize_primitive w (.signed n .saturated) pv)
      (modelSer (.sint n .sat) (inpOf pv (.signed n .saturated)) (toW w)) := by
  have hP : (0 : Int) < (2 : Int) ^ n := by positivity
  have hQ : (0 : Int) < (2 : Int) ^ (n - 1) := by positivity
  rcases plain_number pv hp with ⟨i, h⟩ | h <;>
    codec_simp [Gen.Codec.serialize_primitive, Obj.bit_length, Obj.cast_mode, Obj.inclusive_value_range, h, Bool.or_true,
      modelSer, Wire.coerce, ite_ok] <;> ser_int_close w, hw, n

theorem ser_boolean (w : Gen.WriterS) (hw : WInv w) (pv : Value) (hp : plain pv = true) :
    WAgree w (Gen.Codec.serialize_primitive w .boolean pv) (modelSer .bool (inpOf pv .boolean) (toW w)) := by
  rcases plain_number pv hp with ⟨i, h⟩ | h <;>
    codec_simp [Gen.Codec.serialize_primitive, h, Bool.or_true, modelSer, coerce_bool] <;> ser_int_close w, hw, 1

/-- `_serialize_primitive` on a void type ignores the value and writes zeros -/
theorem ser_void (w : Gen.WriterS) (hw : WInv w) (n : Nat) (pv : Value) :
    WAgree w (Gen.Codec.serialize_primitive w (.void n) pv) (modelSer (.void n) (inpOf pv (.void n)) (toW w)) := by
  codec_simp [Gen.Codec.serialize_primitive, Obj.bit_length, modelSer, Wire.coerce]
  ser_int_close w, hw, n

/-- the primitive types of the serializer theorems: no float (its conversion is an uninterpreted region) -/
def isIntLike : Obj → Bool
  | .boolean | .signed _ _ | .unsigned _ _ | .byte | .utf8 | .void _ => true
  | _ => false

/-- **`_serialize_primitive`** on bool / integer / void types: input check, saturation / truncation, `write_bits` -/
theorem gen_serialize_primitive (s : Obj) (hs : isIntLike s = true) (hwf : (tyOf s).wf = true) (w : Gen.WriterS) (hw : WInv w)
    (pv : Value) (hp : plain pv = true) :
    WAgree w (Gen.Codec.serialize_primitive w s pv) (modelSer (tyOf s) (inpOf pv s) (toW w)) := by
  cases s with
  | boolean => exact ser_boolean w hw pv hp
  | signed n c =>
    -- a truncated signed type is not well-formed
    cases c
    · exact ser_signed w hw n pv hp
    · simp [tyOf, Ty.wf, castOf] at hwf
  | unsigned n c => exact ser_unsigned w hw n c pv hp
  | byte => exact ser_byte w hw _ (Or.inl rfl) pv hp
  | utf8 => exact ser_byte w hw _ (Or.inr rfl) pv hp
  | void n => exact ser_void w hw n pv
  | _ => simp [isIntLike] at hs

/-! ### Recursion over schema objects -/

section
variable {P : Obj → Prop} (prim : ∀ s, isPrimObj s = true → (tyOf s).wf = true → P s)
  (farr : ∀ e cap, okT (.fixedArray e cap) = true → (tyOf (.fixedArray e cap)).wf = true → P e → P (.fixedArray e cap))
  (varr : ∀ e cap l, okT (.varArray e cap l) = true → (tyOf (.varArray e cap l)).wf = true → P e → P (.varArray e cap l))
  (struct : ∀ fs a n, okT (.structure fs a n) = true → (tyOf (.structure fs a n)).wf = true →
    (∀ d nm, Obj.field d nm ∈ fs → P d) → P (.structure fs a n))
  (union : ∀ fs t a n, okT (.union fs t a n) = true → (tyOf (.union fs t a n)).wf = true →
    (∀ d nm, Obj.field d nm ∈ fs → P d) → P (.union fs t a n))
  (delim : ∀ i h x a, okT (.delimited i h x a) = true → (tyOf (.delimited i h x a)).wf = true → P i → P (.delimited i h x a))
include prim farr varr struct union delim

set_option linter.unusedSectionVars false in
mutual
/-- **Induction over the schema objects** that `okT` accepts and whose type descriptor is well-formed: both properties pass to the
    element type of an array, to the data types of the `Field`s of a composite and to the inner type of a delimited type.  This is
    the recursion of every codec function. -/
theorem okT_induction : ∀ (s : Obj), okT s = true → (tyOf s).wf = true → P s
  | .boolean, _, hw | .signed _ _, _, hw | .unsigned _ _, _, hw | .byte, _, hw | .utf8, _, hw | .float _ _, _, hw | .void _, _, hw =>
      prim _ rfl hw
  | .fixedArray e cap, hs, hw =>
      farr e cap hs hw (okT_induction e (by simpa only [okT] using hs)
        (by simp only [tyOf, Ty.wf, Bool.and_eq_true] at hw; exact hw.1.1.1))
  | .varArray e cap l, hs, hw =>
      varr e cap l hs hw (okT_induction e (by simp only [okT, Bool.and_eq_true] at hs; exact hs.1)
        (by simp only [tyOf, Ty.wf, Bool.and_eq_true] at hw; exact hw.1.1.1))
  | .structure fs a n, hs, hw =>
      struct fs a n hs hw (okT_induction_fields fs (by simp only [okT, Bool.and_eq_true] at hs; exact hs.1)
        (by simp only [tyOf, Ty.wf, Bool.and_eq_true] at hw; exact hw.1))
  | .union fs t a n, hs, hw =>
      union fs t a n hs hw (okT_induction_fields fs (by simp only [okT, Bool.and_eq_true] at hs; exact hs.1.1)
        (by simp only [tyOf, Ty.wf, Bool.and_eq_true] at hw; exact hw.1.1.1.1))
  | .delimited i h x a, hs, hw =>
      delim i h x a hs hw (okT_induction i (tyOf_delimited i h x a hs).1 (wf_inner_of_delimited i h x a hs hw))
  | .service _ _ _, hs, _ | .field _ _, hs, _ | .paddingField _, hs, _ => by simp [okT] at hs
theorem okT_induction_fields : ∀ (fs : List Obj), okFs fs = true → Wire.wfFields (tysOf fs) = true →
    ∀ d n, Obj.field d n ∈ fs → P d
  | [], _, _, _, _, h => by cases h
  | .field d' n' :: fs, hok, hwf, d, n, h => by
      simp only [okFs, Bool.and_eq_true] at hok
      simp only [tysOf, tyOf, Wire.wfFields, Bool.and_eq_true] at hwf
      rcases List.mem_cons.mp h with h | h
      · cases h; exact okT_induction d' hok.1.1 hwf.1.1
      · exact okT_induction_fields fs hok.2 hwf.2 d n h
  | .paddingField d' :: fs, hok, hwf, d, n, h => by
      simp only [okFs, Bool.and_eq_true] at hok
      simp only [tysOf, Wire.wfFields, Bool.and_eq_true] at hwf
      rcases List.mem_cons.mp h with h | h
      · cases h
      · exact okT_induction_fields fs hok.2 hwf.2 d n h
  | .boolean :: _, hok, _, _, _, _ | .signed _ _ :: _, hok, _, _, _, _ | .unsigned _ _ :: _, hok, _, _, _, _
  | .byte :: _, hok, _, _, _, _ | .utf8 :: _, hok, _, _, _, _ | .float _ _ :: _, hok, _, _, _, _ | .void _ :: _, hok, _, _, _, _
  | .fixedArray _ _ :: _, hok, _, _, _, _ | .varArray _ _ _ :: _, hok, _, _, _, _ | .structure _ _ _ :: _, hok, _, _, _, _
  | .union _ _ _ _ :: _, hok, _, _, _, _ | .delimited _ _ _ _ :: _, hok, _, _, _, _ | .service _ _ _ :: _, hok, _, _, _, _ => by
      simp [okFs] at hok
end
end

theorem mem_field_nonvoid : ∀ (fs : List Obj), okFs fs = true → ∀ d n, Obj.field d n ∈ fs → (tyOf d).isVoid = false ∧ okT d = true
  | [], _, _, _, h => by cases h
  | f :: fs, hok, d, n, hmem => by
      rcases List.mem_cons.mp hmem with h1 | h2
      · subst h1
        simp only [okFs, Bool.and_eq_true, Bool.not_eq_true'] at hok
        exact ⟨hok.1.2, hok.1.1⟩
      · clear hmem
        cases f <;> simp only [okFs, Bool.and_eq_true, Bool.false_eq_true] at hok
        · exact mem_field_nonvoid fs hok.2 d n h2
        · exact mem_field_nonvoid fs hok.2 d n h2

theorem wf_of_mem_field : ∀ (fs : List Obj), Wire.wfFields (tysOf fs) = true → ∀ d n, Obj.field d n ∈ fs → (tyOf d).wf = true
  | f :: fs, hwf, d, n, h => by
      simp only [tysOf, Wire.wfFields, Bool.and_eq_true] at hwf
      rcases List.mem_cons.mp h with rfl | h
      · simpa only [tyOf] using hwf.1.1
      · exact wf_of_mem_field fs hwf.2 d n h

/-! ### `_default_value` -/

mutual
/-- what `_default_value` returns -/
def defaultOf : Obj → Value
  | .boolean => .bool false
  | .signed _ _ | .unsigned _ _ | .byte | .utf8 => .int 0
  | .float _ _ => .float 0
  | .void _ => .none
  | .fixedArray e cap => .list (List.replicate cap (defaultOf e))
  | .varArray e _ _ =>
      match e with
      | .utf8 => .str []
      | .byte => .bytes []
      | _ => .list []
  | .structure fs _ _ => .dict (defaultDict fs [])
  | .union fs _ _ _ => defaultFirst fs
  | .delimited i _ _ _ => defaultOf i
  | _ => .none
def defaultDict : List Obj → List (String × Value) → List (String × Value)
  | [], acc => acc
  | .field d n :: fs, acc => defaultDict fs (Py.dictSet acc n (defaultOf d))
  | _ :: fs, acc => defaultDict fs acc
def defaultFirst : List Obj → Value
  | .field d n :: _ => .dict [(n, defaultOf d)]
  | _ => .none
end

/-- the generated `_default_value` returns `defaultOf` -/
def DefGood (s : Obj) : Prop := ∀ fuel, depth s + 1 ≤ fuel → Gen.Codec.default_value_rec fuel s = .ok (defaultOf s)

theorem default_loop (m : Nat) : ∀ (fs : List Obj), okFs fs = true → (∀ d n, Obj.field d n ∈ fs → DefGood d) → depthFs fs + 1 ≤ m →
    ∀ (acc : List (String × Value)) (body : List (String × Value) → Obj → Py.M (List (String × Value))),
      (∀ r f, body r f = (do
        let t8 ← f.name
        let t9 ← f.data_type
        let t10 ← Gen.Codec.default_value_rec m t9
        Except.ok (dictSet r t8 t10))) →
      Py.forEach (List.filter (fun f => !isinstance f Cls.PaddingField) fs) acc body = .ok (defaultDict fs acc) := by
  intro fs
  induction fs with
  | nil => intro _ _ _ acc body _; rfl
  | cons f fs ih =>
    intro hok hG hm acc body hb
    simp only [depthFs] at hm
    cases f with
    | field d n =>
      simp only [okFs, Bool.and_eq_true] at hok
      have hd := hG d n (by simp) m (by simp only [depth] at hm; omega)
      rw [List.filter_cons_of_pos (by codec_simp []), forEach_cons, hb]
      codec_simp [Obj.name, Obj.data_type, hd, defaultDict]
      exact ih hok.2 (fun d' n' h' => hG d' n' (by simp [h'])) (by omega) _ body hb
    | paddingField d =>
      simp only [okFs, Bool.and_eq_true] at hok
      rw [List.filter_cons_of_neg (by codec_simp [])]
      simp only [defaultDict]
      exact ih hok.2 (fun d' n' h' => hG d' n' (by simp [h'])) (by omega) _ body hb
    | _ => simp [okFs] at hok

theorem ofString_empty : Value.ofString "" = .str [] := by
  have : ("".toUTF8.toList.map UInt8.toNat) = [] := by decide +kernel
  unfold Value.ofString; rw [this]

theorem mapM_const_ok {α : Type} (l : List Nat) (x : Py.M α) (a : α) (h : x = .ok a) :
    List.mapM (fun _ => x) l = .ok (List.replicate l.length a) := by
  subst h
  induction l with
  | nil => rfl
  | cons b l ih => rw [List.mapM_cons, ih]; rfl

theorem isinstance_utf8 (e : Obj) : isinstance e .UTF8Type = true ↔ e = .utf8 := by
  cases e <;> codec_simp [] <;> simp
theorem isinstance_byte (e : Obj) : isinstance e .ByteType = true ↔ e = .byte := by
  cases e <;> codec_simp [] <;> simp

theorem defGood : ∀ (s : Obj), okT s = true → (tyOf s).wf = true → DefGood s := by
  refine okT_induction ?_ ?_ ?_ ?_ ?_ ?_
  · intro s hp _ fuel hf
    obtain ⟨m, rfl⟩ : ∃ m, fuel = m + 1 := ⟨fuel - 1, by omega⟩
    cases s <;> first
      | (simp only [isPrimObj, Bool.false_eq_true] at hp; done)
      | (codec_simp [Gen.Codec.default_value_rec, defaultOf]; try rfl)
  · intro e cap _ _ ih fuel hf
    obtain ⟨m, rfl⟩ : ∃ m, fuel = m + 1 := ⟨fuel - 1, by omega⟩
    simp only [depth] at hf
    have := ih m (by omega)
    codec_simp [Gen.Codec.default_value_rec, Obj.capacity, Obj.element_type, defaultOf, Py.range]
    rw [mapM_const_ok (List.range cap) _ _ this, List.length_range]
    rfl
  · intro e cap l _ _ _ fuel hf
    obtain ⟨m, rfl⟩ : ∃ m, fuel = m + 1 := ⟨fuel - 1, by omega⟩
    by_cases hu : e = .utf8
    · subst hu; codec_simp [Gen.Codec.default_value_rec, Obj.element_type, defaultOf, ofString_empty]
    · by_cases hb : e = .byte
      · subst hb; codec_simp [Gen.Codec.default_value_rec, Obj.element_type, defaultOf]
      · have hiu : isinstance e .UTF8Type = false := by simpa using mt (isinstance_utf8 e).mp hu
        have hib : isinstance e .ByteType = false := by simpa using mt (isinstance_byte e).mp hb
        have hd : defaultOf (.varArray e cap l) = .list [] := by
          cases e <;> first | rfl | exact absurd rfl hu | exact absurd rfl hb
        codec_simp [Gen.Codec.default_value_rec, Obj.element_type, hiu, hib, hd, Bool.false_eq_true]
  · intro fs a n hs _ ih fuel hf
    obtain ⟨m, rfl⟩ : ∃ m, fuel = m + 1 := ⟨fuel - 1, by omega⟩
    have hfs : okFs fs = true := by simp only [okT, Bool.and_eq_true] at hs; exact hs.1
    simp only [depth] at hf
    codec_simp [Gen.Codec.default_value_rec, Obj.fields_except_padding, Obj.fields, defaultOf]
    rw [default_loop m fs hfs ih (by omega) [] _ (fun r f => rfl)]
    rfl
  · intro fs t a n hs hw ih fuel hf
    obtain ⟨m, rfl⟩ : ∃ m, fuel = m + 1 := ⟨fuel - 1, by omega⟩
    have hfs : okFs fs = true := by simp only [okT, Bool.and_eq_true] at hs; exact hs.1.1
    simp only [tyOf, Ty.wf, Bool.and_eq_true, decide_eq_true_eq, tysOf_length] at hw
    simp only [depth] at hf
    obtain ⟨d, nm, h1, h2, _⟩ := variant_lookup fs 0 hfs hw.1.1.1.2 (by omega)
    have hd : depth d ≤ depthFs fs := by
      have := depth_le_depthFs h2; simpa only [depth] using this
    have := ih d nm h2 m (by omega)
    have hfirst : defaultFirst fs = .dict [(nm, defaultOf d)] := by
      cases fs with
      | nil => simp [Py.index] at h1
      | cons f fs => rw [index_cons_zero] at h1; cases h1; simp only [defaultFirst]
    codec_simp [Gen.Codec.default_value_rec, Obj.fields, h1, Obj.name, Obj.data_type, this, defaultOf, hfirst]
  · intro i h x a _ _ ih fuel hf
    obtain ⟨m, rfl⟩ : ∃ m, fuel = m + 1 := ⟨fuel - 1, by omega⟩
    simp only [depth] at hf
    codec_simp [Gen.Codec.default_value_rec, Obj.inner_type, defaultOf, ih m (by omega)]

theorem defGood_all : ∀ (fs : List Obj), okFs fs = true → Wire.wfFields (tysOf fs) = true → ∀ d n, Obj.field d n ∈ fs → DefGood d :=
  fun fs hok hwf d n h => defGood d (mem_field_nonvoid fs hok d n h).2 (wf_of_mem_field fs hwf d n h)

/-- **`_default_value`** (generated, started with CPython's recursion limit) returns `defaultOf` -/
theorem gen_default_value (s : Obj) (hs : okT s = true) (hw : (tyOf s).wf = true) (hd : depth s + 1 ≤ Py.recursionLimit) :
    Gen.Codec.default_value s = .ok (defaultOf s) := defGood s hs hw _ hd

/-! ### Arrays -/

/-- what the recursion promises about a schema object on the serializing side -/
def SGood (s : Obj) : Prop := ∀ (w : Gen.WriterS), WInv w → ∀ (pv : Value), plain pv = true →
  (isIntLike s = true → WAgree w (Gen.Codec.serialize_primitive w s pv) (modelSer (tyOf s) (inpOf pv s) (toW w))) ∧
  (isArrObj s = true → ∀ fuel, depth s ≤ fuel →
    WAgree w (Gen.Codec.serialize_array_rec fuel w s pv) (modelSer (tyOf s) (inpOf pv s) (toW w))) ∧
  (isCompObj s = true → ∀ fuel, depth s ≤ fuel →
    WAgree w (Gen.Codec.serialize_composite_rec fuel w s pv) (modelSer (tyOf s) (inpOf pv s) (toW w)))

/-- a data type object of the serializer theorems: not a float, not a service / field object -/
def isSerData (s : Obj) : Bool := isIntLike s || isArrObj s || isCompObj s

/-- **`_serialize_field_value`** and **`_serialize_element`** dispatch to the encoder that is responsible -/
theorem gen_ser_dispatch (f : Nat → Gen.WriterS → Obj → Value → Py.M Gen.WriterS)
    (hf : f = Gen.Codec.serialize_field_value_rec ∨ f = Gen.Codec.serialize_element_rec)
    (s : Obj) (hd : isSerData s = true) (hG : SGood s) (w : Gen.WriterS) (hw : WInv w) (pv : Value)
    (hp : plain pv = true) (fuel : Nat) (hfu : depth s + 1 ≤ fuel) :
    WAgree w (f fuel w s pv) (modelSer (tyOf s) (inpOf pv s) (toW w)) := by
  obtain ⟨m, rfl⟩ : ∃ m, fuel = m + 1 := ⟨fuel - 1, by omega⟩
  obtain ⟨h1, h2, h3⟩ := hG w hw pv hp
  rcases hf with rfl | rfl <;> cases s with
  | boolean | signed _ _ | unsigned _ _ | byte | utf8 | void _ =>
    codec_simp [Gen.Codec.serialize_field_value_rec, Gen.Codec.serialize_element_rec]
    exact h1 rfl
  | fixedArray _ _ | varArray _ _ _ =>
    codec_simp [Gen.Codec.serialize_field_value_rec, Gen.Codec.serialize_element_rec]
    exact h2 rfl m (by omega)
  | float _ _ | service _ _ _ | field _ _ | paddingField _ => cases hd
  | _ =>
    codec_simp [Gen.Codec.serialize_field_value_rec, Gen.Codec.serialize_element_rec]
    exact h3 rfl m (by omega)

theorem gen_ser_field_value (s : Obj) (hd : isSerData s = true) (hG : SGood s) (w : Gen.WriterS) (hw : WInv w) (pv : Value)
    (hp : plain pv = true) (fuel : Nat) (hf : depth s + 1 ≤ fuel) :
    WAgree w (Gen.Codec.serialize_field_value_rec fuel w s pv) (modelSer (tyOf s) (inpOf pv s) (toW w)) :=
  gen_ser_dispatch _ (.inl rfl) s hd hG w hw pv hp fuel hf

/-- the model on a list of element inputs: coerce all, then write all -/
abbrev modelElems (t : Ty) (xs : List Inp) : W → Except Wire.Err W :=
  thenWrite (Wire.coerceList (fun y => Wire.coerce t y) xs) (encRepW fun v w => encW t v w)

/-- `for element in value: _serialize_element(writer, schema.element_type, element)` -/
theorem ser_elems_loop (e : Obj) (hd : isSerData e = true) (hG : SGood e) (m : Nat) (hm : depth e + 1 ≤ m)
    (body : Gen.WriterS → Value → Py.M Gen.WriterS) (hb : ∀ wr x, body wr x = Gen.Codec.serialize_element_rec m wr e x) :
    ∀ (xs : List Value), plainList xs = true → ∀ (w : Gen.WriterS), WInv w →
      WAgree w (Py.forEach xs w body) (modelElems (tyOf e) (inpList xs e) (toW w))
  | [], _, w, hw => ⟨w, rfl, rfl, hw⟩
  | x :: xs, hp, w, hw => by
      simp only [plainList, Bool.and_eq_true] at hp
      rw [forEach_cons, hb]
      simp only [inpList, Wire.coerceList]
      refine WAgree.seq ?_ (fun g hg => ser_elems_loop e hd hG m hm body hb xs hp.2 g hg) (fun _ _ => rfl)
      rw [← modelSer_eq]
      exact gen_ser_dispatch _ (.inr rfl) e hd hG w hw x hp.1 m hm

theorem inpList_length (xs : List Value) (e : Obj) : (inpList xs e).length = xs.length := by
  induction xs with
  | nil => rfl
  | cons x xs ih => simp only [inpList, List.length_cons, ih]

theorem coerceList_length {f : Inp → Except Wire.Err Val} : ∀ (xs : List Inp) (vs : List Val),
    Wire.coerceList f xs = .ok vs → vs.length = xs.length
  | [], vs, h => by cases h; rfl
  | x :: xs, vs, h => by
      simp only [Wire.coerceList] at h
      cases hx : f x with
      | error e => rw [hx] at h; cases h
      | ok v =>
        cases hl : Wire.coerceList f xs with
        | error e => rw [hx, hl] at h; cases h
        | ok ws => rw [hx, hl] at h; cases h; simp only [List.length_cons, coerceList_length xs ws hl]

theorem modelSer_farr (te : Ty) (cap : Nat) (x : Inp) (W0 : W) :
    modelSer (.farr te cap) x W0 =
      match Wire.seqOf te x with
      | .error e => .error e
      | .ok xs => if (xs.length != cap) = true then .error .arrayLength else modelElems te xs W0 := by
  simp only [modelSer_eq, Wire.coerce, modelElems]
  cases Wire.seqOf te x with
  | error e => rfl
  | ok xs =>
    simp only [ok_bind]
    split
    · rfl
    · cases Wire.coerceList (fun y => Wire.coerce te y) xs with
      | error e => rfl
      | ok vs => simp only [thenWrite, ok_bind, pure_eq_ok, encW]

theorem modelSer_varr (te : Ty) (cap : Nat) (x : Inp) (W0 : W) :
    modelSer (.varr te cap) x W0 =
      match Wire.seqOf te x with
      | .error e => .error e
      | .ok xs => if xs.length > cap then .error .arrayLength
                  else modelElems te xs (writeBits W0 xs.length (Wire.lenBits cap)) := by
  simp only [modelSer_eq, Wire.coerce, modelElems]
  cases Wire.seqOf te x with
  | error e => rfl
  | ok xs =>
    simp only [ok_bind]
    split
    · rfl
    · cases hl : Wire.coerceList (fun y => Wire.coerce te y) xs with
      | error e => rfl
      | ok vs => simp only [thenWrite, ok_bind, pure_eq_ok, encW, coerceList_length xs vs hl]

/-- the loop body of `_serialize_array` (compared with the generated term by `rfl`) -/
@[reducible] def elemBody (m : Nat) (e : Obj) (writer : Gen.WriterS) (element : Value) : Py.M Gen.WriterS :=
  Gen.Codec.serialize_element_rec m writer e element

/-- proves that a Boolean guard of the generated code means what the model's test means, whatever its syntactic form -/
macro "guard_tac" : tactic =>
  `(tactic| first
      | (simp only [decide_eq_true_eq, Bool.not_eq_true', Bool.and_eq_true, Bool.or_eq_true, bne_iff_ne, beq_iff_eq, ne_eq,
           decide_eq_false_iff_not, Bool.not_eq_true, Nat.not_lt, Nat.not_le, gt_iff_lt, ge_iff_le]; omega)
      | (simp; omega)
      | omega
      | simp)

theorem ser_fixed_tail (e : Obj) (hd : isSerData e = true) (hG : SGood e) (m : Nat) (hm : depth e + 1 ≤ m) (cap : Nat)
    (xs : List Value) (hp : plainList xs = true) (w : Gen.WriterS) (hw : WInv w) (guard : Bool) (xsI : List Inp) (len : Nat)
    (hI : xsI = inpList xs e) (hlen : len = xs.length) (hguard : guard = true ↔ xs.length ≠ cap) :
    WAgree w
      (if guard = true then Except.error (Err.other "ArrayLengthError")
       else Py.forEach xs w (elemBody m e))
      (if (len != cap) = true then .error .arrayLength else modelElems (tyOf e) xsI (toW w)) := by
  subst hI; subst hlen
  by_cases h : xs.length ≠ cap
  · rw [if_pos (hguard.mpr h), if_pos (by simpa using h)]; rfl
  · rw [if_neg (fun hg => h (hguard.mp hg)), if_neg (by simpa using h)]
    exact ser_elems_loop e hd hG m hm _ (fun _ _ => rfl) xs hp w hw

theorem ser_var_tail (e : Obj) (hd : isSerData e = true) (hG : SGood e) (m : Nat) (hm : depth e + 1 ≤ m) (cap : Nat) (c : CastMode)
    (xs : List Value) (hp : plainList xs = true) (w : Gen.WriterS) (hw : WInv w) (guard : Bool) (xsI : List Inp) (len lenM lenM' : Nat)
    (hI : xsI = inpList xs e) (hlen : len = xs.length) (hlenM : lenM = xs.length) (hlenM' : lenM' = xs.length)
    (hguard : guard = true ↔ xs.length > cap) :
    WAgree w
      (if guard = true then Except.error (Err.other "ArrayLengthError")
       else do
        let t25 ← (Obj.unsigned (Wire.lenBits cap) c).bit_length
        let writer ← Gen.BitWriter.write_bits w len t25
        Py.forEach xs writer (elemBody m e))
      (if lenM > cap then .error .arrayLength
       else modelElems (tyOf e) xsI (writeBits (toW w) lenM' (Wire.lenBits cap))) := by
  subst hI; subst hlen; subst hlenM; subst hlenM'
  by_cases h : xs.length > cap
  · rw [if_pos (hguard.mpr h), if_pos h]; rfl
  · rw [if_neg (fun hg => h (hguard.mp hg)), if_neg h]
    obtain ⟨g', e1, e2, e3⟩ := wr_step w xs.length (Wire.lenBits cap) hw
    simp only [Obj.bit_length, pure_eq_ok, ok_bind, e1]
    rw [← e2]
    exact ser_elems_loop e hd hG m hm _ (fun _ _ => rfl) xs hp g' e3

theorem tyOf_eq_utf8 (e : Obj) (he : okT e = true) : tyOf e = .utf8 ↔ e = .utf8 := by
  constructor
  · intro h; exact tyOf_utf8 e he (by rw [h]; rfl)
  · rintro rfl; simp only [tyOf]

theorem tyOf_eq_byte (e : Obj) (he : okT e = true) : tyOf e = .byte ↔ e = .byte := by
  constructor
  · intro h
    cases e <;> first
      | rfl
      | (simp [okT] at he; done)
      | (simp [tyOf] at h; done)
      | skip
    rename_i i hd x a
    obtain ⟨_, _, _, h1 | h1⟩ := tyOf_delimited i hd x a he
    · obtain ⟨fs, al, n, _, e2⟩ := h1; rw [e2] at h; cases h
    · obtain ⟨fs, t, al, n, _, e2⟩ := h1; rw [e2] at h; cases h
  · rintro rfl; simp only [tyOf]

theorem seqOf_list (te : Ty) (h : te ≠ .utf8) (xs : List Inp) : Wire.seqOf te (.list xs) = .ok xs := by
  cases te <;> first | rfl | exact absurd rfl h

theorem seqOf_bytes_other (te : Ty) (h1 : te ≠ .utf8) (h2 : te ≠ .byte) (bs : List Nat) :
    Wire.seqOf te (.bytes bs) = .error .type := by
  cases te <;> first | rfl | exact absurd rfl h1 | exact absurd rfl h2

/-- How `_serialize_array` classifies a plain value: a `str`, a `bytes`, a list, or none of these; in the last case the model finds no
    sequence either. -/
theorem plain_seq (pv : Value) (hp : plain pv = true) :
    (∃ bs, pv = .str bs) ∨ (∃ bs, pv = .bytes bs) ∨ (∃ xs, pv = .list xs) ∨
    (pv.isinstance .str = false ∧ pv.isinstance .bytes = false ∧ pv.isinstance .bytearray = false ∧ pv.isinstance .list = false ∧
      pv.isinstance .tuple = false ∧ ∀ te s, Wire.seqOf te (inpOf pv s) = .error .type) := by
  cases pv with
  | str bs => exact .inl ⟨bs, rfl⟩
  | bytes bs => exact .inr (.inl ⟨bs, rfl⟩)
  | list xs => exact .inr (.inr (.inl ⟨xs, rfl⟩))
  | float _ | sentinel => simp only [plain, Bool.false_eq_true] at hp
  | _ => exact .inr (.inr (.inr ⟨rfl, rfl, rfl, rfl, rfl, fun te s => by simp only [inpOf, Wire.seqOf]⟩))

theorem plainList_ints (bs : List Nat) : plainList (bs.map fun x => Value.int (Int.ofNat x)) = true := by
  induction bs with
  | nil => rfl
  | cons b bs ih => simp only [List.map_cons, plainList, plain, ih, Bool.and_self]

theorem inpList_ints (bs : List Nat) (e : Obj) :
    inpList (bs.map fun x => Value.int (Int.ofNat x)) e = bs.map fun (b : Nat) => Inp.int (b : Int) := by
  induction bs with
  | nil => rfl
  | cons b bs ih => simp only [List.map_cons, inpList, inpOf, ih]; rfl

/-- the side conditions of the array tails: the list of model inputs, the lengths, the guard -/
macro "tail_side" : tactic =>
  `(tactic| first
      | rfl
      | exact (inpList_ints _ _).symm
      | (simp only [inpList_ints]; done)
      | (rw [inpList_ints])
      | (simp [inpList_length]; done)
      | guard_tac)

/-- **`_serialize_array`**: the input check by element type and kind of value, then the length check, the length prefix of a
    variable-length array, the elements -/
theorem gen_ser_array (s : Obj) (ha : isArrObj s = true) (hs : okT s = true) (hd : isSerData (elemOf s) = true) (hG : SGood (elemOf s))
    (w : Gen.WriterS) (hwi : WInv w) (pv : Value) (hp : plain pv = true) (fuel : Nat) (hf : depth s ≤ fuel) :
    WAgree w (Gen.Codec.serialize_array_rec fuel w s pv) (modelSer (tyOf s) (inpOf pv s) (toW w)) := by
  cases s <;> try (cases ha; done)
  all_goals
    simp only [depth] at hf
    obtain ⟨m, rfl⟩ : ∃ m, fuel = m + 1 := ⟨fuel - 1, by omega⟩
    simp only [okT, Bool.and_eq_true] at hs
  -- the two kinds differ in the model's length check and in the tail of the function
  case' fixedArray e cap =>
    have he : okT e = true := hs
    have tail := fun xs hpx => ser_fixed_tail e hd hG m (by omega) cap xs hpx w hwi
    simp only [tyOf, modelSer_farr, inpList_length]
  case' varArray e cap l =>
    obtain ⟨he, hl⟩ := hs
    obtain ⟨c, rfl⟩ := isUnsignedOf_elim hl
    have tail := fun xs hpx => ser_var_tail e hd hG m (by omega) cap c xs hpx w hwi
    simp only [tyOf, modelSer_varr, inpList_length]
  all_goals
    -- the schema's part of the function is evaluated once; the cases only decide the tests on the element type and on the value
    codec_simp [Gen.Codec.serialize_array_rec, Obj.capacity, Obj.element_type, Obj.length_field_type]
    by_cases hu : e = .utf8
    · subst hu
      rcases plain_seq pv hp with ⟨bs, rfl⟩ | ⟨bs, rfl⟩ | ⟨xs, rfl⟩ | h
      · simp only [plain, Bool.and_eq_true] at hp
        codec_simp [Value.isinstance, Value.encodeUtf8, Value.toList, Value.len, Value.iter, inpOf, Wire.seqOf, tyOf, hp.1, hp.2]
        apply tail _ (plainList_ints bs) <;> tail_side
      · simp only [plain] at hp
        cases hv : Wire.validUtf8 bs
        · codec_simp [Value.isinstance, Value.decodeUtf8, Py.decodeUtf8, inpOf, Wire.seqOf, tyOf, hp, hv, Bool.false_eq_true]
          exact rfl
        · codec_simp [Value.isinstance, Value.decodeUtf8, Py.decodeUtf8, Value.toList, Value.len, Value.iter, inpOf, Wire.seqOf,
            tyOf, hp, hv]
          apply tail _ (plainList_ints bs) <;> tail_side
      · codec_simp [Value.isinstance, inpOf, Wire.seqOf, tyOf]
        exact rfl
      · codec_simp [h]
        exact rfl
    · have hiu : isinstance e .UTF8Type = false := by simpa using mt (isinstance_utf8 e).mp hu
      have htu : tyOf e ≠ .utf8 := fun h => hu ((tyOf_eq_utf8 e he).mp h)
      by_cases hb : e = .byte
      · subst hb
        rcases plain_seq pv hp with ⟨bs, rfl⟩ | ⟨bs, rfl⟩ | ⟨xs, rfl⟩ | h
        · codec_simp [Value.isinstance, Value.encodeUtf8, Value.len, Value.iter, inpOf, Wire.seqOf, tyOf]
          apply tail _ (plainList_ints bs) <;> tail_side
        · codec_simp [Value.isinstance, Value.toList, Value.len, Value.iter, inpOf, Wire.seqOf, tyOf]
          apply tail _ (plainList_ints bs) <;> tail_side
        · codec_simp [Value.isinstance, Value.len, Value.iter, inpOf, strip, elemOf, Wire.seqOf, tyOf]
          apply tail xs hp <;> tail_side
        · codec_simp [h]
          exact rfl
      · have hib : isinstance e .ByteType = false := by simpa using mt (isinstance_byte e).mp hb
        have htb : tyOf e ≠ .byte := fun h => hb ((tyOf_eq_byte e he).mp h)
        rcases plain_seq pv hp with ⟨bs, rfl⟩ | ⟨bs, rfl⟩ | ⟨xs, rfl⟩ | h
        · codec_simp [hiu, hib, Value.isinstance, inpOf, seqOf_bytes_other _ htu htb]
          exact rfl
        · codec_simp [hiu, hib, Value.isinstance, inpOf, seqOf_bytes_other _ htu htb]
          exact rfl
        · codec_simp [hiu, hib, Value.isinstance, Value.len, Value.iter, inpOf, strip, elemOf, seqOf_list _ htu]
          apply tail xs hp <;> tail_side
        · codec_simp [hiu, hib, h]
          exact rfl

/-! ### Composites: delimited -/

theorem natBits8_ofBits_lt (b : Nat) (h : b < 256) : ofBits (natBits 8 b) = b := by
  rw [ofBits_natBits]; exact Nat.mod_eq_of_lt (by simpa using h)

/-- `bytes(self._buffer)` as the model sees it is the generated buffer -/
theorem bytesOf_bytesToBits (l : List Nat) (h : IsBytes l) : bytesOf (bytesToBits l) = l := by
  apply List.ext_getElem
  · simp [bytesOf]
  · intro i h1 h2
    simp only [bytesOf, List.getElem_map, List.getElem_range]
    have hdrop : (bytesToBits l).drop (8 * i) = bytesToBits (l.drop i) := (bytesToBits_drop l i).symm
    have hcons : l.drop i = l[i] :: l.drop (i + 1) := by
      rw [List.drop_eq_getElem_cons h2]
    rw [hdrop, hcons, bytesToBits_cons, List.take_left' (natBits_length 8 _)]
    exact natBits8_ofBits_lt _ (h _ (List.getElem_mem h2))

/-- a loop of `write_bits` calls (`for byte_val in inner_bytes: writer.write_bits(byte_val, 8)`; any history of calls) -/
theorem write_bits_loop {α : Type} (f : α → Nat × Nat) : ∀ (l : List α) (w : Gen.WriterS), WInv w →
    ∀ (body : Gen.WriterS → α → Py.M Gen.WriterS), (∀ wr a, body wr a = Gen.BitWriter.write_bits wr (f a).1 (f a).2) →
    WAgree w (Py.forEach l w body) (.ok (l.foldl (fun W a => writeBits W (f a).1 (f a).2) (toW w)))
  | [], w, hw, _, _ => ⟨w, rfl, rfl, hw⟩
  | a :: l, w, hw, body, hb => by
      obtain ⟨g1, e1, e2, e3⟩ := wr_step w (f a).1 (f a).2 hw
      rw [forEach_cons, hb, e1, List.foldl_cons, ← e2]
      exact write_bits_loop f l g1 e3 body hb

theorem inpOf_delimited (pv : Value) (i h : Obj) (x a : Nat) (hsu : isStructOrUnion i = true) :
    inpOf pv (.delimited i h x a) = inpOf pv i := by
  cases i <;> simp only [isStructOrUnion, Bool.false_eq_true] at hsu <;> cases pv <;> simp only [inpOf, strip]

theorem coerce_struct_mode (fs : List Ty) (m m' : Mode) (x : Inp) : Wire.coerce (.struct fs m) x = Wire.coerce (.struct fs m') x := by
  cases x <;> simp only [Wire.coerce]
theorem coerce_union_mode (fs : List Ty) (m m' : Mode) (x : Inp) : Wire.coerce (.union fs m) x = Wire.coerce (.union fs m') x := by
  cases x <;> simp only [Wire.coerce]

theorem coerce_struct_shape (fs : List Ty) (m : Mode) (x : Inp) (v : Val) (h : Wire.coerce (.struct fs m) x = .ok v) :
    ∃ vs, v = .recd vs := by
  cases x <;> simp only [Wire.coerce] at h <;> try cases h
  rename_i kvs
  by_cases hc : (kvs.all fun kv => Wire.isField fs kv.1) = true
  · rw [if_pos hc] at h
    cases hf : Wire.coerceFields fs 0 kvs with
    | error e => rw [hf] at h; cases h
    | ok vs => rw [hf] at h; simp only [ok_bind, pure_eq_ok, Except.ok.injEq] at h; exact ⟨vs, h.symm⟩
  · rw [if_neg hc] at h; cases h

theorem coerce_union_shape (fs : List Ty) (m : Mode) (x : Inp) (v : Val) (h : Wire.coerce (.union fs m) x = .ok v) :
    ∃ k u, v = .var k u := by
  cases x <;> simp only [Wire.coerce] at h <;> try cases h
  rename_i kvs
  rcases kvs with _ | ⟨⟨k, y⟩, _ | ⟨kv2, rest⟩⟩ <;> simp only [Wire.coerce] at h <;> try cases h
  by_cases hc : k < fs.length
  · rw [if_pos hc] at h
    cases hf : Wire.coerceVariant fs k y with
    | error e => rw [hf] at h; cases h
    | ok u => rw [hf] at h; simp only [ok_bind, pure_eq_ok, Except.ok.injEq] at h; exact ⟨k, u, h.symm⟩
  · rw [if_neg hc] at h; cases h

/-- the model's serializer on a delimited type: the inner type into a fresh writer, then header and payload -/
theorem modelSer_delimited (i h : Obj) (x a : Nat) (hs : okT (.delimited i h x a) = true) (inp : Inp) (W0 : W) :
    modelSer (tyOf (.delimited i h x a)) inp W0 =
      match modelSer (tyOf i) inp ⟨[], 0⟩ with
      | .ok Wi => .ok (writeBytes (writeBits W0 (bytesOf Wi.buf).length Wire.headerBits) (bytesOf Wi.buf))
      | .error e => .error e := by
  obtain ⟨_, _, _, h1 | h1⟩ := tyOf_delimited i h x a hs
  · obtain ⟨fs, al, n, rfl, e2⟩ := h1
    rw [e2]
    unfold modelSer
    simp only [tyOf, coerce_struct_mode (tysOf fs) (.delimited x) .sealed]
    cases hc : Wire.coerce (.struct (tysOf fs) .sealed) inp with
    | error e => rfl
    | ok v =>
      obtain ⟨vs, rfl⟩ := coerce_struct_shape _ _ _ _ hc
      simp only [encW, wrapDelimW]
  · obtain ⟨fs, t, al, n, rfl, e2⟩ := h1
    rw [e2]
    unfold modelSer
    simp only [tyOf, coerce_union_mode (tysOf fs) (.delimited x) .sealed]
    cases hc : Wire.coerce (.union (tysOf fs) .sealed) inp with
    | error e => rfl
    | ok v =>
      obtain ⟨k, u, rfl⟩ := coerce_union_shape _ _ _ _ hc
      simp only [encW, wrapDelimW]

/-- **`_serialize_composite`**, DelimitedType branch -/
theorem gen_ser_delimited (i h : Obj) (x a : Nat) (hs : okT (.delimited i h x a) = true) (hG : SGood i)
    (w : Gen.WriterS) (hwi : WInv w) (pv : Value) (hp : plain pv = true) (fuel : Nat) (hf : depth (.delimited i h x a) ≤ fuel) :
    WAgree w (Gen.Codec.serialize_composite_rec fuel w (.delimited i h x a) pv)
      (modelSer (tyOf (.delimited i h x a)) (inpOf pv (.delimited i h x a)) (toW w)) := by
  simp only [depth] at hf
  obtain ⟨m, rfl⟩ : ∃ m, fuel = m + 1 := ⟨fuel - 1, by omega⟩
  have hs' := hs
  simp only [okT, Bool.and_eq_true, beq_iff_eq] at hs'
  obtain ⟨⟨⟨hi, hsu⟩, _⟩, hh⟩ := hs'
  obtain ⟨c, rfl⟩ := isUnsignedOf_elim hh
  have hcomp : isCompObj i = true := by
    cases i <;> simp only [isStructOrUnion, Bool.false_eq_true] at hsu <;> rfl
  obtain ⟨_, hinit, _, _⟩ := gen_writer_init
  have hin := (hG ⟨[], 0⟩ hinit pv hp).2.2 hcomp m (by omega)
  rw [modelSer_delimited i _ x a hs, inpOf_delimited pv i _ x a hsu]
  codec_simp [Gen.Codec.serialize_composite_rec, Obj.inner_type, Obj.delimiter_header_type, Gen.BitWriter.init,
    Gen.BitWriter.finish, Obj.bit_length]
  have h0 : toW ⟨[], 0⟩ = ⟨[], 0⟩ := rfl
  rw [h0] at hin
  rcases hin.elim with ⟨e0, hy, hx⟩ | ⟨g1, hy, hx, hi1⟩
  · simp only [hy, hx, error_bind]
    rfl
  · simp only [hy, hx, ok_bind]
    have hb : bytesOf (toW g1).buf = g1.buffer := bytesOf_bytesToBits g1.buffer hi1.1
    rw [hb]
    obtain ⟨g2, e1, e2, e3⟩ := wr_step w g1.buffer.length Wire.headerBits hwi
    simp only [e1, ok_bind]
    obtain ⟨g3, f1, f2, f3⟩ := write_bits_loop (fun b => (b, 8)) g1.buffer g2 e3 _ (fun _ _ => rfl)
    simp only [f1, ok_bind]
    exact ⟨g3, rfl, by rw [f2, e2]; rfl, f3⟩

/-! ### Field names and positions -/

/-- the names of the (non-padding) fields, in order -/
def fieldNames : List Obj → List String
  | [] => []
  | .field _ n :: fs => n :: fieldNames fs
  | _ :: fs => fieldNames fs

/-- `fieldIdx`, `fieldType` and `fieldNames` describe one search: either no field is named `k` and `fieldIdx` reports the position
    behind the list, or the object at the position it reports is the first field named `k`, and `fieldType` is its data type. -/
theorem fieldIdx_spec (k : String) : ∀ (fs : List Obj) (j : Nat),
    (k ∉ fieldNames fs ∧ fieldIdx k fs j = j + fs.length) ∨
    (k ∈ fieldNames fs ∧ ∃ i, fieldIdx k fs j = j + i ∧ fs[i]? = some (.field (fieldType k fs) k))
  | [], j => .inl ⟨List.not_mem_nil, rfl⟩
  | f :: fs, j => by
      -- an object that is not the field searched for moves the answer for the rest one position on
      have skip : (k ∉ fieldNames fs ∧ fieldIdx k fs (j + 1) = j + (f :: fs).length) ∨
          (k ∈ fieldNames fs ∧ ∃ i, fieldIdx k fs (j + 1) = j + i ∧ (f :: fs)[i]? = some (.field (fieldType k fs) k)) := by
        rcases fieldIdx_spec k fs (j + 1) with ⟨h1, h2⟩ | ⟨h1, i, h2, h3⟩
        · exact .inl ⟨h1, by rw [h2, List.length_cons]; omega⟩
        · exact .inr ⟨h1, i + 1, by rw [h2]; omega, by rw [List.getElem?_cons_succ]; exact h3⟩
      cases f with
      | field d n =>
        by_cases hn : n = k
        · subst hn
          exact .inr ⟨by simp only [fieldNames, List.mem_cons, true_or], 0,
            by simp only [fieldIdx, beq_self_eq_true, if_true, Nat.add_zero],
            by simp only [fieldType, beq_self_eq_true, if_true, List.getElem?_cons_zero]⟩
        · have hb : (n == k) = false := by simpa using hn
          have hne : ¬ k = n := fun e => hn e.symm
          simpa only [fieldIdx, fieldNames, fieldType, hb, Bool.false_eq_true, if_false, List.mem_cons, hne, false_or] using skip
      | _ => simpa only [fieldIdx, fieldNames, fieldType] using skip

theorem fieldIdx_notin (k : String) (fs : List Obj) (h : k ∉ fieldNames fs) : fieldIdx k fs 0 = fs.length := by
  rcases fieldIdx_spec k fs 0 with ⟨_, h2⟩ | ⟨h1, _⟩
  · rw [h2, Nat.zero_add]
  · exact absurd h1 h

/-- the object at the position `fieldIdx` reports is the field with that name, and `fieldType` is its type -/
theorem fieldIdx_get (k : String) (fs : List Obj) (h : k ∈ fieldNames fs) :
    fs[fieldIdx k fs 0]? = some (.field (fieldType k fs) k) := by
  rcases fieldIdx_spec k fs 0 with ⟨h1, _⟩ | ⟨_, i, h2, h3⟩
  · exact absurd h h1
  · rw [h2, Nat.zero_add]; exact h3

theorem fieldIdx_lt (k : String) (fs : List Obj) (h : k ∈ fieldNames fs) : fieldIdx k fs 0 < fs.length :=
  (List.getElem?_eq_some_iff.mp (fieldIdx_get k fs h)).1

theorem tysOf_getElem? (fs : List Obj) (i : Nat) : (tysOf fs)[i]? = (fs[i]?).map tyOf := by
  induction fs generalizing i with
  | nil => simp [tysOf]
  | cons f fs ih =>
    cases i with
    | zero => simp [tysOf]
    | succ i => simp only [tysOf, List.getElem?_cons_succ, ih]

/-- a key is accepted by the model (`isField`) iff it is the name of a non-padding field -/
theorem isField_fieldIdx (fs : List Obj) (hok : okFs fs = true) (k : String) :
    Wire.isField (tysOf fs) (fieldIdx k fs 0) = (fieldNames fs).contains k := by
  by_cases hk : k ∈ fieldNames fs
  · have hget := fieldIdx_get k fs hk
    have hnv : (tyOf (fieldType k fs)).isVoid = false := (mem_field_nonvoid fs hok _ _ (List.mem_of_getElem? hget)).1
    simp only [Wire.isField, tysOf_getElem?, hget, Option.map_some, tyOf, hnv, Bool.not_false]
    exact (List.contains_iff_mem.mpr hk).symm
  · have hnone : (tysOf fs)[fieldIdx k fs 0]? = none := by
      rw [fieldIdx_notin k fs hk, List.getElem?_eq_none (by rw [tysOf_length])]
    simp only [Wire.isField, hnone]
    exact (by simpa using hk : (fieldNames fs).contains k = false).symm

theorem mem_fieldNames_of_mem {fs : List Obj} {d : Obj} {n : String} (h : Obj.field d n ∈ fs) : n ∈ fieldNames fs := by
  induction fs with
  | nil => cases h
  | cons f fs ih =>
    rcases List.mem_cons.mp h with h1 | h2
    · subst h1; simp [fieldNames]
    · cases f <;> simp only [fieldNames, List.mem_cons] <;> first | exact ih h2 | exact Or.inr (ih h2)

/-- with pairwise distinct field names the search for the name of a field finds that field -/
theorem fieldIdx_of_getElem (n : String) (d : Obj) : ∀ (fs : List Obj), (fieldNames fs).Nodup → ∀ (i j : Nat),
    fs[i]? = some (.field d n) → fieldIdx n fs j = j + i ∧ fieldType n fs = d
  | [], _, i, _, h => by simp at h
  | f :: fs, hnd, 0, j, hi => by
      obtain rfl : f = .field d n := by simpa using hi
      simp only [fieldIdx, fieldType, beq_self_eq_true, if_true, Nat.add_zero, and_self]
  | f :: fs, hnd, i + 1, j, hi => by
      rw [List.getElem?_cons_succ] at hi
      have hmem : n ∈ fieldNames fs := mem_fieldNames_of_mem (List.mem_of_getElem? hi)
      have key := fun hnd' => fieldIdx_of_getElem n d fs hnd' i (j + 1) hi
      rw [show j + 1 + i = j + (i + 1) by omega] at key
      cases f with
      | field d' n' =>
        simp only [fieldNames, List.nodup_cons] at hnd
        have hb : (n' == n) = false := by
          simpa using fun e : n' = n => hnd.1 (e ▸ hmem)
        simpa only [fieldIdx, fieldType, hb, Bool.false_eq_true, if_false] using key hnd.2
      | _ => simpa only [fieldIdx, fieldType] using key hnd

/-- **Lookup correspondence**: the model looks a field up by position in the translated dict, Python by name in the dict -/
theorem lookupKey_inpDict (fs : List Obj) (hnd : (fieldNames fs).Nodup) (i : Nat) (d : Obj) (n : String)
    (hi : fs[i]? = some (.field d n)) :
    ∀ (kvs : List (String × Value)),
      Wire.lookupKey i (inpDict kvs fs) = (Py.dictLookup n kvs).map (fun v => inpOf v d)
  | [] => rfl
  | (k, v) :: kvs => by
      simp only [inpDict, Wire.lookupKey, Py.dictLookup]
      by_cases hk : k = n
      · subst hk
        obtain ⟨h1, h2⟩ := fieldIdx_of_getElem k d fs hnd i 0 hi
        simp only [h1, h2, Nat.zero_add, beq_self_eq_true, if_true, Option.map_some]
      · have hne : (k == n) = false := by simpa using hk
        -- another key is translated to another position: behind the list, or to a field with that other name
        have hidx : (i == fieldIdx k fs 0) = false := by
          rw [beq_eq_false_iff_ne]
          intro h
          by_cases hkm : k ∈ fieldNames fs
          · have hget := fieldIdx_get k fs hkm
            rw [← h, hi] at hget
            simp only [Option.some.injEq, Obj.field.injEq] at hget
            exact hk hget.2.symm
          · have hlt := (List.getElem?_eq_some_iff.mp hi).1
            rw [h, fieldIdx_notin k fs hkm] at hlt
            exact Nat.lt_irrefl _ hlt
        simp only [hne, hidx, Bool.false_eq_true, if_false]
        exact lookupKey_inpDict fs hnd i d n hi kvs

/-! ### Dict facts -/

theorem dictLookup_dictSet_same : ∀ (d : List (String × Value)) (k : String) (v : Value),
    Py.dictLookup k (Py.dictSet d k v) = some v := by
  intro d k v
  unfold Py.dictSet
  by_cases h : d.any (fun kv => kv.1 == k) = true
  · rw [if_pos h]
    induction d with
    | nil => simp at h
    | cons a d ih =>
      obtain ⟨k', x⟩ := a
      simp only [List.map_cons]
      by_cases hk : (k' == k) = true
      · simp only [hk, if_true, Py.dictLookup, beq_self_eq_true]
      · simp only [hk, Bool.false_eq_true, if_false, Py.dictLookup]
        simp only [List.any_cons, hk, Bool.false_or] at h
        exact ih h
  · rw [if_neg h]
    induction d with
    | nil => simp [Py.dictLookup]
    | cons a d ih =>
      obtain ⟨k', x⟩ := a
      simp only [List.any_cons, Bool.or_eq_true, not_or] at h
      simp only [List.cons_append, Py.dictLookup, h.1, Bool.false_eq_true, if_false]
      exact ih h.2

theorem dictLookup_dictSet_other : ∀ (d : List (String × Value)) (k k' : String) (v : Value), k ≠ k' →
    Py.dictLookup k (Py.dictSet d k' v) = Py.dictLookup k d := by
  intro d k k' v hne
  have hne' : (k' == k) = false := by simpa using fun e => hne e.symm
  unfold Py.dictSet
  by_cases h : d.any (fun kv => kv.1 == k') = true
  · rw [if_pos h]
    clear h
    induction d with
    | nil => rfl
    | cons a d ih =>
      obtain ⟨k2, x⟩ := a
      simp only [List.map_cons]
      by_cases hk : (k2 == k') = true
      · have : k2 = k' := by simpa using hk
        subst this
        simp only [beq_self_eq_true, if_true, Py.dictLookup, hne', Bool.false_eq_true, if_false, ih]
      · simp only [hk, Bool.false_eq_true, if_false, Py.dictLookup, ih]
  · rw [if_neg h]
    clear h
    induction d with
    | nil => simp [Py.dictLookup, hne']
    | cons a d ih =>
      obtain ⟨k2, x⟩ := a
      simp only [List.cons_append, Py.dictLookup, ih]

theorem mem_dictSet {d : List (String × Value)} {k : String} {v : Value} {kv : String × Value}
    (h : kv ∈ Py.dictSet d k v) : kv ∈ d ∨ kv = (k, v) := by
  unfold Py.dictSet at h
  split at h
  · rcases List.mem_map.mp h with ⟨a, ha, rfl⟩
    split
    · exact Or.inr rfl
    · exact Or.inl ha
  · rcases List.mem_append.mp h with h | h
    · exact Or.inl h
    · exact Or.inr (by simpa using h)

theorem plainDict_iff (d : List (String × Value)) : plainDict d = true ↔ ∀ kv ∈ d, plain kv.2 = true := by
  induction d with
  | nil => simp [plainDict]
  | cons a d ih =>
    obtain ⟨k, x⟩ := a
    simp only [plainDict, Bool.and_eq_true, ih, List.mem_cons, forall_eq_or_imp]

theorem plainDict_dictSet (d : List (String × Value)) (k : String) (v : Value) (hd : plainDict d = true) (hv : plain v = true) :
    plainDict (Py.dictSet d k v) = true := by
  rw [plainDict_iff] at hd ⊢
  intro kv hkv
  rcases mem_dictSet hkv with h | h
  · exact hd kv h
  · rw [h]; exact hv

/-! ### The default value in the model -/

mutual
/-- the domain of the serializer theorems: no float type (its conversion is an uninterpreted region of the source), field names
    of every composite pairwise distinct (pydsdl rejects name collisions) -/
def serOk : Obj → Bool
  | .float _ _ => false
  | .fixedArray e _ => serOk e
  | .varArray e _ _ => serOk e
  | .structure fs _ _ => serOkFs fs && decide (fieldNames fs).Nodup
  | .union fs _ _ _ => serOkFs fs && decide (fieldNames fs).Nodup
  | .delimited i _ _ _ => serOk i
  | .field d _ => serOk d
  | .paddingField d => serOk d
  | _ => true
def serOkFs : List Obj → Bool
  | [] => true
  | f :: fs => serOk f && serOkFs fs
end

theorem serOk_of_mem : ∀ (fs : List Obj), serOkFs fs = true → ∀ d n, Obj.field d n ∈ fs → serOk d = true
  | f :: fs, hso, d, n, h => by
      simp only [serOkFs, Bool.and_eq_true] at hso
      rcases List.mem_cons.mp h with rfl | h
      · simpa only [serOk] using hso.1
      · exact serOk_of_mem fs hso.2 d n h

theorem dictLookup_defaultDict_notin (k : String) : ∀ (fs : List Obj) (acc : List (String × Value)), k ∉ fieldNames fs →
    Py.dictLookup k (defaultDict fs acc) = Py.dictLookup k acc
  | [], _, _ => rfl
  | f :: fs, acc, h => by
      cases f <;> simp only [fieldNames, List.mem_cons, not_or] at h <;> simp only [defaultDict] <;>
        try (exact dictLookup_defaultDict_notin k fs acc h)
      rw [dictLookup_defaultDict_notin k fs _ h.2, dictLookup_dictSet_other _ _ _ _ h.1]

theorem dictLookup_defaultDict : ∀ (fs : List Obj) (acc : List (String × Value)), (fieldNames fs).Nodup →
    ∀ d n, Obj.field d n ∈ fs → Py.dictLookup n (defaultDict fs acc) = some (defaultOf d)
  | [], _, _, _, _, h => by cases h
  | f :: fs, acc, hnd, d, n, hmem => by
      have hnd' : (fieldNames fs).Nodup := by
        cases f <;> simp only [fieldNames, List.nodup_cons] at hnd <;> first | exact hnd | exact hnd.2
      rcases List.mem_cons.mp hmem with h1 | h2
      · subst h1
        simp only [fieldNames, List.nodup_cons] at hnd
        simp only [defaultDict]
        rw [dictLookup_defaultDict_notin n fs _ hnd.1, dictLookup_dictSet_same]
      · clear hmem
        cases f <;> simp only [defaultDict] <;> exact dictLookup_defaultDict fs _ hnd' d n h2

theorem mem_defaultDict : ∀ (fs : List Obj) (acc : List (String × Value)) (kv : String × Value), kv ∈ defaultDict fs acc →
    kv ∈ acc ∨ ∃ d n, Obj.field d n ∈ fs ∧ kv = (n, defaultOf d)
  | [], _, _, h => Or.inl h
  | f :: fs, acc, kv, h => by
      cases f with
      | field d0 n0 =>
        simp only [defaultDict] at h
        rcases mem_defaultDict fs _ kv h with h | ⟨d, n, h1, h2⟩
        · rcases mem_dictSet h with h | h
          · exact Or.inl h
          · exact Or.inr ⟨d0, n0, by simp, h⟩
        · exact Or.inr ⟨d, n, by simp [h1], h2⟩
      | _ =>
        simp only [defaultDict] at h
        rcases mem_defaultDict fs acc kv h with h | ⟨d, n, h1, h2⟩
        · exact Or.inl h
        · exact Or.inr ⟨d, n, by simp [h1], h2⟩

theorem all_isField_inpDict (fs : List Obj) (hok : okFs fs = true) (kvs : List (String × Value)) :
    ((inpDict kvs fs).all fun kv => Wire.isField (tysOf fs) kv.1) = kvs.all fun kv => (fieldNames fs).contains kv.1 := by
  induction kvs with
  | nil => rfl
  | cons a kvs ih =>
    obtain ⟨k, v⟩ := a
    simp only [inpDict, List.all_cons, isField_fieldIdx fs hok, ih]

theorem dfltFields_tysOf_void (w : Nat) : Wire.dflt (.void w) = .unit := by simp only [Wire.dflt]

theorem okFs_suffix : ∀ (pre : List Obj) {suf : List Obj}, okFs (pre ++ suf) = true → okFs suf = true
  | [], _, h => h
  | p :: pre, _, h => by
      cases p <;> simp only [List.cons_append, okFs, Bool.and_eq_true, Bool.false_eq_true] at h <;> exact okFs_suffix pre h.2

/-- the model's `coerceFields` when every remaining field is found in the dict with a value that coerces to the field's default -/
theorem coerceFields_defaults (fs : List Obj) (hok : okFs fs = true) (hnd : (fieldNames fs).Nodup) (kvs : List (String × Value)) :
    ∀ (suf pre : List Obj), fs = pre ++ suf →
      (∀ d n, Obj.field d n ∈ suf → ∃ v, Py.dictLookup n kvs = some v ∧
        Wire.coerce (tyOf d) (inpOf v d) = .ok (Wire.dflt (tyOf d))) →
      Wire.coerceFields (tysOf suf) pre.length (inpDict kvs fs) = .ok (Wire.dfltFields (tysOf suf))
  | [], _, _, _ => rfl
  | f :: suf, pre, hfs, hall => by
      have hokf : okFs (f :: suf) = true := okFs_suffix pre (hfs ▸ hok)
      have hrec := coerceFields_defaults fs hok hnd kvs suf (pre ++ [f]) (by rw [hfs]; simp)
        (fun d n h => hall d n (by simp [h]))
      simp only [List.length_append, List.length_singleton] at hrec
      have hpos : fs[pre.length]? = some f := by rw [hfs]; simp
      cases f with
      | field d n =>
        simp only [okFs, Bool.and_eq_true, Bool.not_eq_true'] at hokf
        obtain ⟨v, hv1, hv2⟩ := hall d n (by simp)
        simp only [tysOf, tyOf, Wire.coerceFields, Wire.dfltFields, hokf.1.2, Bool.false_eq_true, if_false,
          lookupKey_inpDict fs hnd _ d n hpos kvs, hv1, Option.map_some, hv2, ok_bind, hrec, pure_eq_ok]
      | paddingField d =>
        simp only [okFs, Bool.and_eq_true] at hokf
        obtain ⟨w, rfl⟩ := void_of d hokf.1.1 hokf.1.2
        simp only [tysOf, tyOf, Wire.coerceFields, Wire.dfltFields, Wire.Ty.isVoid, if_true, ok_bind, hrec, pure_eq_ok, Wire.dflt]
      | _ => simp [okFs] at hokf

/-- the Python default of a type is, in the model, an input that coerces to the model's default -/
def DefCo (s : Obj) : Prop :=
  Wire.coerce (tyOf s) (inpOf (defaultOf s) s) = .ok (Wire.dflt (tyOf s)) ∧ plain (defaultOf s) = true

theorem coerceList_replicate (f : Inp → Except Wire.Err Val) (x : Inp) (v : Val) (h : f x = .ok v) (n : Nat) :
    Wire.coerceList f (List.replicate n x) = .ok (List.replicate n v) := by
  induction n with
  | zero => rfl
  | succ n ih => simp only [List.replicate_succ, Wire.coerceList, h, ih, ok_bind, pure_eq_ok]

theorem inpList_replicate (n : Nat) (x : Value) (e : Obj) : inpList (List.replicate n x) e = List.replicate n (inpOf x e) := by
  induction n with
  | zero => rfl
  | succ n ih => simp only [List.replicate_succ, inpList, ih]

theorem plainList_replicate (n : Nat) (x : Value) (h : plain x = true) : plainList (List.replicate n x) = true := by
  induction n with
  | zero => rfl
  | succ n ih => simp only [List.replicate_succ, plainList, h, ih, Bool.and_self]

theorem defCo : ∀ (s : Obj), okT s = true → (tyOf s).wf = true → serOk s = true → DefCo s := by
  refine okT_induction (P := fun s => serOk s = true → DefCo s) ?_ ?_ ?_ ?_ ?_ ?_
  · intro s hp hw hso
    cases s with
    | boolean => exact ⟨rfl, rfl⟩
    | signed n c =>
      simp only [tyOf, Ty.wf, Bool.and_eq_true, beq_iff_eq] at hw
      exact ⟨by simp only [defaultOf, inpOf, tyOf, Wire.coerce, Wire.Inp.num?, Wire.dflt, hw.2, castS_sat_zero], rfl⟩
    | unsigned _ _ | byte | utf8 =>
      exact ⟨by simp only [defaultOf, inpOf, tyOf, Wire.coerce, Wire.Inp.num?, Wire.dflt, castU_zero], rfl⟩
    | void n => exact ⟨by simp only [defaultOf, tyOf, Wire.coerce, Wire.dflt], rfl⟩
    | float _ _ => simp [serOk] at hso
    | _ => simp [isPrimObj] at hp
  · intro e cap hs hw ih hso
    have he : okT e = true := by simpa only [okT] using hs
    simp only [tyOf, Ty.wf, Bool.and_eq_true, Bool.not_eq_true', decide_eq_true_eq] at hw
    have hnu : tyOf e ≠ .utf8 := by
      intro h; rw [h] at hw; simp [Ty.isUtf8] at hw
    obtain ⟨h1, h2⟩ := ih (by simpa only [serOk] using hso)
    refine ⟨?_, by simp only [defaultOf, plain]; exact plainList_replicate _ _ h2⟩
    simp only [defaultOf, inpOf, strip, elemOf, tyOf, Wire.coerce, inpList_replicate, seqOf_list _ hnu, ok_bind,
      List.length_replicate, bne_self_eq_false, Bool.false_eq_true, if_false, coerceList_replicate _ _ _ h1, pure_eq_ok, Wire.dflt]
  · intro e cap l hs _ _ _
    simp only [okT, Bool.and_eq_true] at hs
    by_cases hu : e = .utf8
    · subst hu
      refine ⟨?_, by simp [defaultOf, plain, Wire.validUtf8]⟩
      simp [defaultOf, inpOf, tyOf, Wire.coerce, Wire.seqOf, Wire.validUtf8, Wire.coerceList, Wire.dflt]
    · by_cases hb : e = .byte
      · subst hb
        refine ⟨?_, by simp [defaultOf, plain]⟩
        simp [defaultOf, inpOf, tyOf, Wire.coerce, Wire.seqOf, Wire.coerceList, Wire.dflt]
      · have hnu : tyOf e ≠ .utf8 := fun h => hu ((tyOf_eq_utf8 e hs.1).mp h)
        have hd : defaultOf (.varArray e cap l) = .list [] := by
          cases e <;> first | rfl | exact absurd rfl hu | exact absurd rfl hb
        rw [DefCo, hd]
        refine ⟨?_, rfl⟩
        simp [inpOf, inpList, tyOf, Wire.coerce, seqOf_list _ hnu, Wire.coerceList, Wire.dflt]
  · intro fs a n hs _ ih hso
    have hfs : okFs fs = true := by simp only [okT, Bool.and_eq_true] at hs; exact hs.1
    simp only [serOk, Bool.and_eq_true, decide_eq_true_eq] at hso
    have hall := fun d nm h => ih d nm h (serOk_of_mem fs hso.1 d nm h)
    constructor
    · simp only [defaultOf, inpOf, strip, fieldsOf, tyOf, Wire.coerce, all_isField_inpDict fs hfs]
      have hkeys : ((defaultDict fs []).all fun kv => (fieldNames fs).contains kv.1) = true := by
        rw [List.all_eq_true]
        intro kv hkv
        rcases mem_defaultDict fs [] kv hkv with h | ⟨d, nm, h1, h2⟩
        · cases h
        · rw [h2]; exact List.contains_iff_mem.mpr (mem_fieldNames_of_mem h1)
      rw [if_pos hkeys]
      have := coerceFields_defaults fs hfs hso.2 (defaultDict fs []) fs [] rfl
        (fun d nm h => ⟨defaultOf d, dictLookup_defaultDict fs [] hso.2 d nm h, (hall d nm h).1⟩)
      simp only [List.length_nil] at this
      simp only [this, ok_bind, pure_eq_ok, Wire.dflt]
    · simp only [defaultOf, plain]
      rw [plainDict_iff]
      intro kv hkv
      rcases mem_defaultDict fs [] kv hkv with h | ⟨d, nm, h1, h2⟩
      · cases h
      · rw [h2]; exact (hall d nm h1).2
  · intro fs t a n hs hw ih hso
    have hfs : okFs fs = true := by simp only [okT, Bool.and_eq_true] at hs; exact hs.1.1
    simp only [tyOf, Ty.wf, Bool.and_eq_true, decide_eq_true_eq, tysOf_length] at hw
    simp only [serOk, Bool.and_eq_true, decide_eq_true_eq] at hso
    obtain ⟨d, nm, h1, h2, _⟩ := variant_lookup fs 0 hfs hw.1.1.1.2 (by omega)
    obtain ⟨c1, c2⟩ := ih d nm h2 (serOk_of_mem fs hso.1 d nm h2)
    cases fs with
    | nil => simp [Py.index] at h1
    | cons f fs =>
      rw [index_cons_zero] at h1; cases h1
      refine ⟨?_, by simp only [defaultOf, defaultFirst, plain, plainDict, c2, Bool.and_self]⟩
      simp only [defaultOf, defaultFirst, inpOf, strip, fieldsOf, inpDict, fieldIdx, fieldType, beq_self_eq_true, if_true, tyOf,
        tysOf, Wire.coerce, List.length_cons, Nat.zero_lt_succ, Wire.coerceVariant, c1, ok_bind, pure_eq_ok, Wire.dflt,
        Wire.dfltFirst]
  · intro i h x a hs _ ih hso
    have hs' := hs
    simp only [okT, Bool.and_eq_true] at hs'
    obtain ⟨c1, c2⟩ := ih (by simpa only [serOk] using hso)
    refine ⟨?_, by simpa only [defaultOf] using c2⟩
    rw [show defaultOf (.delimited i h x a) = defaultOf i by simp only [defaultOf], inpOf_delimited _ i h x a hs'.1.1.2]
    obtain ⟨_, _, _, h1 | h1⟩ := tyOf_delimited i h x a hs
    · obtain ⟨fs, al, nm, rfl, e2⟩ := h1
      rw [e2, coerce_struct_mode _ _ .sealed]
      simp only [tyOf] at c1
      rw [c1]; simp only [Wire.dflt]
    · obtain ⟨fs, t, al, nm, rfl, e2⟩ := h1
      rw [e2, coerce_union_mode _ _ .sealed]
      simp only [tyOf] at c1
      rw [c1]; simp only [Wire.dflt]

theorem defCo_all : ∀ (fs : List Obj), okFs fs = true → Wire.wfFields (tysOf fs) = true → serOkFs fs = true →
    ∀ d n, Obj.field d n ∈ fs → DefCo d :=
  fun fs hok hwf hso d n h => defCo d (mem_field_nonvoid fs hok d n h).2 (wf_of_mem_field fs hwf d n h) (serOk_of_mem fs hso d n h)

/-! ### Composites: structures -/

theorem names_mapM : ∀ (fs : List Obj), okFs fs = true →
    List.mapM (fun f => Obj.name f) (List.filter (fun f => !isinstance f Cls.PaddingField) fs) = .ok (fieldNames fs)
  | [], _ => rfl
  | f :: fs, hok => by
      cases f with
      | field d n =>
        simp only [okFs, Bool.and_eq_true] at hok
        rw [List.filter_cons_of_pos (by codec_simp []), List.mapM_cons, names_mapM fs hok.2]
        rfl
      | paddingField d =>
        simp only [okFs, Bool.and_eq_true] at hok
        rw [List.filter_cons_of_neg (by codec_simp []), names_mapM fs hok.2]
        rfl
      | _ => simp [okFs] at hok

/-- `for key in obj.keys(): if key not in valid_fields: raise ValueError` -/
theorem key_check (names : List String) : ∀ (keys : List String) (body : Unit → String → Py.M Unit),
    (∀ u k, body u k = if (!names.contains k) = true then Except.error Err.valueError else Except.ok ()) →
    Py.forEach keys () body = if keys.all (fun k => names.contains k) then .ok () else .error .valueError
  | [], _, _ => rfl
  | k :: keys, body, hb => by
      rw [forEach_cons, hb]
      by_cases hk : names.contains k = true
      · simp only [hk, Bool.not_true, Bool.false_eq_true, if_false, ok_bind, List.all_cons, Bool.true_and]
        exact key_check names keys body hb
      · have hk' : names.contains k = false := by simpa using hk
        simp only [hk', Bool.not_false, if_true, error_bind, List.all_cons, Bool.false_and, Bool.false_eq_true, if_false]

theorem plain_not_sentinel (v : Value) (h : plain v = true) : Value.isSentinel v = false := by
  cases v <;> first | rfl | simp [plain] at h

theorem plain_of_dictLookup {kvs : List (String × Value)} (h : plainDict kvs = true) {n : String} {v : Value}
    (hl : Py.dictLookup n kvs = some v) : plain v = true := by
  induction kvs with
  | nil => cases hl
  | cons a kvs ih =>
    obtain ⟨k, x⟩ := a
    simp only [plainDict, Bool.and_eq_true] at h
    simp only [Py.dictLookup] at hl
    split at hl
    · cases hl; exact h.1
    · exact ih h.2 hl

/-- the model on the fields of a structure: coerce all (looking values up by position), then write all -/
abbrev modelFields (ts : List Ty) (i : Nat) (kvs : List (Nat × Inp)) : W → Except Wire.Err W :=
  thenWrite (Wire.coerceFields ts i kvs) (encFieldsW ts)

/-- the body of the field loop of `_serialize_composite` (compared with the generated term by `rfl`) -/
@[reducible] def serFieldBody (m : Nat) (kvs : List (String × Value)) (writer : Gen.WriterS) (field : Obj) : Py.M Gen.WriterS := do
  let t32 ← field.data_type
  let t33 ← t32.alignment_requirement
  let writer ← Gen.BitWriter.align_to writer t33
  if isinstance field Cls.PaddingField = true then do
      let t34 ← field.data_type
      let t35 ← t34.bit_length
      Gen.BitWriter.write_bits writer 0 t35
    else do
      let t36 ← field.name
      let t37 ← (Value.dict kvs).getD t36 Value.sentinel
      if t37.isSentinel = true then do
          let t38 ← field.data_type
          let t39 ← Gen.Codec.default_value t38
          let t40 ← field.data_type
          Gen.Codec.serialize_field_value_rec m writer t40 t39
        else do
          let t40 ← field.data_type
          Gen.Codec.serialize_field_value_rec m writer t40 t37

/-- what the structure loop needs to know about the type of a field -/
def FieldReady (d : Obj) : Prop :=
  isSerData d = true ∧ SGood d ∧ DefCo d ∧ Gen.Codec.default_value d = .ok (defaultOf d)

theorem ser_fields_loop (m : Nat) (fs : List Obj) (hok : okFs fs = true) (hnd : (fieldNames fs).Nodup)
    (kvs : List (String × Value)) (hpk : plainDict kvs = true) :
    ∀ (suf pre : List Obj), fs = pre ++ suf → (∀ d n, Obj.field d n ∈ suf → FieldReady d) → depthFs suf + 1 ≤ m →
      ∀ (w : Gen.WriterS), WInv w →
      WAgree w (Py.forEach suf w (serFieldBody m kvs)) (modelFields (tysOf suf) pre.length (inpDict kvs fs) (toW w))
  | [], _, _, _, _, w, hw => ⟨w, rfl, rfl, hw⟩
  | f :: suf, pre, hfs, hready, hm, w, hw => by
      have hokf : okFs (f :: suf) = true := okFs_suffix pre (hfs ▸ hok)
      simp only [depthFs] at hm
      have hpos : fs[pre.length]? = some f := by rw [hfs]; simp
      rw [forEach_cons]
      simp only [tysOf, Wire.coerceFields]
      -- one field (alignment, then padding or the value), then the remaining fields from wherever the writer is then
      refine WAgree.seq (e₁ := encW (tyOf f)) (W₁ := alignTo (toW w) (tyOf f).align) ?_ (fun g hg => ?_) (fun _ _ => rfl)
      · cases f with
        | field d n =>
          simp only [okFs, Bool.and_eq_true, Bool.not_eq_true'] at hokf
          obtain ⟨hsd, hG, hdc, hdv⟩ := hready d n (by simp)
          obtain ⟨g1, a1, a2, a3⟩ := align_step w (tyOf d).align hw
          simp only [depth] at hm
          have hfv := fun v hv => gen_ser_field_value d hsd hG g1 a3 v hv m (by omega)
          simp only [modelSer_eq, a2] at hfv
          codec_simp [serFieldBody, Obj.data_type, Obj.name, align_ok d hokf.1.1, a1, Value.getD, tyOf, hokf.1.2, Bool.false_eq_true,
            lookupKey_inpDict fs hnd _ d n hpos kvs]
          cases hl : Py.dictLookup n kvs with
          | none =>
            codec_simp [Option.getD, Value.isSentinel, hdv, Option.map_none]
            have := hfv _ hdc.2
            rwa [hdc.1] at this
          | some v =>
            have hpv := plain_of_dictLookup hpk hl
            codec_simp [Option.getD, plain_not_sentinel v hpv, Option.map_some]
            exact hfv v hpv
        | paddingField d =>
          simp only [okFs, Bool.and_eq_true] at hokf
          obtain ⟨wd, rfl⟩ := void_of d hokf.1.1 hokf.1.2
          obtain ⟨g1, a1, a2, a3⟩ := align_step w (Ty.void wd).align hw
          codec_simp [serFieldBody, Obj.data_type, Obj.bit_length, align_ok (.void wd) hokf.1.1, a1, tyOf, Wire.Ty.isVoid, thenWrite, encW]
          exact a2 ▸ wr_step g1 0 wd a3
        | _ => simp [okFs] at hokf
      · have := ser_fields_loop m fs hok hnd kvs hpk suf (pre ++ [f]) (by rw [hfs]; simp)
          (fun d n h => hready d n (by simp [h])) (by omega) g hg
        simpa only [List.length_append, List.length_singleton] using this

/-- What `_serialize_composite` finds out about a plain value: it is a `dict`, or the model rejects it as well. -/
theorem plain_dict (pv : Value) (hp : plain pv = true) :
    (∃ kvs, pv = .dict kvs) ∨
    (pv.isinstance .dict = false ∧ ∀ ts md s, Wire.coerce (.struct ts md) (inpOf pv s) = .error .value ∧
      Wire.coerce (.union ts md) (inpOf pv s) = .error .value) := by
  cases pv with
  | dict kvs => exact .inl ⟨kvs, rfl⟩
  | float _ | sentinel => simp only [plain, Bool.false_eq_true] at hp
  | _ => exact .inr ⟨rfl, fun ts md s => by simp only [inpOf, Wire.coerce, and_self]⟩

/-- **`_serialize_composite`**, StructureType branch: dict check, unknown keys, fields in order with defaults, final padding -/
theorem gen_ser_structure (fs : List Obj) (a : Nat) (nm : String) (hs : okT (.structure fs a nm) = true)
    (hnd : (fieldNames fs).Nodup) (hready : ∀ d n, Obj.field d n ∈ fs → FieldReady d)
    (w : Gen.WriterS) (hwi : WInv w) (pv : Value) (hp : plain pv = true) (fuel : Nat) (hf : depth (.structure fs a nm) ≤ fuel) :
    WAgree w (Gen.Codec.serialize_composite_rec fuel w (.structure fs a nm) pv)
      (modelSer (tyOf (.structure fs a nm)) (inpOf pv (.structure fs a nm)) (toW w)) := by
  simp only [depth] at hf
  obtain ⟨m, rfl⟩ : ∃ m, fuel = m + 1 := ⟨fuel - 1, by omega⟩
  simp only [okT, Bool.and_eq_true, beq_iff_eq] at hs
  obtain ⟨hfs, rfl⟩ := hs
  rcases plain_dict pv hp with ⟨kvs, rfl⟩ | h
  · simp only [plain] at hp
    have hkc := key_check (fieldNames fs) (List.map Prod.fst kvs) _ (fun u k => rfl)
    codec_simp [Gen.Codec.serialize_composite_rec, Obj.fields, Obj.fields_except_padding, Obj.alignment_requirement,
      Value.isinstance, Value.keys, Obj.full_name, names_mapM fs hfs, modelSer_eq, inpOf, strip, fieldsOf, tyOf, Wire.coerce,
      all_isField_inpDict fs hfs]
    rw [hkc, List.all_map]
    by_cases hall : (kvs.all fun kv => (fieldNames fs).contains kv.1) = true
    · have hall' : (List.all kvs ((fun k => (fieldNames fs).contains k) ∘ Prod.fst)) = true := hall
      simp only [hall, hall', if_true, ok_bind]
      exact WAgree.andThen (post := fun W => alignTo W 8) (ser_fields_loop m fs hfs hnd kvs hp fs [] rfl hready (by omega) w hwi)
        (fun g hg => align_step g 8 hg) (fun _ => by simp only [encW, wrapDelimW])
    · have hall' : (List.all kvs ((fun k => (fieldNames fs).contains k) ∘ Prod.fst)) = false := by
        simpa using hall
      have hall2 : (kvs.all fun kv => (fieldNames fs).contains kv.1) = false := by simpa using hall
      simp only [hall2, hall', Bool.false_eq_true, if_false, error_bind]
      rfl
  · codec_simp [Gen.Codec.serialize_composite_rec, h, modelSer, tyOf]
    exact rfl

/-! ### Composites: unions -/

theorem coerceVariant_get : ∀ (ts : List Ty) (i : Nat) (t : Ty) (y : Inp), ts[i]? = some t →
    Wire.coerceVariant ts i y = Wire.coerce t y
  | [], _, _, _, h => by simp at h
  | t0 :: ts, 0, t, y, h => by
      simp only [List.getElem?_cons_zero, Option.some.injEq] at h; subst h; simp only [Wire.coerceVariant]
  | t0 :: ts, i + 1, t, y, h => by
      simp only [List.getElem?_cons_succ] at h
      simp only [Wire.coerceVariant]; exact coerceVariant_get ts i t y h

theorem encVariantW_get : ∀ (ts : List Ty) (i : Nat) (t : Ty) (v : Val) (w : W), ts[i]? = some t →
    encVariantW ts i v w = encW t v w
  | [], _, _, _, _, h => by simp at h
  | t0 :: ts, 0, t, v, w, h => by
      simp only [List.getElem?_cons_zero, Option.some.injEq] at h; subst h; simp only [encVariantW]
  | t0 :: ts, i + 1, t, v, w, h => by
      simp only [List.getElem?_cons_succ] at h
      simp only [encVariantW]; exact encVariantW_get ts i t v w h

/-- every object of the list is a `Field` (a union has no padding) -/
def allFields : List Obj → Bool
  | [] => true
  | .field _ _ :: fs => allFields fs
  | _ :: _ => false

theorem allFields_of_union : ∀ (fs : List Obj), okFs fs = true → Wire.noVoid (tysOf fs) = true → allFields fs = true
  | [], _, _ => rfl
  | f :: fs, hok, hnv => by
      cases f with
      | field d n =>
        simp only [okFs, Bool.and_eq_true] at hok
        simp only [tysOf, Wire.noVoid, Bool.and_eq_true] at hnv
        simp only [allFields]; exact allFields_of_union fs hok.2 hnv.2
      | paddingField d =>
        simp only [okFs, Bool.and_eq_true] at hok
        simp only [tysOf, tyOf, Wire.noVoid, Bool.and_eq_true, Bool.not_eq_true'] at hnv
        rw [hok.1.2] at hnv; exact absurd hnv.1 (by simp)
      | _ => simp [okFs] at hok

/-- the search loop of the union branch (`for idx, f in enumerate(schema.fields): if f.name == key: …; break`, or
    `next((… for idx, f in enumerate(schema.fields) if f.name == key), None)`), whatever it remembers of the hit (`F`: the index, the
    field, or both) -/
theorem search_loop (k : String) {σ : Type} (F : Nat × Obj → σ) : ∀ (fs : List Obj), allFields fs = true → ∀ (j : Nat) (st : σ)
    (body : σ → Nat × Obj → Py.M (Bool × σ)),
    (∀ x y, body x y = (do
      let t14 ← y.2.name
      if (t14 == k) = true then Except.ok (true, F y) else Except.ok (false, x))) →
    Py.forEachB (Py.enumerateFrom j fs) st body =
      .ok (if k ∈ fieldNames fs then F (fieldIdx k fs j, .field (fieldType k fs) k) else st)
  | [], _, j, st, _, _ => by simp [Py.enumerateFrom, Py.forEachB, fieldNames]
  | f :: fs, hall, j, st, body, hb => by
      cases f with
      | field d n =>
        simp only [allFields] at hall
        simp only [Py.enumerateFrom, Py.forEachB, hb, Obj.name, pure_eq_ok, ok_bind, fieldNames, fieldType, fieldIdx, List.mem_cons]
        by_cases hn : (n == k) = true
        · have : n = k := by simpa using hn
          subst this
          simp only [beq_self_eq_true, if_true, ok_bind, true_or]
        · have hne : ¬ k = n := fun e => hn (by simp [e])
          simp only [hn, Bool.false_eq_true, if_false, ok_bind, hne, false_or]
          rw [search_loop k F fs hall (j + 1) st body hb]
      | _ => simp [allFields] at hall

theorem all_names_mapM : ∀ (fs : List Obj), allFields fs = true → ∃ l, List.mapM (fun f => Obj.name f) fs = .ok l
  | [], _ => ⟨[], rfl⟩
  | f :: fs, hall => by
      cases f with
      | field d n =>
        simp only [allFields] at hall
        obtain ⟨l, hl⟩ := all_names_mapM fs hall
        exact ⟨n :: l, by rw [List.mapM_cons, hl]; rfl⟩
      | _ => simp [allFields] at hall

/-- **`_serialize_composite`**, UnionType branch: exactly one entry, known variant, tag, value, padding -/
theorem gen_ser_union (fs : List Obj) (t : Obj) (a : Nat) (nm : String) (hs : okT (.union fs t a nm) = true)
    (hw : (tyOf (.union fs t a nm)).wf = true) (hready : ∀ d n, Obj.field d n ∈ fs → FieldReady d)
    (w : Gen.WriterS) (hwi : WInv w) (pv : Value) (hp : plain pv = true) (fuel : Nat) (hf : depth (.union fs t a nm) ≤ fuel) :
    WAgree w (Gen.Codec.serialize_composite_rec fuel w (.union fs t a nm) pv)
      (modelSer (tyOf (.union fs t a nm)) (inpOf pv (.union fs t a nm)) (toW w)) := by
  simp only [depth] at hf
  obtain ⟨m, rfl⟩ : ∃ m, fuel = m + 1 := ⟨fuel - 1, by omega⟩
  simp only [okT, Bool.and_eq_true, beq_iff_eq] at hs
  obtain ⟨⟨hfs, rfl⟩, ht⟩ := hs
  obtain ⟨c, rfl⟩ := isUnsignedOf_elim ht
  simp only [tyOf, Ty.wf, Bool.and_eq_true] at hw
  have hall := allFields_of_union fs hfs hw.1.1.1.2
  rcases plain_dict pv hp with ⟨kvs, rfl⟩ | h
  · rcases kvs with _ | ⟨⟨k, v⟩, _ | ⟨kv2, rest⟩⟩
    · codec_simp [Gen.Codec.serialize_composite_rec, Value.isinstance, Value.len, modelSer, inpOf, inpDict, tyOf,
        Wire.coerce, List.length_nil]
      exact rfl
    · simp only [plain, plainDict, Bool.and_true] at hp
      codec_simp [Gen.Codec.serialize_composite_rec, Obj.fields, Obj.alignment_requirement, Value.isinstance, Value.len,
        Obj.full_name, Obj.tag_field_type, Obj.bit_length, Value.firstKey, Value.keys, Value.getItem, Py.dictLookup,
        List.length_singleton, List.map_cons, List.map_nil, Py.enumerate, modelSer_eq, inpOf, strip, fieldsOf, inpDict, tyOf,
        Wire.coerce, tysOf_length]
      rw [search_loop k _ fs hall 0 _ _ (fun x y => rfl)]
      by_cases hk : k ∈ fieldNames fs
      · have hlt := fieldIdx_lt k fs hk
        have hget := fieldIdx_get k fs hk
        have hmem : Obj.field (fieldType k fs) k ∈ fs := List.mem_of_getElem? hget
        obtain ⟨hsd, hG, _, _⟩ := hready _ _ hmem
        have hty : (tysOf fs)[fieldIdx k fs 0]? = some (tyOf (fieldType k fs)) := by
          rw [tysOf_getElem?, hget]; rfl
        have hd : depth (fieldType k fs) ≤ depthFs fs := by
          have := depth_le_depthFs hmem; simpa only [depth] using this
        obtain ⟨g1, e1, e2, e3⟩ := wr_step w (fieldIdx k fs 0) (Wire.tagBits fs.length) hwi
        have hfv := gen_ser_field_value _ hsd hG g1 e3 v hp m (by omega)
        rw [modelSer_eq, e2] at hfv
        codec_simp [hk, Option.isNone, Option.isSome, Py.optGet, e1, Obj.data_type, hlt, coerceVariant_get _ _ _ _ hty,
          beq_self_eq_true, assert_true, Py.index, hget]
        exact WAgree.andThen (post := fun W => alignTo W 8) hfv (fun g hg => align_step g 8 hg)
          (fun _ => by simp only [encW, wrapDelimW, encVariantW_get _ _ _ _ _ hty, tysOf_length])
      · obtain ⟨l, hl⟩ := all_names_mapM fs hall
        have hni := fieldIdx_notin k fs hk
        codec_simp [hk, Option.isNone, hl, hni, Nat.lt_irrefl, beq_self_eq_true]
        exact rfl
    · codec_simp [Gen.Codec.serialize_composite_rec, Value.isinstance, Value.len, modelSer, inpOf, inpDict, tyOf,
        Wire.coerce, List.length_cons]
      exact rfl
  · codec_simp [Gen.Codec.serialize_composite_rec, h, modelSer, tyOf]
    exact rfl

/-! ### All encoders on all well-formed schema objects -/

theorem isSerData_of (s : Obj) (hs : okT s = true) (hso : serOk s = true) : isSerData s = true := by
  cases s <;> first | rfl | (simp [okT] at hs; done) | simp [serOk] at hso

/-- the data types of the `Field`s of a composite are ready for the field loop, given the encoders for them -/
theorem fieldReady_of (fs : List Obj) (hok : okFs fs = true) (hwf : Wire.wfFields (tysOf fs) = true) (hso : serOkFs fs = true)
    (hl : depthFs fs + 1 ≤ Py.recursionLimit)
    (ih : ∀ d n, Obj.field d n ∈ fs → serOk d = true → depth d ≤ Py.recursionLimit → SGood d) :
    ∀ d n, Obj.field d n ∈ fs → FieldReady d := by
  intro d n h
  have hd := (mem_field_nonvoid fs hok d n h).2
  have hw := wf_of_mem_field fs hwf d n h
  have hso' := serOk_of_mem fs hso d n h
  have hdep : depth d ≤ depthFs fs := by
    have := depth_le_depthFs h; simpa only [depth] using this
  exact ⟨isSerData_of d hd hso', ih d n h hso' (by omega), defCo d hd hw hso', gen_default_value d hd hw (by omega)⟩

/-- **Every encoder on every well-formed schema object** of the domain, by recursion over the object graph -/
theorem sgood : ∀ (s : Obj), okT s = true → (tyOf s).wf = true → serOk s = true → depth s ≤ Py.recursionLimit → SGood s := by
  refine okT_induction (P := fun s => serOk s = true → depth s ≤ Py.recursionLimit → SGood s) ?_ ?_ ?_ ?_ ?_ ?_
  · intro s hp hw hso _ w hwi pv hpv
    cases s with
    | boolean | signed _ _ | unsigned _ _ | byte | utf8 | void _ =>
      exact ⟨fun _ => gen_serialize_primitive _ rfl hw w hwi pv hpv, nofun, nofun⟩
    | float _ _ => simp [serOk] at hso
    | _ => cases hp
  · intro e cap hs hw ih hso hl w hwi pv hpv
    have he : okT e = true := by simpa only [okT] using hs
    have hse : serOk e = true := by simpa only [serOk] using hso
    have hle : depth e ≤ Py.recursionLimit := by simp only [depth] at hl; omega
    exact ⟨nofun, fun _ fuel hf => gen_ser_array _ rfl hs (isSerData_of e he hse) (ih hse hle) w hwi pv hpv fuel hf, nofun⟩
  · intro e cap l hs _ ih hso hl w hwi pv hpv
    have he : okT e = true := by simp only [okT, Bool.and_eq_true] at hs; exact hs.1
    have hse : serOk e = true := by simpa only [serOk] using hso
    have hle : depth e ≤ Py.recursionLimit := by simp only [depth] at hl; omega
    exact ⟨nofun, fun _ fuel hf => gen_ser_array _ rfl hs (isSerData_of e he hse) (ih hse hle) w hwi pv hpv fuel hf, nofun⟩
  · intro fs a n hs hw ih hso hl w hwi pv hpv
    have hfs : okFs fs = true := by simp only [okT, Bool.and_eq_true] at hs; exact hs.1
    have hwf : Wire.wfFields (tysOf fs) = true := by
      simp only [tyOf, Ty.wf, Bool.and_eq_true] at hw; exact hw.1
    simp only [serOk, Bool.and_eq_true, decide_eq_true_eq] at hso
    have hlf : depthFs fs + 1 ≤ Py.recursionLimit := by simp only [depth] at hl; omega
    exact ⟨nofun, nofun,
      fun _ fuel hf => gen_ser_structure fs a n hs hso.2 (fieldReady_of fs hfs hwf hso.1 hlf ih) w hwi pv hpv fuel hf⟩
  · intro fs t a n hs hw ih hso hl w hwi pv hpv
    have hfs : okFs fs = true := by simp only [okT, Bool.and_eq_true] at hs; exact hs.1.1
    have hwf : Wire.wfFields (tysOf fs) = true := by
      simp only [tyOf, Ty.wf, Bool.and_eq_true] at hw; exact hw.1.1.1.1
    simp only [serOk, Bool.and_eq_true, decide_eq_true_eq] at hso
    have hlf : depthFs fs + 1 ≤ Py.recursionLimit := by simp only [depth] at hl; omega
    exact ⟨nofun, nofun,
      fun _ fuel hf => gen_ser_union fs t a n hs hw (fieldReady_of fs hfs hwf hso.1 hlf ih) w hwi pv hpv fuel hf⟩
  · intro i h x a hs _ ih hso hl w hwi pv hpv
    have hsi : serOk i = true := by simpa only [serOk] using hso
    have hli : depth i ≤ Py.recursionLimit := by simp only [depth] at hl; omega
    exact ⟨nofun, nofun,
      fun _ fuel hf => gen_ser_delimited i h x a hs (ih hsi hli) w hwi pv hpv fuel hf⟩

theorem sgood_all : ∀ (fs : List Obj), okFs fs = true → Wire.wfFields (tysOf fs) = true → serOkFs fs = true →
    depthFs fs + 1 ≤ Py.recursionLimit → ∀ d n, Obj.field d n ∈ fs → FieldReady d :=
  fun fs hok hwf hso hl => fieldReady_of fs hok hwf hso hl fun d n h hso' hd =>
    sgood d (mem_field_nonvoid fs hok d n h).2 (wf_of_mem_field fs hwf d n h) hso' hd

/-! ### `serialize` -/

/-- the generated `serialize` returns the bytes of the model's buffer, or raises the model's error class -/
def SerAgree (x : Py.M (List Nat)) (y : Except Wire.Err W) : Prop :=
  match y with
  | .ok W' => ∃ bytes, x = .ok bytes ∧ IsBytes bytes ∧ bytesToBits bytes = W'.buf
  | .error e => x = .error (errOf e)

theorem serAgree_of_wagree {x : Py.M Gen.WriterS} {y : Except Wire.Err W} {w : Gen.WriterS} (h : WAgree w x y) :
    SerAgree (x >>= fun g => Except.ok g.buffer) y := by
  rcases h.elim with ⟨e, hy, hx⟩ | ⟨g', hy, hx, hi⟩
  · rw [hy, hx]; rfl
  · rw [hy, hx]; exact ⟨g'.buffer, rfl, hi.1, rfl⟩

theorem coerce_inner (t : Ty) (x : Inp) : Wire.coerce t.inner x = Wire.coerce t x := by
  cases t <;> rfl

theorem winv_empty : WInv ⟨[], 0⟩ := gen_writer_init.2.1

/-- `serialize` on a structure or union type: no header is possible, the object itself goes to `_serialize_composite` -/
theorem gen_serialize_sealed (s : Obj) (hsu : isStructOrUnion s = true) (hG : SGood s)
    (hd : depth s ≤ Py.recursionLimit) (pv : Value) (hp : plain pv = true) (hdr : Bool) :
    SerAgree (Gen.Codec.serialize s pv hdr false)
      (if hdr = true then .error .value else modelSer (tyOf s) (inpOf pv s) ⟨[], 0⟩) := by
  have hc : isCompObj s = true := by cases s <;> first | rfl | cases hsu
  have := serAgree_of_wagree ((hG ⟨[], 0⟩ winv_empty pv hp).2.2 hc Py.recursionLimit hd)
  cases s <;> try (cases hsu; done)
  all_goals
    cases hdr
    · codec_simp [Gen.Codec.serialize, Gen.Codec.serialize_composite, Gen.BitWriter.init, Gen.BitWriter.finish, Bool.false_and,
        Bool.false_eq_true]
      exact this
    · codec_simp [Gen.Codec.serialize]
      exact rfl

/-- `serialize` on a delimited type, with and without the header -/
theorem gen_serialize_delimited (i h : Obj) (x a : Nat) (hs : okT (.delimited i h x a) = true) (hG : SGood (.delimited i h x a))
    (hGi : SGood i) (hd : depth (.delimited i h x a) ≤ Py.recursionLimit) (pv : Value) (hp : plain pv = true) (hdr : Bool) :
    SerAgree (Gen.Codec.serialize (.delimited i h x a) pv hdr false)
      (modelSer (if hdr = true then tyOf (.delimited i h x a) else tyOf i) (inpOf pv (.delimited i h x a)) ⟨[], 0⟩) := by
  cases hdr with
  | true =>
    -- with the header the entry point is the DelimitedType branch of `_serialize_composite` on a fresh writer, whether it spells
    -- that branch out once more (one frame less) or delegates to it
    have key : ∃ F, depth (.delimited i h x a) ≤ F ∧ Gen.Codec.serialize (.delimited i h x a) pv true false =
        (Gen.Codec.serialize_composite_rec F ⟨[], 0⟩ (.delimited i h x a) pv >>= fun g => Except.ok g.buffer) := by
      first
        | (refine ⟨Py.recursionLimit, hd, ?_⟩
           codec_simp [Gen.Codec.serialize, Gen.Codec.serialize_composite, Gen.BitWriter.init, Gen.BitWriter.finish, Obj.inner_type,
             Bool.false_eq_true, Bool.not_true, Bool.and_false, bind_assoc]
           done)
        | (refine ⟨Py.recursionLimit + 1, by omega, ?_⟩
           codec_simp [Gen.Codec.serialize, Gen.Codec.serialize_composite, Gen.BitWriter.init, Gen.BitWriter.finish, Obj.inner_type,
             Obj.delimiter_header_type, Gen.Codec.serialize_composite_rec, Bool.false_eq_true, Bool.not_true, Bool.and_false,
             bind_assoc])
    obtain ⟨F, hF, heq⟩ := key
    rw [heq]
    exact serAgree_of_wagree ((hG ⟨[], 0⟩ winv_empty pv hp).2.2 rfl F hF)
  | false =>
    simp only [okT, Bool.and_eq_true] at hs
    have hcomp : isCompObj i = true := by
      cases i <;> first | rfl | simp [isStructOrUnion] at hs
    have := serAgree_of_wagree ((hGi ⟨[], 0⟩ winv_empty pv hp).2.2 hcomp Py.recursionLimit (by simp only [depth] at hd; omega))
    rw [← inpOf_delimited pv i h x a hs.1.1.2] at this
    codec_simp [Gen.Codec.serialize, Gen.Codec.serialize_composite, Gen.BitWriter.init, Gen.BitWriter.finish, Obj.inner_type,
      Bool.false_and, Bool.false_eq_true]
    exact this

/-- **`serialize`** (strict mode): for every well-formed composite schema object in the domain of the serializer theorems
    (`serOk`), every plain Python value and both values of `with_delimiter_header`, the generated function returns the bytes the
    model's `_BitWriter` driver produces for the coerced value, or raises the exception of the model's error class. -/
theorem gen_serialize (s : Obj) (hs : okT s = true) (hc : isCompObj s = true) (hw : (tyOf s).wf = true) (hso : serOk s = true)
    (hd : depth s ≤ Py.recursionLimit) (pv : Value) (hp : plain pv = true) (hdr : Bool) :
    SerAgree (Gen.Codec.serialize s pv hdr false)
      (if (hdr && !(tyOf s).isDelimited) = true then .error .value
       else modelSer (if hdr = true then tyOf s else (tyOf s).inner) (inpOf pv s) ⟨[], 0⟩) := by
  have hG := sgood s hs hw hso hd
  by_cases hsu : isStructOrUnion s = true
  · obtain ⟨hin, hdl⟩ := inner_sealed s hs hsu
    simpa only [hdl, hin, Bool.not_false, Bool.and_true, ite_self] using gen_serialize_sealed s hsu hG hd pv hp hdr
  · cases s <;> first | exact absurd rfl hsu | cases hc
    rename_i i h x a
    obtain ⟨hin, hdl⟩ := inner_delimited i h x a hs
    have hGi := sgood i (tyOf_delimited i h x a hs).1 (wf_inner_of_delimited i h x a hs hw) (by simpa only [serOk] using hso)
      (by simp only [depth] at hd; omega)
    simpa only [hdl, hin, Bool.not_true, Bool.and_false, Bool.false_eq_true, if_false] using
      gen_serialize_delimited i h x a hs hG hGi hd pv hp hdr

end Bridge
