import Bridge.ExprOps.Algebra
import Bridge.ExprOps.Attr
/-!
  Bridge for the operator semantics of the constant-expression evaluator: the definitions that `tools/py2lean_expr.py`
  generates from `pydsdl/_expression/{_any,_primitive,_container,_operator}.py` (`Gen/ExprOps.lean`, re-generated on every run)
  against the hand-written model `Model/Expr.lean`.

  * `Bridge/ExprOps/Prim.lean`: primitives (`gen_scBin`: all 17 binary operators on all 9 pairs of primitive kinds, for every
    environment; `gen_evalUn`), the `_auto_swap` wrapper;
  * `Bridge/ExprOps/Sets.lean`: `__hash__` / `__eq__` of the primitives as set elements, `Set.__init__`, `Set._elementwise`;
  * `Bridge/ExprOps/Elementwise.lean`: a set and a primitive, both orientations;
  * `Bridge/ExprOps/Algebra.lean`: two sets;
  * `Bridge/ExprOps/Attr.lean`: the attribute operator;
  * this file: the summary theorems.

  The environment `Gen.Ex.env nfc (n + 1)` is the generated late-binding record with a call budget of at least one: every
  statement holds for every budget `n`, so no outcome on model values is a `RecursionError` of the budget.
-/
set_option linter.unusedSimpArgs false
set_option linter.unusedVariables false
namespace BridgeEx
open Py Ex PyEx Bridge

section
variable (nfc : List Nat → List Nat) (n : Nat)

local notation "env1" => Gen.Ex.env nfc (n + 1)
local notation "SN" => (StrNorm.mk nfc)
local notation "normS" => @normSc (StrNorm.mk nfc)

/-- **Every binary operator on every pair of model values.**  `oa`, `ob`: Python objects that denote the model values `a`, `b`
    (`Abs`: primitives exactly, sets element-wise up to the normal form of string elements).  The operator function of
    `_operator.py`, as translated from the working tree, returns an object that denotes the model's result, or raises the
    exception class of the model's error. -/
theorem gen_evalBin (hl : NfcLaws nfc) (op : BinOp) (oa ob : Obj) (a b : Val) (ha : Abs nfc oa a) (hb : Abs nfc ob b) :
    Agree nfc (genBin op env1 oa ob) (@evalBin SN op a b) := by
  cases ha with
  | sc x => cases hb with
    | sc y =>
      show Agree nfc _ ((@scBin SN op x y).map Val.sc)
      rw [gen_scBin0 nfc (n + 1) op x y]
      cases @scBin SN op x y with
      | error e => rfl
      | ok s => exact ⟨_, rfl, Abs.sc s⟩
    | set rb hb => exact gen_sc_set nfc n hl op rb x
  | set ra ha => cases hb with
    | sc y => exact gen_set_sc nfc n hl op ra y
    | set rb hb => exact gen_set_set nfc n ra rb ha hb op

/-- when the generated code returns, the model does, with a value the result denotes -/
theorem agree_ok_inv {g : E Obj} {m : R Val} {o : Obj} (h : Agree nfc g m) (hg : g = .ok o) : ∃ v, m = .ok v ∧ Abs nfc o v := by
  cases m with
  | ok v =>
    obtain ⟨o', ho', habs⟩ := h
    rw [hg] at ho'; cases ho'
    exact ⟨v, rfl, habs⟩
  | error e =>
    have : g = .error (excOf e) := h
    rw [hg] at this; cases this

theorem abs_emb_sc (s : Scalar) : Abs nfc (emb (.sc s)) (.sc s) := Abs.sc s

/-- **Unary operators.** -/
theorem gen_evalUn' (env : Py.Env) (op : UnOp) (oa : Obj) (a : Val) (ha : Abs nfc oa a) :
    Agree nfc (genUn op env oa) (evalUn op a) := by
  cases ha with
  | sc x =>
    have := gen_evalUn env op (.sc x)
    show Agree nfc (genUn op env (emb (.sc x))) _
    rw [this]
    cases x <;> cases op <;> first | rfl | exact ⟨_, rfl, abs_emb_sc nfc _⟩
  | set ra ha =>
    have := gen_evalUn env op (.set ra)
    show Agree nfc (genUn op env (emb (.set ra))) _
    rw [this]
    cases op <;> rfl

/-- **The attribute operator.** -/
theorem gen_evalAttr (oa : Obj) (a : Val) (ha : Abs nfc oa a) (name : String)
    (hnorm : name = "min" ∨ name = "max" → ∀ raw, oa = setObj raw → ∀ x ∈ raw, normS x = x) :
    Agree nfc (Gen.Ex.attribute env1 oa (nameObj name)) (@evalAttr SN a name) := by
  cases ha with
  | sc x => exact gen_attr_scalar nfc n x name
  | set ra ha => exact gen_attr_set nfc n ra ha name (fun h => hnorm h ra rfl)

/-- **Set literals** of primitives: `Set([...])` against `mkSet`. -/
theorem gen_set_literal (scs : List Scalar) :
    Agree nfc (Gen.Ex.Set.__new__ env1 (.list (scs.map embS))) (@mkSet SN (scs.map Val.sc)) := by
  have hm : @mkSet SN (scs.map Val.sc) = mkSetS (scs.map normS) := by
    cases scs with
    | nil => rfl
    | cons x xs =>
      simp [mkSet, List.filterMap_map, Function.comp_def]
  rw [hm, set_new_ewRes]
  exact agree_ewRes nfc (.ok scs)

/-- **The parser's operator table.**  The function that `_ParseTreeProcessor.visit_op2_…` / `visit_op1_form_…` (`_parser.py`) bind
    to the terminal of an operator rule of grammar.parsimonious is the function the bridge theorems are about (`genBin` /
    `genUn` of the model's operator whose token `Sym.text` it is). -/
theorem operator_table (env : Py.Env) :
    (∀ op : BinOp, Gen.Ex.binaryOperator env (String.ofList op.sym.text) = some (genBin op env)) ∧
    (∀ op : UnOp, Gen.Ex.unaryOperator env (String.ofList op.sym.text) = some (genUn op env)) := by
  constructor
  · intro op
    cases op <;> simp only [BinOp.sym, Sym.text, Gen.Ex.binaryOperator, String.reduceOfList, String.reduceEq, ↓reduceIte, genBin]
  · intro op
    cases op <;> simp only [UnOp.sym, Sym.text, Gen.Ex.unaryOperator, String.reduceOfList, String.reduceEq, ↓reduceIte, genUn]

/-- the identity satisfies the laws (so do all idempotent normalisations that are congruences for concatenation: NFC) -/
theorem nfcLaws_id : NfcLaws id := ⟨fun _ _ => rfl, fun _ _ => rfl⟩

end
end BridgeEx
