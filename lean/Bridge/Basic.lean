import PyLib
import Proofs.BlsLists
import Bridge.NormAttr
/-!
  Generic facts used by every bridge between generated code (`Gen/*.lean`) and the models: reasoning about `Except`
  programs, loops (`Py.forEach`, `mapM`) and the PyLib primitives.  Deliberately independent of every generated module, so
  that a change in one translated source file breaks only the bridge of that file.
-/
set_option linter.unusedSimpArgs false
set_option linter.unusedVariables false
open Bls

namespace Bridge

/-! ### Reasoning about `Except` programs -/

@[simp] theorem ok_bind {ε α β : Type} (a : α) (f : α → Except ε β) : (Except.ok a >>= f) = f a := rfl
@[simp] theorem pure_eq_ok {ε α : Type} (a : α) : (pure a : Except ε α) = Except.ok a := rfl

theorem mapM_ok {ε α β : Type} (l : List α) (f : α → Except ε β) (g : α → β) (h : ∀ x ∈ l, f x = .ok (g x)) :
    l.mapM f = .ok (l.map g) := by
  induction l with
  | nil => rfl
  | cons a l ih =>
    rw [List.mapM_cons, h a (by simp), ih fun x hx => h x (by simp [hx])]
    rfl

theorem forEach_ok {α σ : Type} (l : List α) (init : σ) (body : σ → α → Py.M σ) (f : σ → α → σ)
    (h : ∀ x ∈ l, ∀ s, body s x = .ok (f s x)) : Py.forEach l init body = .ok (l.foldl f init) := by
  unfold Py.forEach
  induction l generalizing init with
  | nil => rfl
  | cons a l ih =>
    rw [List.foldlM_cons, h a (by simp)]
    exact ih _ fun x hx => h x (by simp [hx])

/-- the value of a successful computation (used to name the results the induction hypotheses promise) -/
def val {α : Type} [Inhabited α] : Py.M α → α
  | .ok a => a
  | .error _ => default

theorem eq_ok_val {α : Type} [Inhabited α] {x : Py.M α} {a : α} (h : x = .ok a) : x = .ok (val x) := by
  subst h; rfl

/-! ### PyLib facts -/

theorem mod_pos {b : Nat} (hb : 0 < b) (a : Nat) : Py.mod a b = .ok (a % b) := by
  unfold Py.mod; rw [if_neg (by omega)]; rfl

theorem floordiv_pos {b : Nat} (hb : 0 < b) (a : Nat) : Py.floordiv a b = .ok (a / b) := by
  unfold Py.floordiv; rw [if_neg (by omega)]; rfl

theorem sub_le {a b : Nat} (h : b ≤ a) : Py.sub a b = .ok (a - b) := by
  unfold Py.sub; rw [if_pos h]; rfl

/-- normal form of commuted sums in the reduction of the repetition count -/
theorem mod_add_comm (k d : Nat) : k % d + d = d + k % d := Nat.add_comm _ _

@[simp] theorem assert_true : Py.assert true = .ok () := rfl

theorem minOf_ne_nil {l : List Nat} (h : l ≠ []) : Py.minOf l = .ok (minL l) := by
  cases l with
  | nil => exact absurd rfl h
  | cons x xs => rfl

theorem maxOf_ne_nil {l : List Nat} (h : l ≠ []) : Py.maxOf l = .ok (maxL l) := by
  cases l with
  | nil => exact absurd rfl h
  | cons x xs => rfl

@[simp] theorem toFinset_set (l : List Nat) : (Py.set l).toFinset = l.toFinset := toFinset_dedup l

theorem set_ne_nil {l : List Nat} (h : l ≠ []) : Py.set l ≠ [] := by
  obtain ⟨x, hx⟩ := List.exists_mem_of_ne_nil l h
  intro h0
  have : x ∈ Py.set l := (mem_dedup l x).mpr hx
  rw [h0] at this; cases this

@[simp] theorem mem_setAdd (s : List Nat) (x y : Nat) : y ∈ Py.setAdd s x ↔ y = x ∨ y ∈ s := by
  unfold Py.setAdd; split <;> simp_all

theorem mem_foldl_setAdd {α : Type} (l : List α) (g : α → Nat) (init : List Nat) (y : Nat) :
    y ∈ l.foldl (fun s x => Py.setAdd s (g x)) init ↔ y ∈ init ∨ ∃ x ∈ l, y = g x := by
  induction l generalizing init with
  | nil => simp
  | cons a l ih => rw [List.foldl_cons, ih]; simp only [mem_setAdd, List.mem_cons, exists_eq_or_imp, or_assoc, or_left_comm]

@[simp] theorem mem_setUnion (s t : List Nat) (y : Nat) : y ∈ Py.setUnion s t ↔ y ∈ s ∨ y ∈ t := by
  unfold Py.setUnion
  have := mem_foldl_setAdd t id s y
  simpa using this

theorem ne_nil_of_toFinset_eq {l l' : List Nat} (h : l.toFinset = l'.toFinset) (hl : l ≠ []) : l' ≠ [] := by
  obtain ⟨x, hx⟩ := List.exists_mem_of_ne_nil l hl
  exact List.ne_nil_of_mem ((List.toFinset.ext_iff.mp h x).mp hx)

theorem minL_eq_of_toFinset {l l' : List Nat} (h : l.toFinset = l'.toFinset) (hl : l ≠ []) : minL l = minL l' := by
  have mem := List.toFinset.ext_iff.mp h
  have hl' := ne_nil_of_toFinset_eq h hl
  exact Nat.le_antisymm (minL_le l _ ((mem _).mpr (minL_mem l' hl'))) (minL_le l' _ ((mem _).mp (minL_mem l hl)))

theorem maxL_eq_of_toFinset {l l' : List Nat} (h : l.toFinset = l'.toFinset) (hl : l ≠ []) : maxL l = maxL l' := by
  have mem := List.toFinset.ext_iff.mp h
  have hl' := ne_nil_of_toFinset_eq h hl
  exact Nat.le_antisymm (le_maxL l' _ ((mem _).mp (maxL_mem l hl))) (le_maxL l _ ((mem _).mpr (maxL_mem l' hl')))

/-! ### Added for robustness against behaviour-preserving refactorings (generic; nothing here mentions a generated module)

  * arithmetic below a unary minus (`Py.imod`, `Py.ifloordiv`, `Py.toNat`): closed forms on the naturals, so that `(-x) % r` and
    `-(-x // r)` reduce to the same normal forms as their subtraction-free spellings;
  * every spelling of "round up to a multiple" the translator can emit (operands are sorted, so both orders occur) → `padTo`;
  * every spelling of the reduced repetition count → `min`;
  * accumulation loops as finite sets: `foldl` of `Py.setAdd` / `Py.setUnion` is the image / union (set comprehensions, `set(map …)`
    and hand-written loops are all translated to such loops). -/

theorem imod_natCast {b : Nat} (hb : 0 < b) (x : Nat) : Py.imod (x : Int) (b : Int) = .ok ((x % b : Nat) : Int) := by
  unfold Py.imod; rw [if_neg (by omega)]
  simp only [pure_eq_ok, Except.ok.injEq]
  rw [Int.fmod_eq_emod_of_nonneg _ (by omega)]; omega

theorem ifloordiv_natCast {b : Nat} (hb : 0 < b) (x : Nat) : Py.ifloordiv (x : Int) (b : Int) = .ok ((x / b : Nat) : Int) := by
  unfold Py.ifloordiv; rw [if_neg (by omega)]
  simp only [pure_eq_ok, Except.ok.injEq]
  rw [Int.fdiv_eq_ediv_of_nonneg _ (by omega)]; omega

/-- `(-x) % b` for naturals `x`, `b > 0` (Python: in `[0, b)`) -/
theorem imod_neg_natCast {b : Nat} (hb : 0 < b) (x : Nat) : Py.imod (-(x : Int)) (b : Int) = .ok (((b - x % b) % b : Nat) : Int) := by
  unfold Py.imod; rw [if_neg (by omega)]
  simp only [pure_eq_ok, Except.ok.injEq]
  rw [Int.fmod_eq_emod_of_nonneg _ (by omega)]
  have hle : x % b ≤ b := Nat.le_of_lt (Nat.mod_lt _ hb)
  rw [Int.natCast_mod, Int.natCast_sub hle, Int.natCast_mod]
  have e1 : (-(x : Int)) % (b : Int) = ((0 : Int) - (x : Int) % b) % b := by
    rw [← Int.zero_sub, Int.sub_emod, Int.zero_emod]
  have e2 : ((b : Int) - (x : Int) % b) % b = ((0 : Int) - (x : Int) % b) % b := by
    rw [Int.sub_emod, Int.emod_self, Int.emod_emod]
  rw [e1, e2]

/-- `-x // b` for naturals `x`, `b > 0`: minus the ceiling of `x / b` -/
theorem ifloordiv_neg_natCast {b : Nat} (hb : 0 < b) (x : Nat) :
    Py.ifloordiv (-(x : Int)) (b : Int) = .ok (-(((x + b - 1) / b : Nat) : Int)) := by
  unfold Py.ifloordiv; rw [if_neg (by omega)]
  simp only [pure_eq_ok, Except.ok.injEq]
  rw [Int.fdiv_eq_ediv_of_nonneg _ (by omega)]
  generalize hc : (x + b - 1) / b = c
  have h1 : c * b ≤ x + b - 1 := by rw [← hc]; exact Nat.div_mul_le_self _ _
  have h2 : x + b - 1 < c * b + b := by rw [← hc]; exact Nat.lt_div_mul_add hb
  have hb' : (0 : Int) < (b : Int) := by omega
  have key := (Int.ediv_emod_unique hb' (a := -(x : Int)) (q := -(c : Int)) (r := (c : Int) * b - x)).mpr
  have hcb : ((c * b : Nat) : Int) = (c : Int) * (b : Int) := Int.natCast_mul c b
  refine (key ⟨?_, ?_, ?_⟩).1
  · rw [Int.mul_neg, Int.mul_comm (b : Int) (c : Int)]; omega
  · omega
  · omega

@[simp] theorem toNat_natCast (n : Nat) : Py.toNat (n : Int) = .ok n := by
  unfold Py.toNat; rw [if_pos (by omega)]; simp

/-- casts are pulled outwards (towards `Py.toNat`), double negations vanish -/
theorem natCast_add_symm (a b : Nat) : (a : Int) + (b : Int) = ((a + b : Nat) : Int) := (Int.natCast_add a b).symm
theorem natCast_mul_symm (a b : Nat) : (a : Int) * (b : Int) = ((a * b : Nat) : Int) := (Int.natCast_mul a b).symm
theorem int_neg_neg (a : Int) : - -a = a := Int.neg_neg a
theorem int_neg_mul_neg (a b : Int) : -a * -b = a * b := Int.neg_mul_neg a b

theorem eq_padTo_of_dvd {a x y : Nat} (ha : 1 ≤ a) (hd : a ∣ y) (hx : x ≤ y) (hlt : y < x + a) : y = padTo a x := by
  apply Nat.le_antisymm
  · obtain ⟨m, rfl⟩ := hd
    obtain ⟨n, hn⟩ := padTo_dvd a x
    have hxp := le_padTo a x ha
    rw [hn] at hxp ⊢
    have h1 : a * m < a * (n + 1) := by rw [Nat.mul_add, Nat.mul_one]; omega
    have h2 := Nat.lt_of_mul_lt_mul_left h1
    exact Nat.mul_le_mul_left a (by omega)
  · exact padTo_least a x y ha hd hx

theorem padTo_form1 (a x : Nat) : (x + a - 1) / a * a = padTo a x := rfl
theorem padTo_form2 (a x : Nat) : (a + x - 1) / a * a = padTo a x := by rw [Nat.add_comm a x]; rfl
theorem padTo_form3 (a x : Nat) : a * ((x + a - 1) / a) = padTo a x := by rw [Nat.mul_comm]; rfl
theorem padTo_form4 (a x : Nat) : a * ((a + x - 1) / a) = padTo a x := by rw [Nat.mul_comm, Nat.add_comm a x]; rfl
/-- `x + (-x) % a` -/
theorem padTo_form5 {a : Nat} (ha : 1 ≤ a) (x : Nat) : x + (a - x % a) % a = padTo a x := by
  apply eq_padTo_of_dvd ha
  · by_cases h : x % a = 0
    · rw [h, Nat.sub_zero, Nat.mod_self, Nat.add_zero]; exact Nat.dvd_of_mod_eq_zero h
    · have hlt := Nat.mod_lt x (show 0 < a by omega)
      rw [Nat.mod_eq_of_lt (by omega)]
      have := Nat.div_add_mod x a
      have e : x + (a - x % a) = a * (x / a + 1) := by rw [Nat.mul_add, Nat.mul_one]; omega
      rw [e]; exact Nat.dvd_mul_right _ _
  · omega
  · have := Nat.mod_lt (a - x % a) (show 0 < a by omega); omega
theorem padTo_form6 {a : Nat} (ha : 1 ≤ a) (x : Nat) : (a - x % a) % a + x = padTo a x := by
  rw [Nat.add_comm]; exact padTo_form5 ha x

/-- spellings of `min` -/
theorem ite_le_eq_min (a b : Nat) : (if a ≤ b then a else b) = min a b := (Nat.min_def).symm
theorem ite_lt_eq_min (a b : Nat) : (if a < b then a else b) = min a b := by
  rw [Nat.min_def]; split <;> split <;> omega
theorem ite_le_eq_min' (a b : Nat) : (if a ≤ b then a else b) = min b a := by rw [Nat.min_comm]; exact ite_le_eq_min a b
theorem ite_lt_eq_min' (a b : Nat) : (if a < b then a else b) = min b a := by rw [Nat.min_comm]; exact ite_lt_eq_min a b

theorem mapM_ok_fun {ε α β : Type} (l : List α) (g : α → β) :
    l.mapM (fun x => (Except.ok (g x) : Except ε β)) = .ok (l.map g) := mapM_ok l _ g (fun _ _ => rfl)

theorem forEach_ok_fun {α σ : Type} (l : List α) (init : σ) (f : σ → α → σ) :
    Py.forEach l init (fun s x => (Except.ok (f s x) : Py.M σ)) = .ok (l.foldl f init) :=
  forEach_ok l init _ f (fun _ _ _ => rfl)

theorem mem_foldl_foldl_setAdd {α β : Type} (ks : List α) (L : α → List β) (g : α → β → Nat) (init : List Nat) (y : Nat) :
    y ∈ ks.foldl (fun out k => (L k).foldl (fun out el => Py.setAdd out (g k el)) out) init
      ↔ y ∈ init ∨ ∃ k ∈ ks, ∃ el ∈ L k, y = g k el := by
  induction ks generalizing init with
  | nil => simp
  | cons a ks ih =>
    rw [List.foldl_cons, ih, mem_foldl_setAdd]
    simp only [List.mem_cons, exists_eq_or_imp, or_assoc]

theorem mem_foldl_setUnion {α : Type} (l : List α) (g : α → List Nat) (init : List Nat) (y : Nat) :
    y ∈ l.foldl (fun s x => Py.setUnion s (g x)) init ↔ y ∈ init ∨ ∃ x ∈ l, y ∈ g x := by
  induction l generalizing init with
  | nil => simp
  | cons a l ih => rw [List.foldl_cons, ih]; simp only [mem_setUnion, List.mem_cons, exists_eq_or_imp, or_assoc]

/-- an accumulation loop that starts from the empty set is, as a finite set, the image -/
theorem toFinset_foldl_setAdd {α : Type} (l : List α) (g : α → Nat) :
    (l.foldl (fun s x => Py.setAdd s (g x)) []).toFinset = (l.map g).toFinset := by
  ext y; simp only [List.mem_toFinset, mem_foldl_setAdd, List.not_mem_nil, false_or, List.mem_map, eq_comm]

theorem toFinset_foldl_foldl_setAdd {α β : Type} (ks : List α) (L : α → List β) (g : α → β → Nat) :
    (ks.foldl (fun out k => (L k).foldl (fun out el => Py.setAdd out (g k el)) out) []).toFinset
      = (ks.flatMap fun k => (L k).map (g k)).toFinset := by
  ext y; simp only [List.mem_toFinset, mem_foldl_foldl_setAdd, List.not_mem_nil, false_or, List.mem_flatMap, List.mem_map, eq_comm]

theorem toFinset_foldl_setUnion {α : Type} (l : List α) (g : α → List Nat) :
    (l.foldl (fun s x => Py.setUnion s (g x)) []).toFinset = (l.flatMap g).toFinset := by
  ext y; simp only [List.mem_toFinset, mem_foldl_setUnion, List.not_mem_nil, false_or, List.mem_flatMap]

/-! ### Normal forms for refactoring-robust bridges (namespace `Bridge.Robust`; used by the layout / rules / namespace bridges)

  The bridge lemmas unfold a generated definition and normalise it with `py_simp [facts]`: `simp` with the lemmas below, side
  conditions (`0 < d`, `b ≤ a`, …) discharged by `omega` over the hypotheses.  Local helper functions, hoisted temporaries and
  early returns are β / ζ / `if`-reductions; comprehensions and loops without a raising step both become `List.foldl`
  (`maxOf_cons`, `forEach_pure`, `List.foldl_map`); `max` / `min` / `+` are put into one order (`max_comm'` …). -/

namespace Robust

theorem throw_err {α : Type} (e : Py.Err) : (throw e : Py.M α) = Except.error e := rfl
theorem err_bind {α β : Type} (e : Py.Err) (f : α → Py.M β) : (Except.error e >>= f) = Except.error e := rfl
theorem bind_pure_unit (x : Py.M Unit) : (x >>= fun _ => Except.ok ()) = x := by
  cases x with
  | ok u => cases u; rfl
  | error e => rfl

theorem assert_decide {p : Prop} [Decidable p] (h : p) : Py.assert (decide p) = .ok () := by
  simp [Py.assert, h]
theorem assert_false' : Py.assert false = .error .assertion := rfl
theorem assert_eq_true {b : Bool} (h : b = true) : Py.assert b = .ok () := by subst h; rfl

theorem blsPad_pos (a : Bls.Op) {n : Nat} (hn : 1 ≤ n) : Py.blsPad a n = .ok (.pad a n) := by
  unfold Py.blsPad; rw [if_neg (by omega)]; rfl
theorem isAligned_pos (a : Bls.Op) {d : Nat} (hd : 1 ≤ d) : Py.blsIsAlignedAt a d = .ok (Bls.isAlignedAt a d) := by
  unfold Py.blsIsAlignedAt; rw [if_neg (by omega)]; rfl
theorem blsUnite_cons (a : Bls.Op) (l : List Bls.Op) : Py.blsUnite (a :: l) = .ok (.uni (a :: l)) := rfl
theorem index_cons_zero {α : Type} (a : α) (l : List α) : Py.index (a :: l) 0 = .ok a := rfl
theorem maxOf_cons (a : Nat) (l : List Nat) : Py.maxOf (a :: l) = .ok (l.foldl max a) := rfl
theorem minOf_cons (a : Nat) (l : List Nat) : Py.minOf (a :: l) = .ok (l.foldl min a) := rfl
theorem ceilLog2_pos {x : Nat} (hx : 1 ≤ x) : Py.ceilLog2 x = .ok (Py.ceilLog2Aux x x 0 1) := by
  unfold Py.ceilLog2; rw [if_neg (by omega)]; rfl

theorem forEach_nil {α σ : Type} (s : σ) (body : σ → α → Py.M σ) : Py.forEach [] s body = .ok s := rfl
theorem forEach_cons {α σ : Type} (a : α) (l : List α) (s : σ) (body : σ → α → Py.M σ) :
    Py.forEach (a :: l) s body = (body s a >>= fun s' => Py.forEach l s' body) := by
  unfold Py.forEach; rw [List.foldlM_cons]
theorem forEach_pure {α σ : Type} (l : List α) (s : σ) (f : σ → α → σ) :
    Py.forEach l s (fun s x => Except.ok (f s x)) = .ok (l.foldl f s) := forEach_ok l s _ f (fun _ _ _ => rfl)
theorem forEach_map {α β σ : Type} (l : List α) (g : α → β) (s : σ) (body : σ → β → Py.M σ) :
    Py.forEach (l.map g) s body = Py.forEach l s (fun s x => body s (g x)) := by
  unfold Py.forEach; rw [List.foldlM_map]

theorem max_comm' (a b : Nat) : max a b = max b a := Nat.max_comm a b
theorem max_left_comm' (a b c : Nat) : max a (max b c) = max b (max a c) := Nat.max_left_comm a b c
theorem max_assoc' (a b c : Nat) : max (max a b) c = max a (max b c) := Nat.max_assoc a b c
theorem min_comm' (a b : Nat) : min a b = min b a := Nat.min_comm a b
theorem min_left_comm' (a b c : Nat) : min a (min b c) = min b (min a c) := Nat.min_left_comm a b c
theorem min_assoc' (a b c : Nat) : min (min a b) c = min a (min b c) := Nat.min_assoc a b c

/-- `xs.foldl` of a function that is `max` in either operand order -/
theorem foldl_max_swap {α : Type} (l : List α) (g : α → Nat) (a : Nat) :
    l.foldl (fun r x => max (g x) r) a = l.foldl (fun r x => max r (g x)) a := by
  congr 1; funext r x; exact Nat.max_comm _ _

/-! #### Programs that only check: which exception, and whether -/

/-- the computation raises -/
def raises {α : Type} : Py.M α → Bool
  | .ok _ => false
  | .error _ => true
/-- the only exception the computation can raise is `e` -/
def onlyThrows {α : Type} (e : Py.Err) (m : Py.M α) : Prop := ∀ e', m = .error e' → e' = e

theorem eq_of_onlyThrows {e : Py.Err} {m : Py.M Unit} (h : onlyThrows e m) : m = if raises m then .error e else .ok () := by
  cases m with
  | ok u => cases u; rfl
  | error e' => rw [h e' rfl]; rfl

@[simp] theorem raises_ok {α : Type} (a : α) : raises (Except.ok a : Py.M α) = false := rfl
@[simp] theorem raises_pure {α : Type} (a : α) : raises (pure a : Py.M α) = false := rfl
@[simp] theorem raises_error {α : Type} (e : Py.Err) : raises (Except.error e : Py.M α) = true := rfl
@[simp] theorem raises_throw {α : Type} (e : Py.Err) : raises (throw e : Py.M α) = true := rfl
@[simp] theorem raises_ite {α : Type} (c : Prop) [Decidable c] (x y : Py.M α) :
    raises (if c then x else y) = if c then raises x else raises y := by split <;> rfl
@[simp] theorem raises_bind_unit {β : Type} (x : Py.M Unit) (f : Unit → Py.M β) :
    raises (x >>= f) = (raises x || raises (f ())) := by
  cases x with
  | ok u => cases u; rfl
  | error e => rfl
@[simp] theorem raises_forEach_unit {α : Type} (l : List α) (body : Unit → α → Py.M Unit) :
    raises (Py.forEach l () body) = l.any (fun x => raises (body () x)) := by
  induction l with
  | nil => rfl
  | cons a l ih =>
    rw [forEach_cons, List.any_cons]
    cases h : body () a with
    | ok u => cases u; simpa [raises] using ih
    | error e => rfl

@[simp] theorem onlyThrows_ok {α : Type} (e : Py.Err) (a : α) : onlyThrows e (Except.ok a : Py.M α) := by
  intro e' h; cases h
@[simp] theorem onlyThrows_pure {α : Type} (e : Py.Err) (a : α) : onlyThrows e (pure a : Py.M α) := by
  intro e' h; cases h
@[simp] theorem onlyThrows_error {α : Type} (e : Py.Err) : onlyThrows e (Except.error e : Py.M α) := by
  intro e' h; cases h; rfl
@[simp] theorem onlyThrows_throw {α : Type} (e : Py.Err) : onlyThrows e (throw e : Py.M α) := onlyThrows_error e
theorem onlyThrows_ite {α : Type} (e : Py.Err) (c : Prop) [Decidable c] (x y : Py.M α) (hx : onlyThrows e x) (hy : onlyThrows e y) :
    onlyThrows e (if c then x else y) := by split <;> assumption
theorem onlyThrows_bind {α β : Type} (e : Py.Err) (x : Py.M α) (f : α → Py.M β) (hx : onlyThrows e x) (hf : ∀ a, onlyThrows e (f a)) :
    onlyThrows e (x >>= f) := by
  cases x with
  | ok a => exact hf a
  | error e' => intro e'' h; exact hx e'' (by simpa [err_bind] using h)
theorem onlyThrows_forEach {α σ : Type} (e : Py.Err) (l : List α) (s : σ) (body : σ → α → Py.M σ)
    (h : ∀ s x, onlyThrows e (body s x)) : onlyThrows e (Py.forEach l s body) := by
  induction l generalizing s with
  | nil => intro e' h'; cases h'
  | cons a l ih => rw [forEach_cons]; exact onlyThrows_bind e _ _ (h s a) (fun s' => ih s')

/-- structural proof that a checking program raises nothing but `e` -/
macro "only_throws" : tactic =>
  `(tactic| repeat (first
      | exact onlyThrows_ok _ _ | exact onlyThrows_pure _ _ | exact onlyThrows_error _ | exact onlyThrows_throw _
      | (apply onlyThrows_ite) | (apply onlyThrows_forEach; intro _ _) | (apply onlyThrows_bind; on_goal 2 => intro _)
      | (intro _)))

theorem ok_iff_not_raises (m : Py.M Unit) : m = .ok () ↔ raises m = false := by
  cases m with
  | ok u => cases u; simp [raises]
  | error e => simp [raises]

theorem and_any {α : Type} (b : Bool) (l : List α) (f : α → Bool) : (b && l.any f) = l.any (fun x => b && f x) := by
  induction l with
  | nil => simp
  | cons a l ih => simp only [List.any_cons, Bool.and_or_distrib_left, ih]
theorem any_any_congr {α : Type} (l : List α) (f g : α → α → Bool) (h : ∀ a b, f a b = g a b) :
    l.any (fun a => l.any (f a)) = l.any (fun a => l.any (g a)) := by
  congr 1; funext a; congr 1; funext b; exact h a b

/-- side conditions of the PyLib lemmas -/
macro "py_disch" : tactic =>
  `(tactic| first
    | assumption
    | omega
    | (simp only [Bool.or_eq_true, Bool.and_eq_true, Bool.not_eq_true', beq_iff_eq, bne_iff_ne, ne_eq, decide_eq_true_eq,
        decide_eq_false_iff_not]; omega))

attribute [py_norm] ok_bind pure_eq_ok throw_err err_bind bind_pure_unit bind_pure assert_true assert_decide assert_eq_true
  sub_le mod_pos floordiv_pos blsPad_pos isAligned_pos blsUnite_cons index_cons_zero maxOf_cons minOf_cons ceilLog2_pos
  forEach_nil forEach_pure forEach_map Py.blsAdd Py.blsOfInt Py.blsRepeat Py.blsRepeatRange Py.range
  List.singleton_append List.cons_append List.nil_append List.foldl_map List.map_map List.map_id' List.map_cons List.map_nil
  List.length_cons List.length_nil List.length_map List.drop_succ_cons List.drop_zero List.foldl_cons List.foldl_nil
  Function.comp_def Nat.one_shiftLeft foldl_max_swap
  Nat.zero_lt_succ Nat.succ_ne_zero Nat.add_one_ne_zero Nat.lt_add_one_iff Nat.le_add_left Nat.zero_le
  beq_iff_eq bne_iff_ne ne_eq beq_self_eq_true bne_self_eq_false decide_true decide_false decide_eq_true_eq decide_not
  Bool.and_true Bool.true_and Bool.and_false Bool.false_and Bool.or_true Bool.true_or Bool.or_false Bool.false_or
  Bool.not_true Bool.not_false Bool.false_eq_true Bool.and_eq_true Bool.or_eq_true Bool.not_eq_true'
  if_true if_false ite_true ite_false if_pos if_neg List.drop_nil Except.ok.injEq not_true_eq_false not_false_eq_true eq_self_iff_true

/-- normal form of generated code: see the section comment (the fixed rules are the simp set `py_norm`) -/
macro "py_simp" "[" ts:Lean.Parser.Tactic.simpLemma,* "]" : tactic =>
  `(tactic| simp (disch := py_disch) only [py_norm, ↓decide_eq_true_eq, reduceIte, $ts,*])

end Robust

end Bridge
