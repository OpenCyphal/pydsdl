import Lean.Meta.Tactic.Simp.RegisterCommand
/-- the rewrite rules that compute the weakest precondition of the translated `check_name` (`Bridge/Names.lean`) -/
register_simp_attr names_wp
