import Gen.Layout
import Props.C02
import Bridge.Basic
import Bridge.EvalOrder
/-!
  Bridge between the layout code GENERATED from `pydsdl/_serializable/_array.py` and `_composite.py`
  (`Gen/Layout.lean`, rewritten by `tools/py2lean.py` from the working tree of /repo on every run) and the hand-written
  model `Model/Layout.lean`.

  Every generated definition is a whole method or a constructor slice, parameterised by what it reads from `self`; a
  serializable type is the record `TypeI`.  One lemma per definition shows that on constructible types it returns
  normally -- no `if …: raise` guard and no `assert` fires -- with exactly the model's value; `genTy` ties the knot over
  the type tree and `genTy_ok` is the statement for whole types.
-/
set_option linter.unusedSimpArgs false
set_option linter.unusedVariables false
open Bls Layout

namespace Bridge
open Robust
attribute [local congr] bind_congr_head ite_congr_cond

/-- reducible: a comparison under `decide` keeps its `Decidable` instance when `(tyI t).extent` is rewritten to `t.extent` -/
@[reducible] def tyI (t : Ty) : TypeI := ⟨t.align, t.bls, t.extent⟩

theorem tyI_align (t : Ty) : (tyI t).alignment_requirement = t.align := rfl
theorem tyI_bls (t : Ty) : (tyI t).bit_length_set = t.bls := rfl
theorem tyI_extent (t : Ty) : (tyI t).extent = t.extent := rfl

/-! ### Arithmetic of the prefix / tag widths, in either spelling

  `2 ** math.ceil(math.log2(x))` and `1 << (x - 1).bit_length()` are both `nextPow2 x` for `x ≥ 1` (the second identity is
  proved here, not assumed: `two_pow_bitLength_pred`). -/

theorem pow_ceilLog2Aux (x f e p : Nat) (hp : p = 2 ^ e) : 2 ^ Py.ceilLog2Aux x f e p = nextPow2Aux x f p := by
  induction f generalizing e p with
  | zero => simp [Py.ceilLog2Aux, nextPow2Aux, hp]
  | succ f ih =>
    simp only [Py.ceilLog2Aux, nextPow2Aux]
    split
    · exact hp.symm
    · exact ih (e + 1) (2 * p) (by rw [hp, Nat.pow_succ]; omega)

theorem two_pow_ceilLog2 (x : Nat) : 2 ^ Py.ceilLog2Aux x x 0 1 = nextPow2 x := pow_ceilLog2Aux x x 0 1 rfl

theorem ceilLog2_ok (x : Nat) (hx : 1 ≤ x) : ∃ e, Py.ceilLog2 x = .ok e ∧ 2 ^ e = nextPow2 x :=
  ⟨_, ceilLog2_pos hx, two_pow_ceilLog2 x⟩

theorem bitLength_eq (n : Nat) : Py.bitLength n = Layout.bitLength n := rfl

/-- `1 << (x - 1).bit_length()` is the least power of two that is `≥ x`, for every `x ≥ 1` -/
theorem two_pow_bitLength_pred (x : Nat) (hx : 1 ≤ x) : 2 ^ Py.bitLength (x - 1) = nextPow2 x := by
  rw [bitLength_eq]
  refine (nextPow2_eq x _ ?_ ((Nat.eq_zero_or_pos _).imp_right fun hp => ?_)).symm
  · have := (bitLength_le_iff (x - 1) _).mp (Nat.le_refl _)
    omega
  · have : ¬ x - 1 < 2 ^ (Layout.bitLength (x - 1) - 1) := fun h => absurd ((bitLength_le_iff _ _).mpr h) (by omega)
    omega

theorem foldl_max_align (a : Nat) (fs : List Ty) : fs.foldl (fun r x => max r x.align) a = max a (maxAlign fs) := by
  induction fs generalizing a with
  | nil => simp [maxAlign]
  | cons f fs ih => rw [List.foldl_cons, ih, maxAlign, Nat.max_assoc]

/-! ### PyLib operations at an alignment: never zero -/

theorem blsPad_align (a : Op) (t : Ty) : Py.blsPad a t.align = .ok (.pad a t.align) := blsPad_pos a (one_le_align t)
theorem isAligned_align (a : Op) (t : Ty) : Py.blsIsAlignedAt a t.align = .ok (isAlignedAt a t.align) := isAligned_pos a (one_le_align t)
theorem mod_align (a : Nat) (t : Ty) : Py.mod a t.align = .ok (a % t.align) := mod_pos (one_le_align t) a
theorem floordiv_align (a : Nat) (t : Ty) : Py.floordiv a t.align = .ok (a / t.align) := floordiv_pos (one_le_align t) a
theorem blsPad_ok (a : Op) {n : Nat} (hn : 1 ≤ n) : Py.blsPad a n = .ok (.pad a n) := blsPad_pos a hn
theorem isAligned_ok (a : Op) {d : Nat} (hd : 1 ≤ d) : Py.blsIsAlignedAt a d = .ok (isAlignedAt a d) := isAligned_pos a hd

/-- the layout instance of `py_simp`: widths in either spelling, alignments are positive.  (`Py.bitLength` is kept as it is: rewriting it
    under a `decide` would leave the `Decidable` instance behind; the model's `Layout.bitLength` is turned into it instead.) -/
macro "layout_simp" "[" ts:Lean.Parser.Tactic.simpLemma,* "]" : tactic =>
  `(tactic| py_simp [tyI, two_pow_ceilLog2, two_pow_bitLength_pred, foldl_max_align,
      blsPad_align, isAligned_align, mod_align, floordiv_align, $ts,*])

theorem alignment_requirement_ok (fs : List Ty) :
    Gen.CompositeType.alignment_requirement (fs.map tyI) = .ok (max 8 (maxAlign fs)) := by
  unfold Gen.CompositeType.alignment_requirement
  layout_simp []

/-- `_compute_tag_bit_length` returns the model's tag width whenever the union is constructible (≥ 2 variants, tag ≤ 64 bits). -/
theorem compute_tag_ok (fs : List Ty) (h2 : 2 ≤ fs.length) (h64 : tagBits fs ≤ 64) :
    Gen.UnionType.compute_tag_bit_length (fs.map tyI) = .ok (tagBits fs) := by
  have hmem := tagBits_mem fs h64
  simp only [tagBits, stdWidth, ← bitLength_eq, List.mem_cons, List.mem_nil_iff, or_false] at hmem ⊢
  unfold Gen.UnionType.compute_tag_bit_length
  layout_simp []


theorem foldl_aggStruct (fs : List Ty) (acc : Op) :
    fs.foldl (fun acc x => Op.cat [.pad acc x.align, x.bls]) acc = aggStructFrom acc fs := by
  induction fs generalizing acc with
  | nil => simp [aggStructFrom]
  | cons f fs ih => simp only [List.foldl_cons, aggStructFrom]; exact ih _

theorem aggStruct_ok (fs : List Ty) :
    Gen.StructureType.aggregate_bit_length_sets (fs.map tyI) = .ok (aggStruct fs) := by
  unfold Gen.StructureType.aggregate_bit_length_sets
  cases fs with
  | nil => layout_simp [aggStruct]
  | cons f fs => layout_simp [aggStruct, foldl_aggStruct]

theorem struct_bls_ok (fs : List Ty) :
    Gen.StructureType.bls (max 8 (maxAlign fs)) (fs.map tyI) = .ok (Ty.bls (.struct fs)) := by
  unfold Gen.StructureType.bls
  layout_simp [aggStruct_ok, Ty.bls]

theorem blsList_eq' (fs : List Ty) : blsList fs = fs.map (fun x => x.bls) := blsList_eq fs

theorem aggUnion_ok (fs : List Ty) (h2 : 2 ≤ fs.length) (h64 : tagBits fs ≤ 64) :
    Gen.UnionType.aggregate_bit_length_sets (fs.map tyI) = .ok (aggUnion fs) := by
  have ht := compute_tag_ok fs h2 h64
  rw [aggUnion_of_two_le h2]
  obtain ⟨f, g, fs, rfl⟩ := exists_cons_cons h2
  unfold Gen.UnionType.aggregate_bit_length_sets
  simp only [List.map_cons] at ht
  layout_simp [ht, blsList_eq']

theorem union_bls_ok (fs : List Ty) (h2 : 2 ≤ fs.length) (h64 : tagBits fs ≤ 64) :
    Gen.UnionType.bls (max 8 (maxAlign fs)) (fs.map tyI) = .ok (Ty.bls (.union fs)) := by
  unfold Gen.UnionType.bls
  layout_simp [aggUnion_ok fs h2 h64, Ty.bls]

theorem farr_bls_ok (e : Ty) (cap : Nat) (h : (Ty.farr e cap).wf = true) :
    Gen.FixedLengthArrayType.bls (tyI e) cap = .ok (Ty.bls (.farr e cap)) := by
  have ha := C02.constructor_asserts _ h
  simp only [ctorAssertsOk, Ty.bls] at ha
  unfold Gen.FixedLengthArrayType.bls
  layout_simp [ha, Ty.bls]

/-- the two `assert`s of `VariableLengthArrayType.__init__`, as the model's constructor check states them -/
theorem varr_asserts (e : Ty) (cap : Nat) (h : (Ty.varr e cap).wf = true) :
    lenBits e cap % e.align = 0 ∧ isAlignedAt (Ty.bls (.varr e cap)) e.align = true := by
  simpa only [ctorAssertsOk, Bool.and_eq_true, decide_eq_true_eq] using C02.constructor_asserts _ h

theorem varr_bls_ok (e : Ty) (cap : Nat) (h : (Ty.varr e cap).wf = true) :
    Gen.VariableLengthArrayType.bls (tyI e) cap = .ok (Ty.bls (.varr e cap)) := by
  obtain ⟨ha1, ha2⟩ := varr_asserts e cap h
  simp only [Ty.bls, lenBits, stdWidth, ← bitLength_eq] at ha1 ha2 ⊢
  unfold Gen.VariableLengthArrayType.bls
  layout_simp [max_comm' e.align, ha1, ha2]

theorem length_field_ok (e : Ty) (cap : Nat) (h : (Ty.varr e cap).wf = true) :
    Gen.VariableLengthArrayType.length_field_length (tyI e) cap = .ok (lenBits e cap) := by
  obtain ⟨ha1, _⟩ := varr_asserts e cap h
  simp only [lenBits, stdWidth, ← bitLength_eq] at ha1 ⊢
  unfold Gen.VariableLengthArrayType.length_field_length
  layout_simp [max_comm' e.align, ha1]

theorem delim_bls_ok (inner : Ty) (ext : Nat) (h : (Ty.delim inner ext).wf = true) :
    Gen.DelimitedType.bls inner.align (tyI inner) ext = .ok (Ty.bls (.delim inner ext)) := by
  have ha := C02.constructor_asserts _ h
  simp only [ctorAssertsOk, Bool.and_eq_true, decide_eq_true_eq] at ha
  obtain ⟨⟨⟨⟨⟨h8, hal⟩, hext⟩, ha8⟩, haa⟩, hmax⟩ := ha
  have hext' : inner.extent ≤ ext := by
    obtain ⟨_, ⟨fs, rfl⟩ | ⟨fs, rfl⟩, _⟩ := Ty.wf_delim.mp h <;> exact hext
  have hbls : Ty.bls (.delim inner ext) = Op.cat [.leaf [max 32 inner.align], .rrep (.leaf [inner.align]) (ext / inner.align)] := by
    simp only [Ty.bls, hdrBits]
  rw [hbls] at ha8 haa hmax ⊢
  simp only [hdrBits] at hmax
  have hm : (Op.cat [Op.leaf [max 32 inner.align], (Op.leaf [inner.align]).rrep (ext / inner.align)]).max
      = max 32 inner.align + inner.align * (ext / inner.align) := by
    simp [Op.max, sumMax, maxL]
  rw [hm] at hmax
  unfold Gen.DelimitedType.bls
  layout_simp [max_comm' inner.align, ha8, haa, hm]

theorem foldl_structOffsets (fs : List Ty) (cur : Op) (ys : List Op) :
    (fs.foldl (fun (st : Op × List Op) t => (Op.cat [Op.pad st.1 t.align, t.bls], st.2 ++ [Op.pad st.1 t.align])) (cur, ys)).2
      = ys ++ structOffsetsFrom cur fs := by
  induction fs generalizing cur ys with
  | nil => simp [structOffsetsFrom]
  | cons f fs ih =>
    simp only [List.foldl_cons, structOffsetsFrom]
    rw [ih]
    simp

theorem struct_iterate_ok (fs : List Ty) (base : Op) :
    Gen.StructureType.iterate_fields_with_offsets (max 8 (maxAlign fs)) (fs.map tyI) base
      = .ok (fieldOffsets base (.struct fs)) := by
  unfold Gen.StructureType.iterate_fields_with_offsets
  layout_simp [foldl_structOffsets, fieldOffsets]

open scoped Pointwise in
theorem aligned_cat2 (a b : Op) (ha : a.wf = true) (hb : b.wf = true) (d : Nat) (hd : 1 ≤ d)
    (h1 : ∀ x ∈ den a, d ∣ x) (h2 : ∀ x ∈ den b, d ∣ x) : isAlignedAt (.cat [a, b]) d = true := by
  rw [C01.aligned_exact _ (wf_cat2 ha hb) d hd, den_cat2]
  intro x hx
  obtain ⟨y, hy, z, hz, rfl⟩ := Finset.mem_add.mp hx
  exact dvd_add (h1 y hy) (h2 z hz)

theorem dvd_pad (base : Op) (a d : Nat) (hda : d ∣ a) : ∀ x ∈ den (Op.pad base a), d ∣ x := by
  intro x hx
  simp only [den, Finset.mem_image] at hx
  obtain ⟨y, _, rfl⟩ := hx
  exact Dvd.dvd.trans hda (padTo_dvd a y)

theorem foldl_append_const {α β : Type} (l : List α) (o : β) (ys : List β) :
    l.foldl (fun ys _ => ys ++ [o]) ys = ys ++ l.map (fun _ => o) := by
  induction l generalizing ys with
  | nil => simp
  | cons a l ih => simp [ih]

theorem foldl_append_map {α β : Type} (l : List α) (g : α → β) (ys : List β) :
    l.foldl (fun ys x => ys ++ [g x]) ys = ys ++ l.map g := by
  induction l generalizing ys with
  | nil => simp
  | cons a l ih => simp [ih]

theorem union_iterate_ok (fs : List Ty) (base : Op) (hb : base.wf = true) (h64 : tagBits fs ≤ 64) :
    Gen.UnionType.iterate_fields_with_offsets (max 8 (maxAlign fs)) (tagBits fs) (fs.map tyI) base
      = .ok (fieldOffsets base (.union fs)) := by
  have hal : ∀ f : Ty, isAlignedAt (Op.cat [Op.pad base (max 8 (maxAlign fs)), Op.leaf [tagBits fs]]) f.align = true := by
    intro f
    have hfd : f.align ∣ 8 := by rcases align_cases f with h | h <;> simp [h]
    refine aligned_cat2 _ _ (wf_pad hb (by omega)) (wf_leaf1 _) _ (one_le_align f) ?_ ?_
    · exact dvd_pad base _ _ (by rw [comp_align]; exact hfd)
    · intro x hx
      rw [den_leaf1, Finset.mem_singleton] at hx
      exact hx ▸ hfd.trans ((by decide : ∀ w ∈ [8, 16, 32, 64], 8 ∣ w) _ (tagBits_mem fs h64))
  unfold Gen.UnionType.iterate_fields_with_offsets
  layout_simp [hal, foldl_append_const, fieldOffsets]

/-- `DelimitedType.iterate_fields_with_offsets` delegates to the inner type with the header added to the base. -/
theorem delim_iterate_ok (hdr : Op) (inner : Op → Py.M (List Op)) (base : Op) :
    Gen.DelimitedType.iterate_fields_with_offsets hdr inner base = inner (Op.cat [base, hdr]) := by
  unfold Gen.DelimitedType.iterate_fields_with_offsets
  layout_simp []

theorem delim_struct_iterate_ok (fs : List Ty) (ext : Nat) (base : Op) :
    Gen.DelimitedType.iterate_fields_with_offsets (Op.leaf [hdrBits (.struct fs)])
        (Gen.StructureType.iterate_fields_with_offsets (max 8 (maxAlign fs)) (fs.map tyI)) base
      = .ok (fieldOffsets base (.delim (.struct fs) ext)) := by
  rw [delim_iterate_ok, struct_iterate_ok]
  simp only [fieldOffsets]

theorem delim_union_iterate_ok (fs : List Ty) (ext : Nat) (base : Op) (hb : base.wf = true) (h64 : tagBits fs ≤ 64) :
    Gen.DelimitedType.iterate_fields_with_offsets (Op.leaf [hdrBits (.union fs)])
        (Gen.UnionType.iterate_fields_with_offsets (max 8 (maxAlign fs)) (tagBits fs) (fs.map tyI)) base
      = .ok (fieldOffsets base (.delim (.union fs) ext)) := by
  rw [delim_iterate_ok, union_iterate_ok _ _ (by simp [Op.wf, wfs, hb]) h64]
  simp only [fieldOffsets]

open scoped Pointwise in
theorem elements_ok (e : Ty) (cap : Nat) (base : Op) (he : e.wf = true) (hb : base.wf = true) :
    Gen.FixedLengthArrayType.enumerate_elements_with_offsets (tyI e) cap base = .ok (elementOffsets base e cap) := by
  have hal : ∀ i : Nat, isAlignedAt (Op.cat [Op.pad base e.align, Op.rep e.bls i]) e.align = true := by
    intro i
    apply aligned_cat2 _ _ (by simp [Op.wf, hb, one_le_align e]) (by simp [Op.wf, bls_wf e he]) _ (one_le_align e)
    · exact dvd_pad base _ _ (dvd_refl _)
    · intro x hx
      simp only [den] at hx
      exact dvd_of_mem_nsmul _ _ _ (fun y hy => align_dvd_len e he y (by rw [← den_bls e he]; exact hy)) x hx
  unfold Gen.FixedLengthArrayType.enumerate_elements_with_offsets
  layout_simp [hal, foldl_append_map, elementOffsets]

/-! ### The knot: the object graph of a type, built with the generated constructors -/

mutual
/-- What the constructors of `_serializable` compute for a type tree (alignment, bit length set, extent), using the
    generated slices for every array / composite node.  Primitive and void types are `BitLengthSet(bit_length)`, alignment 1. -/
def genTy : Ty → Py.M TypeI
  | .prim n => pure ⟨1, .leaf [n], n⟩
  | .void n => pure ⟨1, .leaf [n], n⟩
  | .farr e cap => do
      let ei ← genTy e
      let b ← Gen.FixedLengthArrayType.bls ei cap
      pure ⟨ei.alignment_requirement, b, b.max⟩
  | .varr e cap => do
      let ei ← genTy e
      let b ← Gen.VariableLengthArrayType.bls ei cap
      pure ⟨ei.alignment_requirement, b, b.max⟩
  | .struct fs => do
      let fi ← genTys fs
      let a ← Gen.CompositeType.alignment_requirement fi
      let b ← Gen.StructureType.bls a fi
      pure ⟨a, b, b.max⟩
  | .union fs => do
      let fi ← genTys fs
      let a ← Gen.CompositeType.alignment_requirement fi
      let b ← Gen.UnionType.bls a fi
      pure ⟨a, b, b.max⟩
  | .delim inner ext => do
      let ii ← genTy inner
      let b ← Gen.DelimitedType.bls ii.alignment_requirement ii ext
      pure ⟨ii.alignment_requirement, b, ext⟩
def genTys : List Ty → Py.M (List TypeI)
  | [] => pure []
  | f :: fs => do
      let fi ← genTy f
      let rest ← genTys fs
      pure (fi :: rest)
end

theorem extent_sealed (t : Ty) (h : ∀ i e, t ≠ .delim i e) : t.extent = t.bls.max := by
  cases t <;> simp_all [Ty.extent]

theorem genTys_ok (fs : List Ty) (h : ∀ f ∈ fs, genTy f = .ok (tyI f)) : genTys fs = .ok (fs.map tyI) := by
  induction fs with
  | nil => rfl
  | cons f fs ih =>
    simp only [genTys, h f (by simp), ok_bind, ih (fun g hg => h g (by simp [hg])), pure_eq_ok, List.map_cons]

/-- For every constructible type, building it with the generated constructor slices succeeds (no guard, no assert fires)
    and yields the model's alignment, bit length set expression and extent. -/
theorem genTy_ok : ∀ t : Ty, t.wf = true → genTy t = .ok (tyI t) :=
  Ty.wf_induct
    (prim := fun n => by simp only [genTy, pure_eq_ok, tyI, Ty.align, Ty.bls, Ty.extent, Op.max, maxL, List.foldl_nil])
    (void := fun n => by simp only [genTy, pure_eq_ok, tyI, Ty.align, Ty.bls, Ty.extent, Op.max, maxL, List.foldl_nil])
    (farr := fun e cap he hc ih => by
      simp only [genTy, ih, ok_bind, farr_bls_ok e cap (Ty.wf_farr.mpr ⟨he, hc⟩), pure_eq_ok, tyI_align]
      simp only [tyI, Ty.align, extent_sealed (.farr e cap) (by intros; simp)])
    (varr := fun e cap he hc hl ih => by
      simp only [genTy, ih, ok_bind, varr_bls_ok e cap (Ty.wf_varr.mpr ⟨he, hc, hl⟩), pure_eq_ok, tyI_align]
      simp only [tyI, Ty.align, extent_sealed (.varr e cap) (by intros; simp)])
    (struct := fun fs _ ih => by
      simp only [genTy, genTys_ok fs ih, ok_bind, alignment_requirement_ok, struct_bls_ok, pure_eq_ok]
      simp only [tyI, Ty.align, extent_sealed (.struct fs) (by intros; simp)])
    (union := fun fs _ h2 h64 ih => by
      simp only [genTy, genTys_ok fs ih, ok_bind, alignment_requirement_ok, union_bls_ok fs h2 h64, pure_eq_ok]
      simp only [tyI, Ty.align, extent_sealed (.union fs) (by intros; simp)])
    (delim := fun inner ext h _ ih => by
      simp only [genTy, ih, ok_bind, tyI_align, delim_bls_ok inner ext h, pure_eq_ok]
      simp only [tyI, Ty.align, Ty.extent])

end Bridge
