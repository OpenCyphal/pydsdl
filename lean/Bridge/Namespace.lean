import Gen.Namespace
import Model.Namespace
import Bridge.Basic
/-!
  Bridge between the cross-definition checks GENERATED from `pydsdl/_namespace.py` (`Gen/Namespace.lean`, rewritten from
  the working tree of /repo on every run) and the model `Model/Namespace.lean`:
  `_ensure_no_fixed_port_id_collisions` and `_ensure_minor_version_compatibility_pairwise` (the latter translated twice, for
  composites and for the request / response sections it recurses into).  The grouping by name and major version in
  `_ensure_minor_version_compatibility` (a `defaultdict` loop) is hand-modelled (`checkMinorVersions`).
  Exception classes are compared, not just accept / reject (`errOf`).
-/
set_option linter.unusedSimpArgs false
open Ns

namespace Bridge
open Robust

def secI (t : TyInfo) (s : SecInfo) : SecI := ⟨t.name, t.major, t.minor, false, none, s.extent, !s.sealed⟩
def compI (t : TyInfo) : CompI :=
  ⟨t.name, t.major, t.minor, t.isService, t.fpid.isSome, t.fpid, t.req.extent, !t.req.sealed, secI t t.req, secI t t.resp⟩

def errOf : Err → Py.Err
  | .minorKind => .other "VersionsOfDifferentKindError"
  | .minorPortId => .other "MinorVersionFixedPortIDError"
  | .minorExtent => .other "ExtentConsistencyError"
  | .minorSealing => .other "SealingConsistencyError"
  | .portCollision => .other "FixedPortIDCollisionError"
  | .assertion => .assertion
  | _ => .other "?"

def lift : Except Err Unit → Py.M Unit
  | .ok () => .ok ()
  | .error e => .error (errOf e)

def genPair (a b : CompI) : Py.M Unit :=
  Gen.Namespace.pairwise (Gen.Namespace.pairwise_section (fun _ _ => throw (.other "unreachable"))) a b

@[simp] theorem throw_eq {α : Type} (e : Py.Err) : (throw e : Py.M α) = Except.error e := rfl
@[simp] theorem error_bind {α β : Type} (e : Py.Err) (f : α → Py.M β) : (Except.error e >>= f) = Except.error e := rfl

theorem assert_false : Py.assert false = .error .assertion := rfl

/-! ### The pairwise minor-version check

  The generated program and the lifted model are decision trees over the same atoms (kind, presence and value of the port-IDs, order
  of the minor versions, major version zero or not, extents, sealing).  `simp only` does the plumbing: the assertions pass, the join
  points of the `do` block are inlined, `throw e >>= k` is cut to `error e`, `lift` is pushed to the leaves of the model's `if`s.  What is
  left is an equation between two nests of `if`s, which `grind` decides by cases on the conditions.  Nothing depends on how the generated
  `if`s are nested, which branch is the `else`, or how a comparison is spelled. -/

theorem lift_ite (c : Prop) [Decidable c] (x y : Except Err Unit) : lift (if c then x else y) = if c then lift x else lift y := by
  split <;> rfl
theorem lift_ok : lift (.ok ()) = .ok () := rfl
theorem lift_error (e : Err) : lift (.error e) = .error (errOf e) := rfl
theorem lift_bind_ok (x : Except Err Unit) (y : Py.M Unit) :
    (lift x >>= fun _ => y) = match x with | .ok () => y | .error e => .error (errOf e) := by
  cases x with
  | ok u => cases u; rfl
  | error e => rfl

/-- for services the model checks the request sections, then the response sections -/
theorem lift_minorSecs (a b : TyInfo) :
    lift (minorSecs a b) =
      if a.isService && b.isService then lift (secPair a.major a.req b.req) >>= fun _ => lift (secPair a.major a.resp b.resp)
      else lift (secPair a.major a.req b.req) := by
  unfold minorSecs
  split
  · cases secPair a.major a.req b.req with
    | ok u => cases u; rfl
    | error e => rfl
  · rfl

theorem section_ok (a b : TyInfo) (sa sb : SecInfo) (hn : a.name = b.name) (hm : a.major = b.major) (hmin : a.minor ≠ b.minor) :
    Gen.Namespace.pairwise_section (fun _ _ => throw (.other "unreachable")) (secI a sa) (secI b sb)
      = lift (secPair a.major sa sb) := by
  have hne : (a.minor != b.minor) = true := bne_iff_ne.mpr hmin
  unfold Gen.Namespace.pairwise_section secPair
  simp only [secI, hn, hm, hne, beq_self_eq_true, assert_true, ok_bind, throw_err, err_bind, pure_eq_ok, lift_ite, lift_ok, lift_error,
    errOf]
  grind

/-- `_ensure_minor_version_compatibility_pairwise` as generated (two levels: a service recurses once into its request and
    response sections) computes the model's `minorPair`, error class by error class. -/
theorem pair_ok (a b : TyInfo) (hn : a.name = b.name) (hm : a.major = b.major) :
    genPair (compI a) (compI b) = lift (minorPair a b) := by
  unfold genPair Gen.Namespace.pairwise minorPair
  by_cases hmin : a.minor = b.minor
  · simp only [compI, hn, hm, hmin, beq_self_eq_true, assert_true, ok_bind, bne_self_eq_false, assert_false, err_bind, if_true,
      lift_error, errOf]
  have hne : (a.minor != b.minor) = true := bne_iff_ne.mpr hmin
  have hsec := fun sa sb => section_ok a b sa sb hn hm hmin
  simp only [secI, hn, hm, throw_err] at hsec
  simp only [compI, secI, minorPidBad, secPair, hsec, hn, hm, hne, beq_self_eq_true, assert_true, ok_bind, throw_err, err_bind,
    pure_eq_ok, bind_pure_unit, lift_ite, lift_ok, lift_error, lift_minorSecs, errOf,
    apply_ite CompI.has_fixed_port_id, apply_ite TyInfo.fpid, apply_ite Option.isSome]
  grind

/-! ### The port-ID collision check

  The generated function is a pair of nested loops that only check.  Whatever its shape (a boolean expression, nested `if`s, a chain of
  early `continue`s, a pre-filtered candidate list), it raises nothing but `FixedPortIDCollisionError` (`only_throws`, structural), and
  whether it raises is a boolean formula over the pairs (`raises_forEach_unit`, `raises_ite`, …: computed by `simp`), which is compared with
  the model's `portPairBad` pair by pair: by cases on the presence of the two port-IDs, then propositional reasoning and linear
  arithmetic on the major versions (`grind`). -/

theorem collisions_ok (ts : List TyInfo) :
    Gen.Namespace.ensure_no_fixed_port_id_collisions (ts.map compI) = lift (checkPortIdCollisions ts) := by
  have hE : onlyThrows (.other "FixedPortIDCollisionError") (Gen.Namespace.ensure_no_fixed_port_id_collisions (ts.map compI)) := by
    unfold Gen.Namespace.ensure_no_fixed_port_id_collisions
    only_throws
  have hR : raises (Gen.Namespace.ensure_no_fixed_port_id_collisions (ts.map compI))
      = ts.any (fun a => ts.any (fun b => portPairBad a b)) := by
    unfold Gen.Namespace.ensure_no_fixed_port_id_collisions
    simp only [↓raises_ite, ↓decide_eq_true_eq, raises_bind_unit, raises_forEach_unit, raises_ok, raises_pure, raises_throw, raises_error,
      pure_eq_ok, throw_err, Bool.or_false, Bool.false_or, List.any_map, List.any_filter, Function.comp_def, and_any, List.filter_map]
    apply any_any_congr
    intro a b
    obtain ⟨an, aM, am, af, asv, ar, ars, ap, aroot⟩ := a
    obtain ⟨bn, bM, bm, bf, bsv, br, brs, bp, broot⟩ := b
    simp only [compI, portPairBad]
    cases af <;> cases bf <;> grind
  rw [eq_of_onlyThrows hE, hR]
  unfold checkPortIdCollisions
  by_cases h : (ts.any fun a => ts.any fun b => portPairBad a b) = true <;> simp [h, lift, errOf]

end Bridge
