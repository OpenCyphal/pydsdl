import Mathlib.Tactic.Attr.Register
/-- the normal forms `gen_simp` (Bridge/Symbolic.lean) rewrites generated code with -/
register_simp_attr gen_norm
