import Bridge.ExprOps.Prim
/-!
  Bridge for the operator semantics, part 2: sets (the late-bound environment, elements, `Set.__init__`, `Set._elementwise`) and
  what the bridge theorems state (`Abs`, `Agree`).
-/
set_option linter.unusedSimpArgs false
set_option linter.unusedTactic false
set_option linter.unreachableTactic false
set_option linter.unusedVariables false
namespace BridgeEx
open Py Ex PyEx Bridge

section sets
variable (nfc : List Nat → List Nat) (n : Nat)

local notation "env1" => Gen.Ex.env nfc (n + 1)

local notation "SN" => (StrNorm.mk nfc)
local notation "normS" => @normSc (StrNorm.mk nfc)

/-! ## The late-bound environment -/

theorem env_nfc (k : Nat) : (Gen.Ex.env nfc k).nfc = nfc := by cases k <;> rfl

/-- the global of `_operator.py` that is the function of a binary operator (`_container.py` looks it up in the module when an
    element-wise method runs) -/
def globName : BinOp → String
  | .lor => "_operator.logical_or"
  | .land => "_operator.logical_and"
  | .eq => "_operator.equal"
  | .ne => "_operator.not_equal"
  | .le => "_operator.less_or_equal"
  | .ge => "_operator.greater_or_equal"
  | .lt => "_operator.less"
  | .gt => "_operator.greater"
  | .bor => "_operator.bitwise_or"
  | .bxor => "_operator.bitwise_xor"
  | .band => "_operator.bitwise_and"
  | .add => "_operator.add"
  | .sub => "_operator.subtract"
  | .mul => "_operator.multiply"
  | .div => "_operator.divide"
  | .mod => "_operator.modulo"
  | .pow => "_operator.power"

/-- late binding spends one unit of the call budget -/
theorem glob_genBin (op : BinOp) : (env1).glob (globName op) = genBin op (Gen.Ex.env nfc n) := by
  cases op <;> simp only [globName, Gen.Ex.env, String.reduceEq, ↓reduceIte, genBin]

/-! ## Elements of sets: `__hash__` and `__eq__` of the primitives identify a string by its normal form -/

theorem hash_rat (p : Int) (d : Nat) : Py.hash env1 (R' p d) = .ok (if d = 1 then .int p else .frac p d) := rfl
theorem hash_bool (b : Bool) : Py.hash env1 (embS (.bool b)) = .ok (.int (if b then 1 else 0)) := rfl
theorem hash_str (cs : List Nat) : Py.hash env1 (embS (.str cs)) = .ok (.str (nfc cs)) := by cases n <;> rfl

theorem eqElem_rat (p q : Int) (d e : Nat) : Py.eqElem env1 (R' p d) (R' q e) = .ok (.bool (p == q && d == e)) := rfl
theorem eqElem_bool (a b : Bool) : Py.eqElem env1 (embS (.bool a)) (embS (.bool b)) = .ok (.bool (a == b)) := by
  cases a <;> cases b <;> rfl
theorem eqElem_str (a b : List Nat) : Py.eqElem env1 (embS (.str a)) (embS (.str b)) = .ok (.bool (nfc a == nfc b)) := by
  cases n <;> rfl

theorem beq_int (a b : Int) : ((Obj.int a) == (Obj.int b)) = (a == b) := rfl
theorem beq_str (a b : List Nat) : ((Obj.str a) == (Obj.str b)) = (a == b) := rfl
theorem beq_frac (a b : Int) (c d : Nat) : ((Obj.frac a c) == (Obj.frac b d)) = (a == b && c == d) := rfl
theorem beq_int_frac (a b : Int) (d : Nat) : ((Obj.int a) == (Obj.frac b d)) = false := rfl
theorem beq_frac_int (a b : Int) (d : Nat) : ((Obj.frac b d) == (Obj.int a)) = false := rfl
theorem beq_int_str (a : Int) (b : List Nat) : ((Obj.int a) == (Obj.str b)) = false := rfl
theorem beq_str_int (a : Int) (b : List Nat) : ((Obj.str b) == (Obj.int a)) = false := rfl
theorem beq_frac_str (a : Int) (d : Nat) (b : List Nat) : ((Obj.frac a d) == (Obj.str b)) = false := rfl
theorem beq_str_frac (a : Int) (d : Nat) (b : List Nat) : ((Obj.str b) == (Obj.frac a d)) = false := rfl

theorem key_self (p : Int) (d : Nat) :
    ((if d = 1 then Obj.int p else Obj.frac p d) == (if d = 1 then Obj.int p else Obj.frac p d)) = true := by
  split <;> simp [beq_int, beq_frac]

theorem hash_embS (x : Scalar) : ∃ h, Py.hash env1 (embS x) = .ok h := by
  cases x
  · exact ⟨_, hash_rat nfc n _ _⟩
  · exact ⟨_, hash_bool nfc n _⟩
  · exact ⟨_, hash_str nfc n _⟩

/-- primitives of different classes may share a hash (`1` and `true`), but `==` tells them apart -/
theorem eqElem_kinds (x y : Scalar) (h : x.kind ≠ y.kind) : Py.eqElem env1 (embS x) (embS y) = .ok (.bool false) := by
  cases x <;> cases y <;> first | exact absurd rfl h | rfl

/-- two primitives are one element of a set exactly when they are equal up to the normal form of strings -/
theorem sameSpec_embS : SameSpec env1 embS normS := by
  intro x y
  unfold Py.sameElem
  by_cases hk : x.kind = y.kind
  · cases x <;> cases y <;> first | exact Kind.noConfusion hk | skip
    case rat.rat p q =>
      rw [embS_rat, embS_rat, hash_rat, hash_rat]
      simp only [ok_bind, eqElem_rat, truthy_bool, normSc, pure_eq_ok]
      by_cases h : p = q
      · subst h; simp [key_self]
      · have h' : ¬ (Scalar.rat p = Scalar.rat q) := fun e => h (by injection e)
        have h2 : (p.num == q.num && p.den == q.den) = false := by
          rw [cmp_eq]; simpa using h
        simp only [h2, h', decide_false, ite_self]
    case bool.bool a b =>
      rw [hash_bool, hash_bool]
      simp only [ok_bind, eqElem_bool, truthy_bool, normSc]
      cases a <;> cases b <;> rfl
    case str.str as bs =>
      rw [hash_str, hash_str]
      simp only [ok_bind, eqElem_str, truthy_bool, beq_str, pure_eq_ok]
      have : (normS (.str as) = normS (.str bs)) ↔ nfc as = nfc bs :=
        ⟨fun e => by injection e, fun e => congrArg Scalar.str e⟩
      by_cases h : nfc as = nfc bs <;> simp [h, this]
  · obtain ⟨hx, ex⟩ := hash_embS nfc n x
    obtain ⟨hy, ey⟩ := hash_embS nfc n y
    have hn : ¬ (normS x = normS y) := fun e => hk (by rw [← @normSc_kind SN x, e, @normSc_kind SN y])
    simp only [ex, ey, ok_bind, eqElem_kinds nfc n x y hk, truthy_bool, pure_eq_ok, ite_self, hn, decide_false]

/-! ## `Set.__init__` -/

theorem ev_list_list (env : Py.Env) (xs : List Obj) : Py.list_ env (.list xs) = .ok (.list xs) := rfl
theorem ev_list_fset (env : Py.Env) (xs : List Obj) : Py.list_ env (.fset xs) = .ok (.list xs) := rfl
theorem ev_len_list (env : Py.Env) (xs : List Obj) : Py.len env (.list xs) = .ok (.int xs.length) := rfl
theorem ev_len_fset (env : Py.Env) (xs : List Obj) : Py.len env (.fset xs) = .ok (.int xs.length) := rfl
theorem ev_lt_int (env : Py.Env) (a b : Int) :
    Py.op_lt env (.int a) (.int b) = .ok (.bool (decide (a * ((1 : Nat) : Int) < b * ((1 : Nat) : Int)))) := rfl
theorem ev_ne_int (env : Py.Env) (a b : Int) : Py.ne env (.int a) (.int b) = .ok (.bool (!(a == b && (1 : Nat) == 1))) := rfl
theorem ev_setattr_nil (env : Py.Env) (c : Cls) (k : String) (v : Obj) : Py.setattr env (.inst c []) k v = .ok (.inst c [(k, v)]) := rfl
theorem ev_setattr_value (env : Py.Env) (c : Cls) (t v : Obj) :
    Py.setattr env (.inst c [("_element_type", t)]) "_value" v = .ok (.inst c [("_element_type", t), ("_value", v)]) := by
  simp only [Py.setattr, Py.insertAttr, String.reduceEq, String.reduceLT, ↓reduceIte, pure_eq_ok]
theorem ev_getattr_et (env : Py.Env) (c : Cls) (t v : Obj) :
    Py.getattr env (.inst c [("_element_type", t), ("_value", v)]) "_element_type" = .ok t := by
  simp only [Py.getattr, Py.lookupAttr, ↓reduceIte, pure_eq_ok]
theorem ev_getattr_value (env : Py.Env) (c : Cls) (t v : Obj) :
    Py.getattr env (.inst c [("_element_type", t), ("_value", v)]) "_value" = .ok v := by
  simp only [Py.getattr, Py.lookupAttr, String.reduceEq, ↓reduceIte, pure_eq_ok]
theorem ev_getitem_zero (env : Py.Env) (x : Obj) (xs : List Obj) : Py.getitem env (.list (x :: xs)) (.int 0) = .ok x := rfl
theorem ev_iter_list (env : Py.Env) (xs : List Obj) : Py.iterToList env (.list xs) = .ok xs := rfl
theorem ev_iter_fset (env : Py.Env) (xs : List Obj) : Py.iterToList env (.fset xs) = .ok xs := rfl
theorem ev_issubclass_any (env : Py.Env) (x : Scalar) :
    Py.issubclass Gen.Ex.mro env (.cls (kindCls x)) (.cls .Any) = .ok (.bool true) := by cases x <;> rfl

def clsObj (s : Scalar) : Obj := .cls (kindCls s)

theorem ev_map_type (env : Py.Env) (l : List Scalar) :
    Py.map_ env (Py.type_ env) (.list (l.map embS)) = .ok (.list (l.map clsObj)) := by
  unfold Py.map_
  rw [ev_iter_list]
  simp only [ok_bind]
  rw [mapM_ok (l.map embS) (Py.type_ env) (fun o => .cls (classOf o)) (fun _ _ => rfl)]
  simp only [ok_bind, pure_eq_ok, List.map_map]
  congr 2
  apply List.map_congr_left
  intro x _
  cases x <;> rfl

theorem sameSpec_cls (env : Py.Env) : SameSpec env clsObj kindCls := fun x y => sameElem_cls env _ _

theorem ev_frozenset_cls (env : Py.Env) (l : List Scalar) :
    Py.frozenset env (.list (l.map clsObj)) = .ok (.fset ((dedupK kindCls l).map clsObj)) := by
  unfold Py.frozenset
  rw [ev_iter_list]
  simp only [ok_bind, fsOfList_ok (sameSpec_cls env) l, pure_eq_ok]

theorem ev_frozenset_embS (l : List Scalar) :
    Py.frozenset env1 (.list (l.map embS)) = .ok (.fset ((dedupK normS l).map embS)) := by
  unfold Py.frozenset
  rw [ev_iter_list]
  simp only [ok_bind, fsOfList_ok (sameSpec_embS nfc n) l, pure_eq_ok]

theorem kindCls_eq_iff (x y : Scalar) : kindCls x = kindCls y ↔ x.kind = y.kind := by
  cases x <;> cases y <;> simp [kindCls, Scalar.kind]

theorem headCls_of (l : List Scalar) (hl : l ≠ []) (c : Cls) (hc : ∀ x ∈ l, kindCls x = c) : headCls l = .cls c := by
  cases l with
  | nil => exact absurd rfl hl
  | cons x xs => simp [headCls, hc x (by simp)]

open Lean Elab Tactic Meta in
/-- unfolds (one level, a few rounds) every generated method of `Set` that occurs in the goal: helper methods that a
    refactoring introduces are found through the goal, they need not be known by name -/
elab "unfold_set_methods" : tactic => withMainContext do
  for _ in [0:3] do
    let g ← getMainGoal
    let t ← instantiateMVars (← g.getType)
    let names := t.getUsedConstants.toList.filter fun nm => (`Gen.Ex.Set).isPrefixOf nm
    if names.isEmpty then break
    for nm in names do
      evalTactic (← `(tactic| try unfold $(mkIdent nm)))

/-! ### evaluation of PyLib primitives on lists of embedded primitives, and loops over them

  The proofs about `Set.__init__` do not follow the shape of the generated term: the term is rewritten with these facts into a
  normal form in which the emptiness test is a constant and the homogeneity test is `!sameKinds l`, whichever idiom the source uses
  (`len(xs) < 1` / `not xs`; `len(set(map(type, xs))) != 1` / `any(type(x) is not t for x in rest)` / …). -/

theorem ev_truthy_list (env : Py.Env) (xs : List Obj) : Py.truthy env (.list xs) = .ok (!xs.isEmpty) := rfl
theorem ev_not_list (env : Py.Env) (xs : List Obj) : Py.not_ env (.list xs) = .ok (.bool (!(!xs.isEmpty))) := rfl
theorem isEmpty_map_cons (x : Scalar) (xs : List Scalar) : (List.map embS (x :: xs)).isEmpty = false := rfl
theorem ev_type_embS (env : Py.Env) (y : Scalar) : Py.type_ env (embS y) = .ok (.cls (kindCls y)) := by cases y <;> rfl

theorem ev_unpack_head (env : Py.Env) (x : Scalar) (xs : List Scalar) :
    Py.unpack env (.list (List.map embS (x :: xs))) 1 true 0 = .ok [embS x, .list (xs.map embS)] := by
  simp [Py.unpack, Py.iterToList, Py.iterNative, pure_eq_ok]
theorem ev_nth_zero (a b : Obj) : Py.nth [a, b] 0 = a := rfl
theorem ev_nth_one (a b : Obj) : Py.nth [a, b] 1 = b := rfl
theorem ev_getitem_head (env : Py.Env) (x : Scalar) (xs : List Scalar) :
    Py.getitem env (.list (List.map embS (x :: xs))) (.int 0) = .ok (embS x) := rfl

/-- `any(…)` / `all(…)` over embedded primitives, with the loop body as a function of the primitive -/
def anyS (env : Py.Env) (f : Scalar → E Obj) : List Scalar → E Obj
  | [] => pure (.bool false)
  | y :: ys => do
    let v ← f y
    if ← Py.truthy env v then pure (.bool true) else anyS env f ys

def allS (env : Py.Env) (f : Scalar → E Obj) : List Scalar → E Obj
  | [] => pure (.bool true)
  | y :: ys => do
    let v ← f y
    if ← Py.truthy env v then allS env f ys else pure (.bool false)

theorem anyL_map_embS (env : Py.Env) (f : Obj → E Obj) (ys : List Scalar) :
    Py.anyL env f (ys.map embS) = anyS env (fun y => f (embS y)) ys := by
  induction ys with
  | nil => rfl
  | cons y ys ih => simp only [List.map_cons, Py.anyL, anyS, ih]

theorem allL_map_embS (env : Py.Env) (f : Obj → E Obj) (ys : List Scalar) :
    Py.allL env f (ys.map embS) = allS env (fun y => f (embS y)) ys := by
  induction ys with
  | nil => rfl
  | cons y ys ih => simp only [List.map_cons, Py.allL, allS, ih]

theorem ev_anyM_list (env : Py.Env) (f : Obj → E Obj) (l : List Obj) : Py.anyM env f (.list l) = Py.anyL env f l := rfl
theorem ev_allM_list (env : Py.Env) (f : Obj → E Obj) (l : List Obj) : Py.allM env f (.list l) = Py.allL env f l := rfl

theorem anyS_pure (env : Py.Env) (p : Scalar → Bool) (ys : List Scalar) :
    anyS env (fun y => .ok (.bool (p y))) ys = .ok (.bool (ys.any p)) := by
  induction ys with
  | nil => rfl
  | cons y ys ih =>
    simp only [anyS, ok_bind, truthy_bool, ih, List.any_cons]
    cases p y <;> rfl

theorem allS_pure (env : Py.Env) (p : Scalar → Bool) (ys : List Scalar) :
    allS env (fun y => .ok (.bool (p y))) ys = .ok (.bool (ys.all p)) := by
  induction ys with
  | nil => rfl
  | cons y ys ih =>
    simp only [allS, ok_bind, truthy_bool, ih, List.all_cons]
    cases p y <;> rfl

/-! ### the idioms of the two tests of `Set.__init__`, in normal form -/

theorem idiom_len_lt_one (k : Nat) : decide (((k + 1 : Nat) : Int) * ((1 : Nat) : Int) < 1 * ((1 : Nat) : Int)) = false := by
  rw [decide_eq_false_iff_not]; omega

theorem kindCls_beq (y x : Scalar) : (kindCls y == kindCls x) = (y.kind == x.kind) := by
  cases y <;> cases x <;> rfl

/-- `any(type(y) is not type(x) for y in rest)` and `not all(type(y) is type(x) …)` -/
theorem hetero_any (x : Scalar) (xs : List Scalar) :
    (xs.any fun y => !(kindCls y == kindCls x)) = !sameKinds (x :: xs) := by
  show _ = !(xs.all fun y => y.kind == x.kind)
  rw [List.all_eq_not_any_not, Bool.not_not]
  congr 1; funext y; rw [kindCls_beq]

theorem hetero_all (x : Scalar) (xs : List Scalar) :
    (xs.all fun y => kindCls y == kindCls x) = sameKinds (x :: xs) := by
  show _ = (xs.all fun y => y.kind == x.kind)
  congr 1; funext y; rw [kindCls_beq]

/-- `len(set(map(type, xs))) != 1` -/
theorem hetero_dedup (x : Scalar) (xs : List Scalar) :
    (!(((dedupK kindCls (x :: xs)).length : Int) == 1 && ((1 : Nat) == 1))) = !sameKinds (x :: xs) := by
  have hne : x :: xs ≠ [] := by simp
  by_cases hk : sameKinds (x :: xs) = true
  · have hall := (sameKinds_iff (x :: xs)).mp hk
    have hc : ∀ y ∈ x :: xs, kindCls y = kindCls x := fun y hy => (kindCls_eq_iff _ _).mpr (hall y hy x (by simp))
    obtain ⟨z, hz, _⟩ := dedupK_const kindCls (x :: xs) hne (kindCls x) hc
    rw [hz, hk]; rfl
  · have hlen2 : (dedupK kindCls (x :: xs)).length ≠ 1 := by
      intro h1
      apply hk
      rw [sameKinds_iff]
      intro a ha b hb
      exact (kindCls_eq_iff _ _).mp (dedupK_length_one kindCls (x :: xs) h1 a ha b hb)
    have h1 : ¬ (((dedupK kindCls (x :: xs)).length : Int) = 1) := by omega
    have hk' : sameKinds (x :: xs) = false := by simpa using hk
    rw [hk']; simp [h1]

/-- the element type, when it is taken from the set of the classes of a homogeneous list -/
theorem dedup_cls_of_same (x : Scalar) (xs : List Scalar) (hk : sameKinds (x :: xs) = true) :
    (dedupK kindCls (x :: xs)).map clsObj = [.cls (kindCls x)] := by
  have hall := (sameKinds_iff (x :: xs)).mp hk
  have hc : ∀ y ∈ x :: xs, kindCls y = kindCls x := fun y hy => (kindCls_eq_iff _ _).mpr (hall y hy x (by simp))
  obtain ⟨z, hz, hzl⟩ := dedupK_const kindCls (x :: xs) (by simp) (kindCls x) hc
  rw [hz]; simp [clsObj, hc z hzl]

/-- `Set(elements)` on a list of primitives: empty and heterogeneous lists are rejected, otherwise the instance holds the
    elements without duplicates (strings identified by their normal form) -/
theorem gen_set_new (l : List Scalar) :
    Gen.Ex.Set.__new__ env1 (.list (l.map embS)) =
      if l = [] then .error .InvalidOperandError
      else if sameKinds l then .ok (setObj (dedupK normS l)) else .error .InvalidOperandError := by
  cases l with
  | nil => rfl
  | cons x xs =>
    have hne : x :: xs ≠ [] := by simp
    simp only [hne, ↓reduceIte]
    unfold Gen.Ex.Set.__new__ Gen.Ex.Set.__init__
    unfold_set_methods
    -- both tests in normal form
    simp only [ev_list_list, ok_bind, truthy_bool, ev_truthy_list, ev_not_list, isEmpty_map_cons, ev_not_bool,
      ev_len_list, ev_lt_int, List.length_map, List.length_cons, idiom_len_lt_one,
      ev_map_type, ev_frozenset_cls, ev_len_fset, ev_ne_int, ev_eq_cls, hetero_dedup,
      ev_unpack_head, ev_nth_zero, ev_nth_one, ev_getitem_head, ev_type_embS, ev_anyM_list, ev_allM_list, anyL_map_embS, allL_map_embS,
      ev_is_cls, ev_is_not_cls, ev_ne_cls, anyS_pure, allS_pure, hetero_any, hetero_all,
      Bool.not_true, Bool.not_false, Bool.not_not, Bool.false_eq_true, ↓reduceIte]
    by_cases hk : sameKinds (x :: xs) = true
    · have hc : ∀ y ∈ x :: xs, kindCls y = kindCls x := fun y hy =>
        (kindCls_eq_iff _ _).mpr ((sameKinds_iff (x :: xs)).mp hk y hy x (by simp))
      have hhead : headCls (dedupK normS (x :: xs)) = .cls (kindCls x) :=
        headCls_of _ (dedupK_ne_nil _ _ hne) _ fun y hy => hc y (mem_of_mem_dedupK _ _ y hy)
      simp only [hk, Bool.not_true, Bool.false_eq_true, ↓reduceIte, ev_list_fset, dedup_cls_of_same x xs hk, ev_getitem_zero,
        ev_setattr_nil, ev_frozenset_embS, ev_setattr_value, ev_getattr_et, ev_issubclass_any, ev_not_bool, truthy_bool,
        pure_eq_ok, ok_bind, setObj, hhead]
    · have hk' : sameKinds (x :: xs) = false := by simpa using hk
      simp only [hk', Bool.not_false, ↓reduceIte, Bool.false_eq_true]
      rfl

/-! ## Element-wise application -/

theorem ev_iter_set (raw : List Scalar) : Py.iterToList env1 (setObj raw) = .ok (raw.map embS) := rfl

theorem ev_genexp_set (raw : List Scalar) (f : Obj → E Obj) :
    Py.genexp env1 f (setObj raw) = ((raw.map embS).mapM f >>= fun l => pure (.list l)) := rfl

theorem ev_listcomp_set (raw : List Scalar) (f : Obj → E Obj) :
    Py.listcomp env1 f (setObj raw) = ((raw.map embS).mapM f >>= fun l => pure (.list l)) := rfl

theorem ev_isinstance_sc_set (env : Py.Env) (y : Scalar) : Py.isinstance Gen.Ex.mro env (embS y) (.cls .Set) = .ok (.bool false) := by
  cases y <;> rfl

theorem ev_forIn_set {σ : Type} (raw : List Scalar) (init : σ) (body : σ → Obj → E σ) :
    Py.forIn env1 (setObj raw) init body = (raw.map embS).foldlM body init := rfl

/-- a loop that appends one result per element to a list is the list comprehension -/
theorem foldlM_append (env : Py.Env) (f : Obj → E Obj) (l init : List Obj) :
    l.foldlM (fun acc x => f x >>= fun t => Py.list_append env acc t) (Obj.list init) =
      (l.mapM f >>= fun r => .ok (Obj.list (init ++ r))) := by
  induction l generalizing init with
  | nil => simp [pure_eq_ok]
  | cons a l ih =>
    rw [List.foldlM_cons, List.mapM_cons]
    cases h : f a with
    | error e => rfl
    | ok t =>
      have : Py.list_append env (Obj.list init) t = .ok (Obj.list (init ++ [t])) := rfl
      simp only [ok_bind, this, ih, bind_assoc, pure_eq_ok, List.append_assoc, List.singleton_append]

theorem gen_elementwise (raw : List Scalar) (y : Scalar) (impl : Obj → Obj → E Obj) (sw : Bool) :
    Gen.Ex.Set._elementwise env1 (setObj raw) impl (embS y) (.bool sw) =
      ((raw.map embS).mapM (fun x => if sw then impl (embS y) x else impl x (embS y)) >>= fun l =>
        Gen.Ex.Set.__new__ env1 (.list l)) := by
  unfold Gen.Ex.Set._elementwise
  -- the constructor stays folded: only helper methods of the loop are to be unfolded
  generalize Gen.Ex.Set.__new__ env1 = mk
  unfold_set_methods
  -- the flag may be tested once or for every element
  cases sw <;>
    simp only [ev_isinstance_sc_set, ok_bind, ev_not_bool, truthy_bool, Bool.not_false, ↓reduceIte, ev_genexp_set, ev_listcomp_set,
      ev_forIn_set, foldlM_append, List.nil_append, Bool.false_eq_true, bind_assoc, pure_eq_ok, bind_pure]

theorem elementwise_set_set (ra rb : List Scalar) (impl : Obj → Obj → E Obj) (sw : Obj) :
    Gen.Ex.Set._elementwise env1 (setObj ra) impl (setObj rb) sw = .error .UndefinedOperatorError := rfl

/-- a list of primitives through a function that agrees with a model function on every primitive -/
def convL (r : R (List Scalar)) : E (List Obj) :=
  match r with
  | .ok ys => .ok (ys.map embS)
  | .error e => .error (excOf e)

theorem mapM_conv (f : Obj → E Obj) (g : Scalar → R Scalar) (h : ∀ x, f (embS x) = convS (g x)) (raw : List Scalar) :
    (raw.map embS).mapM f = convL (mapR g raw) := by
  induction raw with
  | nil => rfl
  | cons x xs ih =>
    rw [List.map_cons, List.mapM_cons, h x, ih]
    simp only [mapR]
    cases g x with
    | error e => rfl
    | ok y =>
      cases mapR g xs with
      | error e => rfl
      | ok ys => rfl

/-! ## What the bridge theorems state -/

/-- a Python object denotes a model value: primitives exactly; a `Set` instance holds primitives in their raw spelling, the
    model set their normal forms (the element identity of both sides) -/
inductive Abs : Obj → Val → Prop
  | sc (s : Scalar) : Abs (embS s) (.sc s)
  | set (raw : List Scalar) (h : raw ≠ []) : Abs (setObj raw) (.set (raw.map normS))

/-- the generated code and the model agree on an outcome: the same value, or the exception class of the model's error -/
def Agree (g : E Obj) (m : R Val) : Prop :=
  match m with
  | .ok v => ∃ o, g = .ok o ∧ Abs nfc o v
  | .error e => g = .error (excOf e)

/-- what the bridge needs to know about the normalisation function when a *string element of a set* is concatenated with
    a string: normalising an operand first does not change the normal form of the concatenation (true of NFC: canonical
    equivalence is a congruence for concatenation, and the normal form is a canonical representative) -/
structure NfcLaws : Prop where
  congL : ∀ a b, nfc (nfc a ++ b) = nfc (a ++ b)
  congR : ∀ a b, nfc (a ++ nfc b) = nfc (a ++ b)

theorem dedup_map_normS (l : List Scalar) : dedup (l.map normS) = (dedupK normS l).map normS := by
  induction l with
  | nil => rfl
  | cons x xs ih =>
    simp only [List.map_cons, dedup, dedupK, ih]
    split <;> simp

theorem mapR_map {α β γ : Type} (f : β → R γ) (g : α → β) (l : List α) : mapR f (l.map g) = mapR (fun x => f (g x)) l := by
  induction l with
  | nil => rfl
  | cons x xs ih => simp only [List.map_cons, mapR, ih]

theorem mapR_congr {α β : Type} (f g : α → R β) (l : List α) (h : ∀ x, f x = g x) : mapR f l = mapR g l := by
  have : f = g := funext h
  rw [this]

theorem mapR_post {α β γ : Type} (f : α → R β) (k : β → γ) (l : List α) :
    mapR (fun x => (f x).map k) l = (mapR f l).map (List.map k) := by
  induction l with
  | nil => rfl
  | cons x xs ih =>
    simp only [mapR, ih]
    cases f x with
    | error e => rfl
    | ok y => cases mapR f xs with
      | error e => rfl
      | ok ys => rfl

/-- an element that is normalised before an arithmetic operator is applied yields the same element of the new set -/
theorem scBinEl_normS (hl : NfcLaws nfc) (op : BinOp) (hop : op.isArith = true) (x y : Scalar) :
    @scBinEl SN op (normS x) y = @scBinEl SN op x y ∧ @scBinEl SN op x (normS y) = @scBinEl SN op x y := by
  cases op <;> first | (simp [BinOp.isArith] at hop; done) | skip
  all_goals
    cases x <;> cases y <;> first
      | exact ⟨rfl, rfl⟩
      | exact ⟨congrArg (fun s => Except.ok (Scalar.str s)) (hl.congL _ _), congrArg (fun s => Except.ok (Scalar.str s)) (hl.congR _ _)⟩

end sets

end BridgeEx
