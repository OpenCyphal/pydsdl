import Bridge.ExprOps.Elementwise
/-!
  Bridge for the operator semantics, part 5: the attribute operator (`min`, `max`, `count` of a set; everything else undefined).
-/
set_option linter.unusedSimpArgs false
set_option linter.unusedTactic false
set_option linter.unreachableTactic false
set_option linter.unusedVariables false
namespace BridgeEx
open Py Ex PyEx Bridge

/-- an attribute name as the `str` the parser hands to `_operator.attribute` -/
def nameObj (name : String) : Obj := .str (name.toList.map Char.toNat)

theorem nameObj_inj (a b : String) (h : a.toList.map Char.toNat = b.toList.map Char.toNat) : a = b := by
  apply String.toList_inj.mp
  exact List.map_injective_iff.mpr (fun x y hxy => Char.toNat_inj.mp hxy) h

section
variable (nfc : List Nat → List Nat) (n : Nat)

local notation "env1" => Gen.Ex.env nfc (n + 1)
local notation "env0" => Gen.Ex.env nfc n
local notation "SN" => (StrNorm.mk nfc)
local notation "normS" => @normSc (StrNorm.mk nfc)

theorem attr_unfold (v : Val) (cps : List Nat) :
    Gen.Ex.attribute env1 (emb v) (.str cps) = Gen.Ex.dispatch._attribute env1 (emb v) (embS (.str cps)) := by
  rcases v with (_ | _ | _) | _ <;> rfl

theorem attr_scalar (s : Scalar) (cps : List Nat) :
    Gen.Ex.attribute env1 (embS s) (.str cps) = .error .UndefinedAttributeError := by
  cases s <;> rfl

theorem ev_native_value_str (env : Py.Env) (cps : List Nat) : Gen.Ex.dispatch.native_value env (embS (.str cps)) = .ok (.str cps) := rfl
theorem ev_eq_str (env : Py.Env) (a b : List Nat) : Py.eq env (.str a) (.str b) = .ok (.bool (a == b)) := rfl
theorem ev_reduce_set (f : Obj → Obj → E Obj) (x : Scalar) (xs : List Scalar) :
    Py.reduce env1 f (setObj (x :: xs)) = (xs.map embS).foldlM f (embS x) := rfl
theorem ev_element_type (env : Py.Env) (raw : List Scalar) : Gen.Ex.Set.element_type env (setObj raw) = .ok (headCls raw) := rfl
theorem ev_isinstance_kind (env : Py.Env) (r x : Scalar) :
    Py.isinstance Gen.Ex.mro env (embS r) (.cls (kindCls x)) = .ok (.bool (decide (kindCls r = kindCls x))) := by
  cases r <;> cases x <;> rfl
theorem ev_isinstance_any (env : Py.Env) (r : Scalar) : Py.isinstance Gen.Ex.mro env (embS r) (.cls .Any) = .ok (.bool true) := by
  cases r <;> rfl
theorem ev_truthy_B (t : Bool) : Py.truthy env1 (embS (.bool t)) = .ok t := rfl
theorem ev_glob_less : (env1).glob "_operator.less" = Gen.Ex.less env0 := glob_genBin nfc n .lt
theorem ev_glob_greater : (env1).glob "_operator.greater" = Gen.Ex.greater env0 := glob_genBin nfc n .gt

/-- what one step of the reduction behind `min` (`flip`: `max`) does on two primitives: keep the left one when it is smaller
    (greater), else take the right one; a comparison that is undefined for the pair ends the reduction -/
def pickSpec (flip : Bool) (a b : Scalar) : E Obj :=
  match @scBin SN (if flip then .gt else .lt) a b with
  | .ok (.bool true) => .ok (embS a)
  | .ok _ => .ok (embS b)
  | .error e => .error (excOf e)

/-- a left fold over the elements with any step function that meets `pickSpec` is the model's `reduceCmp` -/
theorem foldl_spec (flip : Bool) (f : Obj → Obj → E Obj) (hf : ∀ a b, f (embS a) (embS b) = pickSpec nfc flip a b)
    (xs : List Scalar) : ∀ x : Scalar, (xs.map embS).foldlM f (embS x) = convS (@reduceCmp SN flip x xs) := by
  induction xs with
  | nil => intro x; rfl
  | cons b rest ih =>
    intro x
    rw [List.map_cons, List.foldlM_cons, hf]
    unfold reduceCmp pickSpec
    cases h : @scBin SN (if flip then .gt else .lt) x b with
    | error e => rfl
    | ok v =>
      cases v with
      | bool t => cases t <;> simp only [ok_bind, ih]
      | rat q => simp only [ok_bind, ih]
      | str s => simp only [ok_bind, ih]

theorem less0 (a b : Scalar) : Gen.Ex.less env0 (embS a) (embS b) = convS (@scBin SN .lt a b) := gen_scBin0 nfc n .lt a b
theorem greater0 (a b : Scalar) : Gen.Ex.greater env0 (embS a) (embS b) = convS (@scBin SN .gt a b) := gen_scBin0 nfc n .gt a b
theorem ev_not_B (t : Bool) : Py.not_ env1 (embS (.bool t)) = .ok (.bool (!t)) := rfl

/-- closes `f (embS a) (embS b) = pickSpec flip a b` for a step function `f` that is written with `less` / `greater` of the
    inner environment, truth tests and conditionals -/
macro "pick_step" : tactic => `(tactic|
  (intro a b
   simp only [less0, greater0, pickSpec]
   cases a <;> cases b <;> try rfl
   all_goals
     (rename_i p q
      simp only [scBin, convS, ok_bind, ev_truthy_B, ev_not_B, truthy_bool, Bool.false_eq_true, ↓reduceIte, pure_eq_ok]
      first
        | (cases decide (p < q) <;> rfl)
        | (cases decide (q < p) <;> rfl))))

theorem scBin_cmp_kinds (op : BinOp) (hop : op = .lt ∨ op = .gt) (a b v : Scalar) (h : @scBin SN op a b = .ok v) :
    a.kind = .rat ∧ b.kind = .rat := by
  rcases hop with rfl | rfl <;> cases a <;> cases b <;> first | exact ⟨rfl, rfl⟩ | cases h

theorem reduceCmp_kind (flip : Bool) (xs : List Scalar) : ∀ (x r : Scalar), @reduceCmp SN flip x xs = .ok r → r.kind = x.kind := by
  induction xs with
  | nil => intro x r h; simp [reduceCmp] at h; rw [h]
  | cons b rest ih =>
    intro x r h
    unfold reduceCmp at h
    cases hs : @scBin SN (if flip then .gt else .lt) x b with
    | error e => rw [hs] at h; cases h
    | ok v =>
      have hk := scBin_cmp_kinds nfc (if flip then .gt else .lt) (by cases flip <;> simp) x b v hs
      rw [hs] at h
      cases v with
      | bool t =>
        cases t
        · have := ih b r h; rw [this, hk.1, hk.2]
        · exact ih x r h
      | rat q => have := ih b r h; rw [this, hk.1, hk.2]
      | str s => have := ih b r h; rw [this, hk.1, hk.2]

theorem ev_iter_setObj (raw : List Scalar) : Py.iter env1 (setObj raw) = .ok (.list (raw.map embS)) := rfl
theorem ev_next_cons (env : Py.Env) (x : Obj) (xs : List Obj) : Py.next env (.list (x :: xs)) = .ok (x, .list xs) := rfl
theorem ev_forIn_list {σ : Type} (env : Py.Env) (l : List Obj) (init : σ) (body : σ → Obj → E σ) :
    Py.forIn env (.list l) init body = l.foldlM body init := rfl

theorem ev_getattr_et_set (env : Py.Env) (x : Scalar) (xs : List Scalar) :
    Py.getattr env (setObj (x :: xs)) "_element_type" = .ok (.cls (kindCls x)) := rfl

theorem ev_assert_t : Py.assert_ true = .ok () := rfl

theorem ev_len_value (env : Py.Env) (raw : List Scalar) :
    (do let t ← Py.getattr env (setObj raw) "_value"; let l ← Py.len env t; Gen.Ex.Rational.__new__ env l) =
      .ok (R' (raw.length : Int) 1) := by
  show Except.ok (R' ((raw.map embS).length : Int) 1) = _
  rw [List.length_map]

theorem set_attribute (x : Scalar) (xs : List Scalar) (cps : List Nat) :
    Gen.Ex.Set._attribute env1 (setObj (x :: xs)) (embS (.str cps)) =
      if cps = [109, 105, 110] then convS (@reduceCmp SN false x xs)
      else if cps = [109, 97, 120] then convS (@reduceCmp SN true x xs)
      else if cps = [99, 111, 117, 110, 116] then .ok (R' ((x :: xs).length : Int) 1)
      else .error .UndefinedAttributeError := by
  unfold Gen.Ex.Set._attribute
  simp only [ev_native_value_str, ok_bind, ev_eq_str, truthy_bool, beq_iff_eq]
  by_cases h1 : cps = [109, 105, 110]
  · simp only [h1, ↓reduceIte]
    unfold_set_methods
    simp only [ev_glob_less, ev_reduce_set, ev_iter_setObj, ev_next_cons, ev_forIn_list, ok_bind, List.map_cons, bind_assoc, pure_eq_ok]
    rw [foldl_spec nfc false _ (by pick_step)]
    -- whatever assertions follow the reduction hold of its result
    cases h : @reduceCmp SN false x xs with
    | error e => rfl
    | ok r =>
      have hk : kindCls r = kindCls x := (kindCls_eq_iff r x).mpr (reduceCmp_kind nfc false xs x r h)
      simp only [convS, ok_bind, ev_getattr_et_set, ev_element_type, headCls, ev_isinstance_kind, hk, decide_true, truthy_bool,
        ev_isinstance_any, ev_assert_t, pure_eq_ok]
  · simp only [h1, ↓reduceIte]
    by_cases h2 : cps = [109, 97, 120]
    · simp only [h2, ↓reduceIte]
      unfold_set_methods
      simp only [ev_glob_greater, ev_reduce_set, ev_iter_setObj, ev_next_cons, ev_forIn_list, ok_bind, List.map_cons, bind_assoc, pure_eq_ok]
      rw [foldl_spec nfc true _ (by pick_step)]
      cases h : @reduceCmp SN true x xs with
      | error e => rfl
      | ok r =>
        have hk : kindCls r = kindCls x := (kindCls_eq_iff r x).mpr (reduceCmp_kind nfc true xs x r h)
        simp only [convS, ok_bind, ev_getattr_et_set, ev_element_type, headCls, ev_isinstance_kind, hk, decide_true, truthy_bool,
          ev_isinstance_any, ev_assert_t, pure_eq_ok]
    · simp only [h2, ↓reduceIte]
      by_cases h3 : cps = [99, 111, 117, 110, 116]
      · simp only [h3, ↓reduceIte]
        show Except.ok (R' ((List.map embS (x :: xs)).length : Int) 1) = _
        rw [List.length_map]
      · simp only [h3, ↓reduceIte]; rfl

theorem cps_iff (name lit : String) (cps : List Nat) (hl : lit.toList.map Char.toNat = cps) :
    name.toList.map Char.toNat = cps ↔ name = lit := by
  constructor
  · intro h; exact nameObj_inj name lit (h.trans hl.symm)
  · rintro rfl; exact hl

theorem map_normS_id (raw : List Scalar) (h : ∀ x ∈ raw, normS x = x) : raw.map normS = raw := by
  induction raw with
  | nil => rfl
  | cons x xs ih => rw [List.map_cons, h x (by simp), ih fun y hy => h y (by simp [hy])]

theorem natCast_rat (k : Nat) : embS (.rat ((k : Nat) : Rat)) = R' (k : Int) 1 := by
  simp [embS, R']

/-- **Attributes of a primitive**: none. -/
theorem gen_attr_scalar (s : Scalar) (name : String) :
    Agree nfc (Gen.Ex.attribute env1 (embS s) (nameObj name)) (@evalAttr SN (.sc s) name) := by
  show Gen.Ex.attribute env1 (embS s) (.str _) = .error (excOf (.invalid .undefinedAttr))
  exact attr_scalar nfc n s _

/-- **Attributes of a set**: `count` is the number of elements; `min` / `max` reduce the elements with `<` / `>` (the result is
    one of the elements, so for these two the elements are taken in their normal form); any other name is undefined. -/
theorem gen_attr_set (raw : List Scalar) (hne : raw ≠ []) (name : String)
    (hnorm : name = "min" ∨ name = "max" → ∀ x ∈ raw, normS x = x) :
    Agree nfc (Gen.Ex.attribute env1 (setObj raw) (nameObj name)) (@evalAttr SN (.set (raw.map normS)) name) := by
  cases raw with
  | nil => exact absurd rfl hne
  | cons x xs =>
    have hu : Gen.Ex.attribute env1 (setObj (x :: xs)) (nameObj name) =
        Gen.Ex.Set._attribute env1 (setObj (x :: xs)) (embS (.str (name.toList.map Char.toNat))) :=
      attr_unfold nfc n (.set (x :: xs)) _
    rw [hu, set_attribute]
    have e1 := cps_iff name "min" [109, 105, 110] (by decide +kernel)
    have e2 := cps_iff name "max" [109, 97, 120] (by decide +kernel)
    have e3 := cps_iff name "count" [99, 111, 117, 110, 116] (by decide +kernel)
    by_cases h1 : name = "min"
    · have hm := map_normS_id nfc (x :: xs) (hnorm (Or.inl h1))
      rw [hm]
      subst h1
      simp only [e1.mpr rfl, ↓reduceIte]
      show Agree nfc _ ((@reduceCmp SN false x xs).map Val.sc)
      cases @reduceCmp SN false x xs with
      | error e => rfl
      | ok r => exact ⟨_, rfl, Abs.sc r⟩
    · have h1' : ¬ name.toList.map Char.toNat = [109, 105, 110] := fun h => h1 (e1.mp h)
      by_cases h2 : name = "max"
      · have hm := map_normS_id nfc (x :: xs) (hnorm (Or.inr h2))
        rw [hm]
        subst h2
        simp only [h1', e2.mpr rfl, ↓reduceIte]
        show Agree nfc _ ((@reduceCmp SN true x xs).map Val.sc)
        cases @reduceCmp SN true x xs with
        | error e => rfl
        | ok r => exact ⟨_, rfl, Abs.sc r⟩
      · have h2' : ¬ name.toList.map Char.toNat = [109, 97, 120] := fun h => h2 (e2.mp h)
        by_cases h3 : name = "count"
        · subst h3
          simp only [h1', h2', e3.mpr rfl, ↓reduceIte]
          show Agree nfc _ (.ok (.rat (((x :: xs).map normS).length : Nat)))
          refine ⟨_, rfl, ?_⟩
          have : R' (((x :: xs).length : Nat) : Int) 1 = embS (.rat ((((x :: xs).map normS).length : Nat) : Rat)) := by
            rw [natCast_rat, List.length_map]
          rw [this]
          exact Abs.sc _
        · have h3' : ¬ name.toList.map Char.toNat = [99, 111, 117, 110, 116] := fun h => h3 (e3.mp h)
          simp only [h1', h2', h3', ↓reduceIte]
          have : @evalAttr SN (.set ((x :: xs).map normS)) name = inval .undefinedAttr := by
            simp only [List.map_cons]
            unfold evalAttr
            split <;> first | rfl | exact absurd rfl h1 | exact absurd rfl h2 | exact absurd rfl h3
          rw [this]; rfl

end
end BridgeEx
