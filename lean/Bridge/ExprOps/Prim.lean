import Bridge.Basic
import Gen.ExprOps
import Model.Expr
import Proofs.ExprPyLib
/-!
  Bridge for the operator semantics of the constant-expression evaluator: the definitions that `tools/py2lean_expr.py`
  generates from `pydsdl/_expression/{_any,_primitive,_container,_operator}.py` (`Gen/ExprOps.lean`, re-generated on every run)
  against the hand-written model `Model/Expr.lean` (`Ex.evalBin`, `Ex.evalUn`, `Ex.evalAttr`).
-/
set_option linter.unusedSimpArgs false
set_option linter.unusedTactic false
set_option linter.unreachableTactic false
set_option linter.unusedVariables false
namespace BridgeEx
open Py Ex PyEx Bridge

/-! ## Model values as Python objects -/

/-- a model scalar as an instance of `Rational` / `Boolean` / `String` -/
def embS : Scalar → Obj
  | .rat q => .inst .Rational [("_value", .frac q.num q.den)]
  | .bool b => .inst .Boolean [("_value", .bool b)]
  | .str cs => .inst .String [("_value", .str cs)]

def kindCls : Scalar → Cls
  | .rat _ => .Rational
  | .bool _ => .Boolean
  | .str _ => .String

def headCls : List Scalar → Obj
  | [] => .none
  | x :: _ => .cls (kindCls x)

/-- an instance of `Set` with the given elements (in the library a string element keeps its raw text) -/
def setObj (raw : List Scalar) : Obj :=
  .inst .Set [("_element_type", headCls raw), ("_value", .fset (raw.map embS))]

/-- the Python exception behind a model error -/
def excOf : Ex.Err → Exc
  | .invalid .undefinedOp => .UndefinedOperatorError
  | .invalid .undefinedAttr => .UndefinedAttributeError
  | .invalid .divZero => .InvalidOperandError
  | .invalid .nonInteger => .InvalidOperandError
  | .invalid .emptySet => .InvalidOperandError
  | .invalid .hetero => .InvalidOperandError
  | .invalid _ => .InvalidDefinitionError
  | .hazard .powComplex => .InvalidOperandError        -- rejected since the fix of `Rational._generic_arithmetic`
  | .hazard .powFloatOverflow => .InvalidOperandError
  | .hazard _ => .unmodelled "hazard"
  | .inexact => .unmodelled "float"
  | .unsupported => .unmodelled "hash"

def convS : R Scalar → E Obj
  | .ok s => .ok (embS s)
  | .error e => .error (excOf e)

/-- the function of `_operator.py` behind a binary operator of the grammar (`_parser.py`, `_visit_binary_operator_chain`) -/
def genBin : BinOp → Py.Env → Obj → Obj → E Obj
  | .lor => Gen.Ex.logical_or
  | .land => Gen.Ex.logical_and
  | .eq => Gen.Ex.equal
  | .ne => Gen.Ex.not_equal
  | .le => Gen.Ex.less_or_equal
  | .ge => Gen.Ex.greater_or_equal
  | .lt => Gen.Ex.less
  | .gt => Gen.Ex.greater
  | .bor => Gen.Ex.bitwise_or
  | .bxor => Gen.Ex.bitwise_xor
  | .band => Gen.Ex.bitwise_and
  | .add => Gen.Ex.add
  | .sub => Gen.Ex.subtract
  | .mul => Gen.Ex.multiply
  | .div => Gen.Ex.divide
  | .mod => Gen.Ex.modulo
  | .pow => Gen.Ex.power

def genUn : UnOp → Py.Env → Obj → E Obj
  | .pos => Gen.Ex.positive
  | .neg => Gen.Ex.negative
  | .not => Gen.Ex.logical_not

/-! ## Primitives -/

/-- every pair of primitives that is not a pair of rationals: evaluation is closed -/
theorem gen_scBin_easy (env : Py.Env) (op : BinOp) (a b : Scalar) (h : ¬ (∃ p q, a = .rat p ∧ b = .rat q)) :
    genBin op env (embS a) (embS b) = convS (@scBin ⟨env.nfc⟩ op a b) := by
  cases a with
  | rat p => cases b with
    | rat q => exact absurd ⟨p, q, rfl, rfl⟩ h
    | bool y => cases op <;> rfl
    | str y => cases op <;> rfl
  | bool x => cases b with
    | rat q => cases op <;> rfl
    | bool y => cases op <;> first | rfl | (cases x <;> cases y <;> rfl)
    | str y => cases op <;> rfl
  | str x => cases b with
    | rat q => cases op <;> rfl
    | bool y => cases op <;> rfl
    | str y =>
      -- `==` / `!=` may compare the two normal forms in either order
      cases op <;> first
        | rfl
        | (show Except.ok (embS (.bool (env.nfc y == env.nfc x))) = Except.ok (embS (.bool (env.nfc x == env.nfc y)))
           rw [Bool.beq_comm]; done)
        | (show Except.ok (embS (.bool (!(env.nfc y == env.nfc x)))) = Except.ok (embS (.bool (env.nfc x != env.nfc y)))
           rw [Bool.beq_comm]; rfl)

/-! ## The `_auto_swap` wrapper -/

def emb : Val → Obj
  | .sc s => embS s
  | .set raw => setObj raw

local notation "wrapper" => Gen.Ex._auto_swap.decorator.wrapper

theorem excMatch_undef (e : Exc) : Gen.Ex.excMatch e [.UndefinedOperatorError] = true ↔ e = .UndefinedOperatorError := by
  cases e <;> simp [Gen.Ex.excMatch, Gen.Ex.excMro]

theorem excMatch_undef_false (e : Exc) (h : e ≠ .UndefinedOperatorError) : Gen.Ex.excMatch e [.UndefinedOperatorError] = false := by
  rw [Bool.eq_false_iff]; intro h'; exact h ((excMatch_undef e).mp h')

theorem throw_eq_error {α : Type} (e : Exc) : (throw e : E α) = .error e := rfl
theorem truthy_bool (env : Py.Env) (b : Bool) : Py.truthy env (.bool b) = .ok b := rfl
theorem ev_not_bool (env : Py.Env) (b : Bool) : Py.not_ env (.bool b) = .ok (.bool (!b)) := rfl
theorem ev_eq_cls (env : Py.Env) (a b : Cls) : Py.eq env (.cls a) (.cls b) = .ok (.bool (a == b)) := rfl
theorem ev_ne_cls (env : Py.Env) (a b : Cls) : Py.ne env (.cls a) (.cls b) = .ok (.bool (!(a == b))) := rfl
theorem ev_is_cls (env : Py.Env) (a b : Cls) : Py.is_ env (.cls a) (.cls b) = .ok (.bool (a == b)) := rfl
theorem ev_is_not_cls (env : Py.Env) (a b : Cls) : Py.is_not env (.cls a) (.cls b) = .ok (.bool (!(a == b))) := rfl

theorem ev_isinstance_emb_any (env : Py.Env) (v : Val) : Py.isinstance Gen.Ex.mro env (emb v) (.cls .Any) = .ok (.bool true) := by
  rcases v with (_ | _ | _) | _ <;> rfl

theorem classOf_emb_beq (a b : Val) : (classOf (emb a) == classOf (emb b)) = decide (a.kind = b.kind) := by
  rcases a with (_ | _ | _) | _ <;> rcases b with (_ | _ | _) | _ <;> rfl

/-- the final assertion of the wrapper: the result is an `Any` -/
def checkAny (env : Py.Env) (r : E Obj) : E Obj := do
  let o ← r
  Py.assert_ (← Py.truthy env (← Py.isinstance Gen.Ex.mro env o (.cls .Any)))
  pure o

theorem checkAny_emb (env : Py.Env) (v : Val) : checkAny env (.ok (emb v)) = .ok (emb v) := by
  rcases v with (_ | _ | _) | _ <;> rfl

/-- `_auto_swap` on two values: the direct method; when that is undefined and the operands are of different classes, the
    reflected method of the right operand -/
theorem wrapper_emb (env : Py.Env) (direct alt : Obj → Obj → E Obj) (a b : Val) :
    wrapper env direct alt (emb a) (emb b) =
      checkAny env (Py.try_ (direct (emb a) (emb b)) fun e =>
        if Gen.Ex.excMatch e [.UndefinedOperatorError] then (if a.kind = b.kind then .error e else alt (emb b) (emb a))
        else .error e) := by
  unfold Gen.Ex._auto_swap.decorator.wrapper checkAny
  -- the operand test and the comparison of the two classes, however they are spelt
  simp only [ev_isinstance_emb_any, ev_not_bool, truthy_bool, ok_bind, Bool.not_true, Bool.false_eq_true, ↓reduceIte, Py.type_, pure_bind,
    ev_eq_cls, ev_ne_cls, ev_is_cls, ev_is_not_cls, classOf_emb_beq, bind_pure, Bool.not_eq_true', decide_eq_false_iff_not,
    decide_eq_true_eq, ite_not, throw_eq_error]

/-- the wrapper looks at its two function arguments only through `direct left right` and `alt right left` -/
theorem wrapper_param (env : Py.Env) (direct alt : Obj → Obj → E Obj) (A B : Obj) :
    wrapper env direct alt A B = wrapper env (fun _ _ => direct A B) (fun _ _ => alt B A) A B := rfl

theorem wrapper_ok (env : Py.Env) (direct alt : Obj → Obj → E Obj) (a b v : Val)
    (h : direct (emb a) (emb b) = .ok (emb v)) : wrapper env direct alt (emb a) (emb b) = .ok (emb v) := by
  rw [wrapper_emb, h]; exact checkAny_emb env v

/-- an exception of the direct operator that is not `UndefinedOperatorError` (nor a subclass) passes -/
theorem wrapper_err (env : Py.Env) (direct alt : Obj → Obj → E Obj) (a b : Val) (e : Exc)
    (h : direct (emb a) (emb b) = .error e) (he : Gen.Ex.excMatch e [.UndefinedOperatorError] = false) :
    wrapper env direct alt (emb a) (emb b) = .error e := by
  rw [wrapper_emb, h, Py.try_, he]; rfl

/-- `UndefinedOperatorError` and operands of one class: re-raised -/
theorem wrapper_undef_same (env : Py.Env) (direct alt : Obj → Obj → E Obj) (a b : Val)
    (h : direct (emb a) (emb b) = .error .UndefinedOperatorError) (hk : a.kind = b.kind) :
    wrapper env direct alt (emb a) (emb b) = .error .UndefinedOperatorError := by
  rw [wrapper_emb, h, Py.try_, if_pos ((excMatch_undef _).mpr rfl), if_pos hk]; rfl

/-- `UndefinedOperatorError` and operands of different classes: the alternative method of the right operand decides -/
theorem wrapper_undef_diff_ok (env : Py.Env) (direct alt : Obj → Obj → E Obj) (a b v : Val)
    (h : direct (emb a) (emb b) = .error .UndefinedOperatorError) (hk : a.kind ≠ b.kind)
    (h2 : alt (emb b) (emb a) = .ok (emb v)) :
    wrapper env direct alt (emb a) (emb b) = .ok (emb v) := by
  rw [wrapper_emb, h, Py.try_, if_pos ((excMatch_undef _).mpr rfl), if_neg hk, h2]; exact checkAny_emb env v

theorem wrapper_undef_diff_err (env : Py.Env) (direct alt : Obj → Obj → E Obj) (a b : Val) (e : Exc)
    (h : direct (emb a) (emb b) = .error .UndefinedOperatorError) (hk : a.kind ≠ b.kind)
    (h2 : alt (emb b) (emb a) = .error e) :
    wrapper env direct alt (emb a) (emb b) = .error e := by
  rw [wrapper_emb, h, Py.try_, if_pos ((excMatch_undef _).mpr rfl), if_neg hk, h2]; rfl

/-- when the classes differ and one of the two methods is undefined, the operator is the other one (whose result is an
    exception or denotes a value: the wrapper asserts that it is an `Any`) -/
theorem wrapper_single (env : Py.Env) (a b : Val) (hk : a.kind ≠ b.kind) (r : E Obj) (hr : ∀ o, r = .ok o → ∃ v, o = emb v) :
    wrapper env (fun _ _ => r) (fun _ _ => .error .UndefinedOperatorError) (emb a) (emb b) = r ∧
    wrapper env (fun _ _ => .error .UndefinedOperatorError) (fun _ _ => r) (emb a) (emb b) = r := by
  cases r with
  | error e =>
    refine ⟨?_, wrapper_undef_diff_err env _ _ a b e rfl hk rfl⟩
    by_cases he : e = .UndefinedOperatorError
    · subst he; exact wrapper_undef_diff_err env _ _ a b _ rfl hk rfl
    · exact wrapper_err env _ _ a b e rfl (excMatch_undef_false e he)
  | ok o =>
    obtain ⟨v, rfl⟩ := hr o rfl
    exact ⟨wrapper_ok env _ _ a b v rfl, wrapper_undef_diff_ok env _ _ a b v rfl hk rfl⟩

/-! ## Rationals -/

/-- an instance of `Rational` by numerator and denominator -/
def R' (n : Int) (d : Nat) : Obj := .inst .Rational [("_value", .frac n d)]

theorem embS_rat (a : Rat) : embS (.rat a) = R' a.num a.den := rfl

local notation "GA" => Gen.Ex.Rational._generic_arithmetic

theorem GA_param (env : Py.Env) (impl : Obj → Obj → E Obj) (n m : Int) (d e : Nat) :
    GA env (R' n d) (R' m e) impl = GA env (R' n d) (R' m e) (fun _ _ => impl (.frac n d) (.frac m e)) := rfl

theorem GA_ok (env : Py.Env) (impl : Obj → Obj → E Obj) (n m p : Int) (d e q : Nat)
    (h : impl (.frac n d) (.frac m e) = .ok (.frac p q)) : GA env (R' n d) (R' m e) impl = .ok (R' p q) := by
  rw [GA_param, h]; rfl

theorem GA_complex (env : Py.Env) (impl : Obj → Obj → E Obj) (n m : Int) (d e : Nat)
    (h : impl (.frac n d) (.frac m e) = .ok .complex) : GA env (R' n d) (R' m e) impl = .error .InvalidOperandError := by
  rw [GA_param, h]; rfl

theorem GA_zerodiv (env : Py.Env) (impl : Obj → Obj → E Obj) (n m : Int) (d e : Nat)
    (h : impl (.frac n d) (.frac m e) = .error .ZeroDivisionError) : GA env (R' n d) (R' m e) impl = .error .InvalidOperandError := by
  rw [GA_param, h]; rfl

theorem GA_overflow (env : Py.Env) (impl : Obj → Obj → E Obj) (n m : Int) (d e : Nat)
    (h : impl (.frac n d) (.frac m e) = .error .OverflowError) : GA env (R' n d) (R' m e) impl = .error .InvalidOperandError := by
  rw [GA_param, h]; rfl

theorem GA_unmodelled (env : Py.Env) (impl : Obj → Obj → E Obj) (n m : Int) (d e : Nat) (s : String)
    (h : impl (.frac n d) (.frac m e) = .error (.unmodelled s)) : GA env (R' n d) (R' m e) impl = .error (.unmodelled s) := by
  rw [GA_param, h]; rfl

/-- the native operator behind an arithmetic method of `Rational` -/
def genImpl : BinOp → Py.Env → Obj → Obj → E Obj
  | .add => Py.op_add
  | .sub => Py.op_sub
  | .mul => Py.op_mul
  | .div => Py.op_truediv
  | .mod => Py.op_mod
  | _ => Py.op_pow

theorem arith_unfold (env : Py.Env) (op : BinOp) (hop : op.isArith = true) (n m : Int) (d e : Nat) :
    genBin op env (R' n d) (R' m e) =
      wrapper env (fun _ _ => GA env (R' n d) (R' m e) (genImpl op env))
        (fun _ _ => .error .UndefinedOperatorError) (R' n d) (R' m e) := by
  cases op <;> first | (simp [BinOp.isArith] at hop; done) | (simp only [genBin, Gen.Ex.add, Gen.Ex.subtract, Gen.Ex.multiply, Gen.Ex.divide, Gen.Ex.modulo, Gen.Ex.power]; conv_lhs => rw [wrapper_param]); rfl

theorem arith_rat_ok (env : Py.Env) (op : BinOp) (hop : op.isArith = true) (a b c : Rat)
    (h : genImpl op env (.frac a.num a.den) (.frac b.num b.den) = .ok (.frac c.num c.den)) :
    genBin op env (embS (.rat a)) (embS (.rat b)) = .ok (embS (.rat c)) := by
  rw [embS_rat, embS_rat, arith_unfold env op hop]
  exact wrapper_ok env _ _ (.sc (.rat a)) (.sc (.rat b)) (.sc (.rat c)) (by
    show GA env (R' _ _) (R' _ _) (genImpl op env) = _
    rw [GA_ok env (genImpl op env) _ _ _ _ _ _ h]; rfl)

theorem arith_rat_err (env : Py.Env) (op : BinOp) (hop : op.isArith = true) (a b : Rat) (e : Exc)
    (he : Gen.Ex.excMatch e [.UndefinedOperatorError] = false)
    (h : GA env (R' a.num a.den) (R' b.num b.den) (genImpl op env) = .error e) :
    genBin op env (embS (.rat a)) (embS (.rat b)) = .error e := by
  rw [embS_rat, embS_rat, arith_unfold env op hop]
  exact wrapper_err env _ _ (.sc (.rat a)) (.sc (.rat b)) e (by
    show GA env (R' _ _) (R' _ _) (genImpl op env) = _
    rw [h]) he

theorem gen_arith_rat (env : Py.Env) (op : BinOp) (hop : op.isArith = true) (a b : Rat) :
    genBin op env (embS (.rat a)) (embS (.rat b)) = convS (@scBin ⟨env.nfc⟩ op (.rat a) (.rat b)) := by
  cases op <;> try (simp [BinOp.isArith] at hop)
  · -- add
    exact arith_rat_ok env .add rfl a b (a + b) (by
      show Except.ok (mkFrac (a.num * b.den + b.num * a.den) (a.den * b.den)) = _
      rw [frac_add]; rfl)
  · exact arith_rat_ok env .sub rfl a b (a - b) (by
      show Except.ok (mkFrac (a.num * b.den - b.num * a.den) (a.den * b.den)) = _
      rw [frac_sub]; rfl)
  · exact arith_rat_ok env .mul rfl a b (a * b) (by
      show Except.ok (mkFrac (a.num * b.num) (a.den * b.den)) = _
      rw [frac_mul]; rfl)
  · -- div
    by_cases hb : b = 0
    · subst hb
      have h : genImpl .div env (.frac a.num a.den) (.frac (0 : Rat).num (0 : Rat).den) = .error .ZeroDivisionError := by
        show mkFracI (a.num * ((0 : Rat).den : Int)) ((a.den : Int) * (0 : Rat).num) = _
        exact frac_div_zero a _
      have := arith_rat_err env .div rfl a 0 .InvalidOperandError rfl (GA_zerodiv env (genImpl _ env) _ _ _ _ h)
      rw [this]; simp [scBin, convS, inval, excOf]
    · have h : genImpl .div env (.frac a.num a.den) (.frac b.num b.den) = .ok (.frac (a / b).num (a / b).den) :=
        frac_div a b hb
      rw [arith_rat_ok env .div rfl a b (a / b) h]; simp [scBin, hb, convS]
  · -- mod
    by_cases hb : b = 0
    · subst hb
      have h : genImpl .mod env (.frac a.num a.den) (.frac (0 : Rat).num (0 : Rat).den) = .error .ZeroDivisionError := by
        show (if (0 : Rat).num * (a.den : Int) = 0 then _ else _) = _
        simp; rfl
      have := arith_rat_err env .mod rfl a 0 .InvalidOperandError rfl (GA_zerodiv env (genImpl _ env) _ _ _ _ h)
      rw [this]; simp [scBin, convS, inval, excOf]
    · have hn : b.num ≠ 0 := fun h => hb (Rat.num_eq_zero.mp h)
      have hD : b.num * (a.den : Int) ≠ 0 := Int.mul_ne_zero hn (by exact_mod_cast a.den_nz)
      have h : genImpl .mod env (.frac a.num a.den) (.frac b.num b.den) = .ok (.frac (ratMod a b).num (ratMod a b).den) := by
        show (if b.num * (a.den : Int) = 0 then _ else pure (mkFrac (Int.fmod (a.num * b.den) (b.num * a.den)) (a.den * b.den))) = _
        rw [if_neg hD, frac_mod a b hb]; rfl
      rw [arith_rat_ok env .mod rfl a b (ratMod a b) h]; simp [scBin, hb, convS]
  · -- pow
    have h : genImpl .pow env (.frac a.num a.den) (.frac b.num b.den) = powRes (scPow a b) := fracPow_eq a b
    show _ = convS ((scPow a b).map Scalar.rat)
    rcases hs : scPow a b with e | c
    · rw [hs] at h
      have hcases : e = .invalid .divZero ∨ e = .hazard .powComplex ∨ e = .hazard .powFloatOverflow ∨ e = .inexact := by
        unfold scPow at hs
        split at hs
        · exact Or.inl (ratPowInt_err _ _ _ hs)
        · split at hs
          · cases hs; exact Or.inr (Or.inl rfl)
          · split at hs <;> cases hs
            · exact Or.inr (Or.inr (Or.inl rfl))
            · exact Or.inr (Or.inr (Or.inr rfl))
      rcases hcases with rfl | rfl | rfl | rfl
      · exact arith_rat_err env .pow rfl a b .InvalidOperandError rfl (GA_zerodiv env (genImpl _ env) _ _ _ _ h)
      · exact arith_rat_err env .pow rfl a b .InvalidOperandError rfl (GA_complex env (genImpl _ env) _ _ _ _ h)
      · exact arith_rat_err env .pow rfl a b .InvalidOperandError rfl (GA_overflow env (genImpl _ env) _ _ _ _ h)
      · exact arith_rat_err env .pow rfl a b (.unmodelled "float") rfl (GA_unmodelled env (genImpl _ env) _ _ _ _ _ h)
    · rw [hs] at h
      exact arith_rat_ok env .pow rfl a b c h

theorem gen_cmp_rat (env : Py.Env) (op : BinOp) (a b : Rat) (hop : op = .eq ∨ op = .ne ∨ op = .le ∨ op = .ge ∨ op = .lt ∨ op = .gt) :
    genBin op env (embS (.rat a)) (embS (.rat b)) = convS (@scBin ⟨env.nfc⟩ op (.rat a) (.rat b)) := by
  rcases hop with rfl | rfl | rfl | rfl | rfl | rfl
  · show Except.ok (embS (.bool (a.num == b.num && a.den == b.den))) = _
    rw [cmp_eq]; rfl
  · show Except.ok (embS (.bool (!(a.num == b.num && a.den == b.den)))) = _
    rw [cmp_eq]; rfl
  · show Except.ok (embS (.bool (decide (a.num * b.den ≤ b.num * a.den)))) = _
    rw [cmp_le]; rfl
  · show Except.ok (embS (.bool (decide (b.num * a.den ≤ a.num * b.den)))) = _
    rw [cmp_le]; rfl
  · show Except.ok (embS (.bool (decide (a.num * b.den < b.num * a.den)))) = _
    rw [cmp_lt]; rfl
  · show Except.ok (embS (.bool (decide (b.num * a.den < a.num * b.den)))) = _
    rw [cmp_lt]; rfl

/-- `|`, `^`, `&` on two `Rational`s: integers only, and then Python's integer operator -/
theorem gen_bit_raw (env : Py.Env) (n m : Int) (d e : Nat) :
    (Gen.Ex.bitwise_or env (R' n d) (R' m e) =
      if d = 1 ∧ e = 1 then .ok (R' (Py.intOr n m) 1) else .error .InvalidOperandError) ∧
    (Gen.Ex.bitwise_xor env (R' n d) (R' m e) =
      if d = 1 ∧ e = 1 then .ok (R' (Py.intXor n m) 1) else .error .InvalidOperandError) ∧
    (Gen.Ex.bitwise_and env (R' n d) (R' m e) =
      if d = 1 ∧ e = 1 then .ok (R' (Py.intAnd n m) 1) else .error .InvalidOperandError) := by
  match d, e with
  | 1, 1 => exact ⟨rfl, rfl, rfl⟩
  | 0, _ => exact ⟨rfl, rfl, rfl⟩
  | (k + 2), _ => exact ⟨rfl, rfl, rfl⟩
  | 1, 0 => exact ⟨rfl, rfl, rfl⟩
  | 1, (k + 2) => exact ⟨rfl, rfl, rfl⟩

theorem gen_bit_rat (env : Py.Env) (op : BinOp) (a b : Rat) (hop : op = .bor ∨ op = .bxor ∨ op = .band) :
    genBin op env (embS (.rat a)) (embS (.rat b)) = convS (@scBin ⟨env.nfc⟩ op (.rat a) (.rat b)) := by
  have h := gen_bit_raw env a.num b.num a.den b.den
  have key : ∀ (f : Int → Int → Int) (g : Int → Int → Int), (∀ x y, f x y = g x y) →
      (if a.den = 1 ∧ b.den = 1 then Except.ok (R' (f a.num b.num) 1) else .error .InvalidOperandError) =
        convS (bitwise g a b) := by
    intro f g hfg
    unfold bitwise Rat.isInt'
    by_cases h1 : a.den = 1 <;> by_cases h2 : b.den = 1 <;> simp [h1, h2, convS, inval, excOf, hfg, embS, R']
  rcases hop with rfl | rfl | rfl
  · exact h.1.trans (key _ _ intOr_eq)
  · exact h.2.1.trans (key _ _ intXor_eq)
  · exact h.2.2.trans (key _ _ intAnd_eq)

/-- **Primitives.**  On every pair of primitives every binary operator function of `_operator.py`, as translated, returns
    what the model's `scBin` returns: the same value or the exception class of the model's error. -/
theorem gen_scBin (env : Py.Env) (op : BinOp) (a b : Scalar) :
    genBin op env (embS a) (embS b) = convS (@scBin ⟨env.nfc⟩ op a b) := by
  by_cases h : ∃ p q, a = .rat p ∧ b = .rat q
  · obtain ⟨p, q, rfl, rfl⟩ := h
    cases op
    case lor | land => rfl
    case eq | ne | le | ge | lt | gt => exact gen_cmp_rat env _ p q (by simp)
    case bor | bxor | band => exact gen_bit_rat env _ p q (by simp)
    all_goals exact gen_arith_rat env _ rfl p q
  · exact gen_scBin_easy env op a b h

/-! ## Unary operators -/

def conv (r : R Val) : E Obj :=
  match r with
  | .ok v => .ok (emb v)
  | .error e => .error (excOf e)

theorem gen_evalUn (env : Py.Env) (op : UnOp) (v : Val) : genUn op env (emb v) = conv (evalUn op v) := by
  rcases v with (_ | _ | _) | _ <;> cases op <;> rfl

end BridgeEx
