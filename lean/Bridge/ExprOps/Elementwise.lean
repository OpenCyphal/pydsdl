import Bridge.ExprOps.Sets
/-!
  Bridge for the operator semantics, part 3: a set and a primitive (element-wise application in both orientations, and the
  operators that are undefined for this combination).
-/
set_option linter.unusedSimpArgs false
set_option linter.unusedVariables false
namespace BridgeEx
open Py Ex PyEx Bridge

section
variable (nfc : List Nat → List Nat) (n : Nat)

local notation "env1" => Gen.Ex.env nfc (n + 1)
local notation "env0" => Gen.Ex.env nfc n
local notation "SN" => (StrNorm.mk nfc)
local notation "normS" => @normSc (StrNorm.mk nfc)
local notation "wrapper" => Gen.Ex._auto_swap.decorator.wrapper

/-- the primitives under the inner environment, stated with the normalisation function itself -/
theorem gen_scBin0 (k : Nat) (op : BinOp) (a b : Scalar) :
    genBin op (Gen.Ex.env nfc k) (embS a) (embS b) = convS (@scBin SN op a b) := by
  have h := gen_scBin (Gen.Ex.env nfc k) op a b
  rw [env_nfc] at h
  exact h

/-- what `Set._elementwise` returns, given the model's list of element results -/
def ewRes (r : R (List Scalar)) : E Obj :=
  match r with
  | .error e => .error (excOf e)
  | .ok ys => if ys = [] then .error .InvalidOperandError
              else if sameKinds ys then .ok (setObj (dedupK normS ys)) else .error .InvalidOperandError

theorem ew (op : BinOp) (raw : List Scalar) (y : Scalar) (sw : Bool) :
    Gen.Ex.Set._elementwise env1 (setObj raw) (genBin op env0) (embS y) (.bool sw) =
      ewRes nfc (mapR (fun x => if sw then @scBin SN op y x else @scBin SN op x y) raw) := by
  rw [gen_elementwise, mapM_conv _ (fun x => if sw then @scBin SN op y x else @scBin SN op x y) fun x => by
    cases sw <;> exact gen_scBin0 nfc n op _ _]
  cases mapR (fun x => if sw then @scBin SN op y x else @scBin SN op x y) raw with
  | error e => rfl
  | ok ys => exact gen_set_new nfc n ys

theorem ewRes_emb (r : R (List Scalar)) (o : Obj) (h : ewRes nfc r = .ok o) : ∃ v, o = emb v := by
  unfold ewRes at h
  split at h
  · cases h
  · split at h
    · cases h
    · split at h
      · exact ⟨.set _, by cases h; rfl⟩
      · cases h

/-- what `_auto_swap` chooses from when an arithmetic operator meets a set and a primitive: `Set._add`, … apply the operator
    function of the module to every element with the primitive on the right, the reflected `Set._add_right`, … with the
    primitive on the left; the methods of the primitives know no set -/
theorem arith_methods (op : BinOp) (hop : op.isArith = true) :
    ∃ direct alt : Obj → Obj → E Obj, genBin op env1 = wrapper env1 direct alt ∧ ∀ (raw : List Scalar) (y : Scalar),
      direct (setObj raw) (embS y) = Gen.Ex.Set._elementwise env1 (setObj raw) (genBin op env0) (embS y) (.bool false) ∧
      alt (setObj raw) (embS y) = Gen.Ex.Set._elementwise env1 (setObj raw) (genBin op env0) (embS y) (.bool true) ∧
      direct (embS y) (setObj raw) = .error .UndefinedOperatorError ∧
      alt (embS y) (setObj raw) = .error .UndefinedOperatorError := by
  cases op <;> first | (simp [BinOp.isArith] at hop; done) | skip
  all_goals
    refine ⟨_, _, rfl, fun raw y => ?_⟩
    rw [← glob_genBin]
    cases y <;> exact ⟨rfl, rfl, rfl, rfl⟩

theorem kind_set_ne_sc (raw : List Scalar) (y : Scalar) : (Val.set raw).kind ≠ (Val.sc y).kind := by
  cases y <;> simp [Val.kind, Scalar.kind]

/-- an arithmetic operator on a set and a primitive, in either order -/
theorem gen_arith_ew (op : BinOp) (hop : op.isArith = true) (raw : List Scalar) (y : Scalar) :
    genBin op env1 (setObj raw) (embS y) = ewRes nfc (mapR (fun x => @scBin SN op x y) raw) ∧
    genBin op env1 (embS y) (setObj raw) = ewRes nfc (mapR (fun x => @scBin SN op y x) raw) := by
  obtain ⟨direct, alt, hg, hm⟩ := arith_methods nfc n op hop
  obtain ⟨h1, h2, h3, h4⟩ := hm raw y
  have hk := kind_set_ne_sc raw y
  rw [hg, wrapper_param, wrapper_param env1 direct alt (embS y), h1, h2, h3, h4, ew, ew]
  exact ⟨(wrapper_single env1 (.set raw) (.sc y) hk _ (ewRes_emb nfc _)).1,
    (wrapper_single env1 (.sc y) (.set raw) hk.symm _ (ewRes_emb nfc _)).2⟩

/-- every other operator is undefined between a set and a primitive -/
theorem gen_nonarith (op : BinOp) (hop : ¬ op.isArith = true) (raw : List Scalar) (y : Scalar) :
    genBin op env1 (setObj raw) (embS y) = .error .UndefinedOperatorError ∧
    genBin op env1 (embS y) (setObj raw) = .error .UndefinedOperatorError := by
  cases op <;> first | (simp [BinOp.isArith] at hop; done) | (cases y <;> exact ⟨rfl, rfl⟩)

/-- the model's `mkSetS` on the normal forms of a list of element results, against `ewRes` -/
theorem agree_ewRes (r : R (List Scalar)) :
    Agree nfc (ewRes nfc r) ((r.map (List.map normS)).bind mkSetS) := by
  cases r with
  | error e => rfl
  | ok ys =>
    show Agree nfc (ewRes nfc (.ok ys)) (mkSetS (ys.map normS))
    unfold ewRes mkSetS
    by_cases h0 : ys = []
    · subst h0; rfl
    · have h1 : (ys.map normS).isEmpty = false := by cases ys with | nil => exact absurd rfl h0 | cons _ _ => rfl
      simp only [h0, h1, ↓reduceIte, Bool.false_eq_true, @sameKinds_map_normSc SN]
      by_cases hk : sameKinds ys = true
      · simp only [hk, ↓reduceIte]
        refine ⟨_, rfl, ?_⟩
        rw [dedup_map_normS]
        exact Abs.set _ (dedupK_ne_nil _ _ h0)
      · simp only [hk, ↓reduceIte]; rfl

/-- an element-wise operator of the model, applied to the normal forms, in terms of the raw elements: normalising an element
    first does not change the normal form of its result (`h`) -/
theorem mkSetS_mapR_normS (f : Scalar → R Scalar) (h : ∀ x, (f (normS x)).map normS = (f x).map normS) (raw : List Scalar) :
    (mapR (fun x => (f x).map normS) (raw.map normS)).bind mkSetS = ((mapR f raw).map (List.map normS)).bind mkSetS := by
  rw [mapR_map, mapR_congr _ _ raw h, mapR_post]

/-- **A set and a primitive.** -/
theorem gen_set_sc (hl : NfcLaws nfc) (op : BinOp) (raw : List Scalar) (y : Scalar) :
    Agree nfc (genBin op env1 (setObj raw) (embS y)) (@evalBin SN op (.set (raw.map normS)) (.sc y)) := by
  show Agree nfc _ (if op.isArith then (mapR (fun x => (@scBin SN op x y).map normS) (raw.map normS)).bind mkSetS else _)
  by_cases hop : op.isArith = true
  · rw [(gen_arith_ew nfc n op hop raw y).1, if_pos hop,
      mkSetS_mapR_normS nfc (fun x => @scBin SN op x y) fun x => (scBinEl_normS nfc hl op hop x y).1]
    exact agree_ewRes nfc _
  · rw [(gen_nonarith nfc n op hop raw y).1, if_neg hop]
    rfl

/-- **A primitive and a set.** -/
theorem gen_sc_set (hl : NfcLaws nfc) (op : BinOp) (raw : List Scalar) (y : Scalar) :
    Agree nfc (genBin op env1 (embS y) (setObj raw)) (@evalBin SN op (.sc y) (.set (raw.map normS))) := by
  show Agree nfc _ (if op.isArith then (mapR (fun x => (@scBin SN op y x).map normS) (raw.map normS)).bind mkSetS else _)
  by_cases hop : op.isArith = true
  · rw [(gen_arith_ew nfc n op hop raw y).2, if_pos hop,
      mkSetS_mapR_normS nfc (fun x => @scBin SN op y x) fun x => (scBinEl_normS nfc hl op hop y x).2]
    exact agree_ewRes nfc _
  · rw [(gen_nonarith nfc n op hop raw y).2, if_neg hop]
    rfl

end
end BridgeEx
