import Bridge.ExprOps.Elementwise
/-!
  Bridge for the operator semantics, part 4: two sets (comparison, union / intersection / symmetric difference, and the
  operators that are undefined for this combination).
-/
set_option linter.unusedSimpArgs false
set_option linter.unusedVariables false
namespace BridgeEx
open Py Ex PyEx Bridge

section
variable (nfc : List Nat → List Nat) (n : Nat)

local notation "env1" => Gen.Ex.env nfc (n + 1)
local notation "SN" => (StrNorm.mk nfc)
local notation "normS" => @normSc (StrNorm.mk nfc)
local notation "wrapper" => Gen.Ex._auto_swap.decorator.wrapper

/-- the homotypic decorator: the element types (the class of the first element) must agree -/
theorem homo_eq (inferior : Obj → Obj → E Obj) (ra rb : List Scalar) (ha : ra ≠ []) (hb : rb ≠ []) :
    Gen.Ex.Set._Decorator.homotypic_binary_operator.wrapper env1 inferior (setObj ra) (setObj rb) =
      if setKind ra != setKind rb then .error .InvalidOperandError else inferior (setObj ra) (setObj rb) := by
  cases ra with
  | nil => exact absurd rfl ha
  | cons x xs => cases rb with
    | nil => exact absurd rfl hb
    | cons y ys => cases x <;> cases y <;> rfl

theorem ev_value_set (env : Py.Env) (raw : List Scalar) : Py.getattr env (setObj raw) "_value" = .ok (.fset (raw.map embS)) := rfl

/-- membership in the other set, on the normal forms -/
def memN (b : List Scalar) (x : Scalar) : Bool := decide (normS x ∈ b.map normS)

theorem w_is_equal (ra rb : List Scalar) :
    Gen.Ex.Set._is_equal_to.__wrapped__ env1 (setObj ra) (setObj rb) =
      .ok (.bool (ra.all (memN nfc rb) && rb.all (memN nfc ra))) := by
  show (do let l ← fsSubset env1 (ra.map embS) (rb.map embS); let r ← fsSubset env1 (rb.map embS) (ra.map embS); pure (Obj.bool (l && r))) = _
  rw [fsSubset_ok (sameSpec_embS nfc n), fsSubset_ok (sameSpec_embS nfc n)]
  rfl

theorem w_is_subset (ra rb : List Scalar) :
    Gen.Ex.Set._is_subset_of.__wrapped__ env1 (setObj ra) (setObj rb) = .ok (.bool (ra.all (memN nfc rb))) := by
  show (do let r ← fsSubset env1 (ra.map embS) (rb.map embS); pure (Obj.bool r)) = _
  rw [fsSubset_ok (sameSpec_embS nfc n)]
  rfl

theorem w_is_superset (ra rb : List Scalar) :
    Gen.Ex.Set._is_superset_of.__wrapped__ env1 (setObj ra) (setObj rb) = .ok (.bool (rb.all (memN nfc ra))) := by
  show (do let r ← fsSubset env1 (rb.map embS) (ra.map embS); pure (Obj.bool r)) = _
  rw [fsSubset_ok (sameSpec_embS nfc n)]
  rfl

theorem classOf_setObj (r : List Scalar) : classOf (setObj r) = .Set := rfl
theorem ev_isinstance_set_set (env : Py.Env) (r : List Scalar) : Py.isinstance Gen.Ex.mro env (setObj r) (.cls .Set) = .ok (.bool true) := rfl
theorem ev_bool_new (env : Py.Env) (t : Bool) : Gen.Ex.Boolean.__new__ env (.bool t) = .ok (embS (.bool t)) := rfl
theorem ev_isinstance_bool (env : Py.Env) (t : Bool) : Py.isinstance Gen.Ex.mro env (embS (.bool t)) (.cls .Boolean) = .ok (.bool true) := rfl
theorem ev_assert_true : Py.assert_ true = .ok () := rfl

/-- the result of a homotypic operator: rejected when the element types differ -/
def homoRes (ra rb : List Scalar) (v : E Obj) : E Obj :=
  if setKind ra != setKind rb then .error .InvalidOperandError else v

section decorated
variable (ra rb : List Scalar) (ha : ra ≠ []) (hb : rb ≠ [])
include ha hb

theorem d_is_equal : Gen.Ex.Set._is_equal_to env1 (setObj ra) (setObj rb) =
    homoRes ra rb (.ok (.bool (ra.all (memN nfc rb) && rb.all (memN nfc ra)))) := by
  unfold Gen.Ex.Set._is_equal_to; rw [homo_eq nfc n _ ra rb ha hb, w_is_equal]; rfl

theorem d_is_subset : Gen.Ex.Set._is_subset_of env1 (setObj ra) (setObj rb) =
    homoRes ra rb (.ok (.bool (ra.all (memN nfc rb)))) := by
  unfold Gen.Ex.Set._is_subset_of; rw [homo_eq nfc n _ ra rb ha hb, w_is_subset]; rfl

theorem d_is_superset : Gen.Ex.Set._is_superset_of env1 (setObj ra) (setObj rb) =
    homoRes ra rb (.ok (.bool (rb.all (memN nfc ra)))) := by
  unfold Gen.Ex.Set._is_superset_of; rw [homo_eq nfc n _ ra rb ha hb, w_is_superset]; rfl

theorem d_is_proper :
    Gen.Ex.Set._is_proper_subset_of env1 (setObj ra) (setObj rb) =
      homoRes ra rb (.ok (.bool (ra.all (memN nfc rb) && !(ra.all (memN nfc rb) && rb.all (memN nfc ra))))) ∧
    Gen.Ex.Set._is_proper_superset_of env1 (setObj ra) (setObj rb) =
      homoRes ra rb (.ok (.bool (rb.all (memN nfc ra) && !(ra.all (memN nfc rb) && rb.all (memN nfc ra))))) := by
  constructor <;>
  · simp only [Gen.Ex.Set._is_proper_subset_of, Gen.Ex.Set._is_proper_superset_of, homo_eq nfc n _ ra rb ha hb]
    unfold homoRes
    by_cases hk : (setKind ra != setKind rb) = true
    · simp only [hk, ↓reduceIte]
    · simp only [hk, Bool.false_eq_true, ↓reduceIte, Gen.Ex.Set._is_proper_subset_of.__wrapped__,
        Gen.Ex.Set._is_proper_superset_of.__wrapped__, d_is_subset nfc n ra rb ha hb, d_is_superset nfc n ra rb ha hb,
        d_is_equal nfc n ra rb ha hb, homoRes, ok_bind, truthy_bool]
      cases ra.all (memN nfc rb) <;> cases rb.all (memN nfc ra) <;> rfl

end decorated

/-- a result of the direct operator that is a value or an `InvalidOperandError` passes through `_auto_swap` unchanged -/
theorem wrapper_pass (env : Py.Env) (direct alt : Obj → Obj → E Obj) (a b : Val) (r : E Obj)
    (h : direct (emb a) (emb b) = r) (hr : r = .error .InvalidOperandError ∨ ∃ v, r = .ok (emb v)) :
    wrapper env direct alt (emb a) (emb b) = r := by
  rcases hr with rfl | ⟨v, rfl⟩
  · exact wrapper_err env direct alt a b _ h rfl
  · exact wrapper_ok env direct alt a b v h

theorem homoRes_form (ra rb : List Scalar) (r : E Obj) (hr : r = .error .InvalidOperandError ∨ ∃ w, r = .ok (emb w)) :
    homoRes ra rb r = .error .InvalidOperandError ∨ ∃ w, homoRes ra rb r = .ok (emb w) := by
  unfold homoRes
  split
  · exact Or.inl rfl
  · exact hr

def cmpRes (op : BinOp) (ra rb : List Scalar) : Bool :=
  match op with
  | .eq => ra.all (memN nfc rb) && rb.all (memN nfc ra)
  | .ne => !(ra.all (memN nfc rb) && rb.all (memN nfc ra))
  | .le => ra.all (memN nfc rb)
  | .ge => rb.all (memN nfc ra)
  | .lt => ra.all (memN nfc rb) && !(ra.all (memN nfc rb) && rb.all (memN nfc ra))
  | .gt => rb.all (memN nfc ra) && !(ra.all (memN nfc rb) && rb.all (memN nfc ra))
  | _ => false

section cmp
variable (ra rb : List Scalar) (ha : ra ≠ []) (hb : rb ≠ [])
include ha hb

theorem direct_cmp :
    (Gen.Ex.equal.__wrapped__ env1 (setObj ra) (setObj rb) = homoRes ra rb (.ok (emb (.sc (.bool (cmpRes nfc .eq ra rb)))))) ∧
    (Gen.Ex.less_or_equal.__wrapped__ env1 (setObj ra) (setObj rb) = homoRes ra rb (.ok (emb (.sc (.bool (cmpRes nfc .le ra rb)))))) ∧
    (Gen.Ex.greater_or_equal.__wrapped__ env1 (setObj ra) (setObj rb) = homoRes ra rb (.ok (emb (.sc (.bool (cmpRes nfc .ge ra rb)))))) ∧
    (Gen.Ex.less.__wrapped__ env1 (setObj ra) (setObj rb) = homoRes ra rb (.ok (emb (.sc (.bool (cmpRes nfc .lt ra rb)))))) ∧
    (Gen.Ex.greater.__wrapped__ env1 (setObj ra) (setObj rb) = homoRes ra rb (.ok (emb (.sc (.bool (cmpRes nfc .gt ra rb)))))) := by
  refine ⟨?_, ?_, ?_, ?_, ?_⟩ <;>
  · dsimp only [Gen.Ex.equal.__wrapped__, Gen.Ex.less_or_equal.__wrapped__, Gen.Ex.greater_or_equal.__wrapped__, Gen.Ex.less.__wrapped__,
      Gen.Ex.greater.__wrapped__, Gen.Ex.dispatch._equal, Gen.Ex.dispatch._less_or_equal, Gen.Ex.dispatch._greater_or_equal,
      Gen.Ex.dispatch._less, Gen.Ex.dispatch._greater, classOf_setObj]
    simp only [Gen.Ex.Set._equal, Gen.Ex.Set._less_or_equal, Gen.Ex.Set._greater_or_equal, Gen.Ex.Set._less, Gen.Ex.Set._greater,
      ev_isinstance_set_set, ok_bind, truthy_bool, ↓reduceIte, d_is_equal nfc n ra rb ha hb, d_is_subset nfc n ra rb ha hb,
      d_is_superset nfc n ra rb ha hb, (d_is_proper nfc n ra rb ha hb).1, (d_is_proper nfc n ra rb ha hb).2, homoRes, cmpRes]
    split <;> rfl

/-- comparison of two sets: `==` / `!=` extensional, `<=` `>=` sub / superset, `<` `>` proper; rejected when the element types differ -/
theorem gen_set_cmp (op : BinOp) (hop : op = .eq ∨ op = .ne ∨ op = .le ∨ op = .ge ∨ op = .lt ∨ op = .gt) :
    genBin op env1 (setObj ra) (setObj rb) = homoRes ra rb (.ok (emb (.sc (.bool (cmpRes nfc op ra rb))))) := by
  have hw : ∀ (o : BinOp) (direct alt : Obj → Obj → E Obj),
      direct (setObj ra) (setObj rb) = homoRes ra rb (.ok (emb (.sc (.bool (cmpRes nfc o ra rb))))) →
      wrapper env1 direct alt (setObj ra) (setObj rb) = homoRes ra rb (.ok (emb (.sc (.bool (cmpRes nfc o ra rb))))) :=
    fun o direct alt h => wrapper_pass env1 direct alt (.set ra) (.set rb) _ h (homoRes_form ra rb _ (Or.inr ⟨_, rfl⟩))
  have hd := direct_cmp nfc n ra rb ha hb
  have heq := hw .eq (Gen.Ex.equal.__wrapped__ env1) (Gen.Ex.dispatch._equal env1) hd.1
  rcases hop with rfl | rfl | rfl | rfl | rfl | rfl
  · exact heq
  · show (do let t ← Gen.Ex.equal env1 (setObj ra) (setObj rb); let t2 ← Gen.Ex.logical_not env1 t; let r := t2
             let t3 ← Py.isinstance Gen.Ex.mro env1 r (.cls .Boolean); let c ← Py.truthy env1 t3; Py.assert_ c; pure r) = _
    show (do let t ← wrapper env1 (Gen.Ex.equal.__wrapped__ env1) (Gen.Ex.dispatch._equal env1) (setObj ra) (setObj rb); _) = _
    rw [heq]
    unfold homoRes cmpRes
    split
    · rfl
    · cases (ra.all (memN nfc rb) && rb.all (memN nfc ra)) <;> rfl
  · exact hw .le (Gen.Ex.less_or_equal.__wrapped__ env1) (Gen.Ex.dispatch._greater_or_equal env1) hd.2.1
  · exact hw .ge (Gen.Ex.greater_or_equal.__wrapped__ env1) (Gen.Ex.dispatch._less_or_equal env1) hd.2.2.1
  · exact hw .lt (Gen.Ex.less.__wrapped__ env1) (Gen.Ex.dispatch._greater env1) hd.2.2.2.1
  · exact hw .gt (Gen.Ex.greater.__wrapped__ env1) (Gen.Ex.dispatch._less env1) hd.2.2.2.2

end cmp

/-! ### union, intersection, symmetric difference -/

theorem ev_fs_union (env : Py.Env) (xs ys : List Obj) :
    Py.fs_union env (.fset xs) (.fset ys) = (fsOfList env (xs ++ ys) >>= fun s => pure (.fset s)) := rfl
theorem ev_fs_intersection (env : Py.Env) (xs ys : List Obj) :
    Py.fs_intersection env (.fset xs) (.fset ys) = (filterE (fun e => fsContains env ys e) xs >>= fun s => pure (.fset s)) := rfl
theorem ev_fs_symdiff (env : Py.Env) (xs ys : List Obj) :
    Py.fs_symmetric_difference env (.fset xs) (.fset ys) =
      (filterE (fun e => do pure (!(← fsContains env ys e))) xs >>= fun l =>
        filterE (fun e => do pure (!(← fsContains env xs e))) ys >>= fun r =>
          fsOfList env (l ++ r) >>= fun s => pure (.fset s)) := rfl
theorem ev_op_or_fset (env : Py.Env) (xs ys : List Obj) : Py.op_or env (.fset xs) (.fset ys) = Py.fs_union env (.fset xs) (.fset ys) := rfl
theorem ev_op_and_fset (env : Py.Env) (xs ys : List Obj) :
    Py.op_and env (.fset xs) (.fset ys) = Py.fs_intersection env (.fset xs) (.fset ys) := rfl
theorem ev_op_xor_fset (env : Py.Env) (xs ys : List Obj) :
    Py.op_xor env (.fset xs) (.fset ys) = Py.fs_symmetric_difference env (.fset xs) (.fset ys) := rfl
theorem ev_set_new_fset (xs : List Obj) : Gen.Ex.Set.__new__ env1 (.fset xs) = Gen.Ex.Set.__new__ env1 (.list xs) := rfl

theorem set_new_ewRes (l : List Scalar) : Gen.Ex.Set.__new__ env1 (.list (l.map embS)) = ewRes nfc (.ok l) := gen_set_new nfc n l

theorem w_union (ra rb : List Scalar) :
    Gen.Ex.Set._create_union_with.__wrapped__ env1 (setObj ra) (setObj rb) = ewRes nfc (.ok (dedupK normS (ra ++ rb))) := by
  unfold Gen.Ex.Set._create_union_with.__wrapped__
  simp only [ev_value_set, ok_bind, ev_op_or_fset, ev_fs_union, ← List.map_append, fsOfList_ok (sameSpec_embS nfc n), pure_eq_ok, ev_set_new_fset,
    set_new_ewRes]

theorem w_intersection (ra rb : List Scalar) :
    Gen.Ex.Set._create_intersection_with.__wrapped__ env1 (setObj ra) (setObj rb) = ewRes nfc (.ok (ra.filter (memN nfc rb))) := by
  unfold Gen.Ex.Set._create_intersection_with.__wrapped__
  simp only [ev_value_set, ok_bind, ev_op_and_fset, ev_fs_intersection, filterE_contains_ok (sameSpec_embS nfc n), pure_eq_ok, ev_set_new_fset,
    set_new_ewRes]
  rfl

theorem w_symdiff (ra rb : List Scalar) :
    Gen.Ex.Set._create_disjunctive_union_with.__wrapped__ env1 (setObj ra) (setObj rb) =
      ewRes nfc (.ok (dedupK normS (ra.filter (fun x => !memN nfc rb x) ++ rb.filter (fun x => !memN nfc ra x)))) := by
  unfold Gen.Ex.Set._create_disjunctive_union_with.__wrapped__
  simp only [ev_value_set, ok_bind, ev_op_xor_fset, ev_fs_symdiff, filterE_not_contains_ok (sameSpec_embS nfc n)]
  simp only [ok_bind, pure_eq_ok, ← List.map_append, fsOfList_ok (sameSpec_embS nfc n), ev_set_new_fset, set_new_ewRes]
  rfl

theorem ewRes_form (l : List Scalar) :
    ewRes nfc (.ok l) = .error .InvalidOperandError ∨ ∃ w, ewRes nfc (.ok l) = .ok (emb w) := by
  show (if l = [] then _ else if sameKinds l then _ else _) = _ ∨ ∃ w, (if l = [] then _ else if sameKinds l then _ else _) = _
  split
  · exact Or.inl rfl
  · split
    · exact Or.inr ⟨.set _, rfl⟩
    · exact Or.inl rfl

/-- the list of elements the set algebra operators hand to `Set(...)` -/
def algList (op : BinOp) (ra rb : List Scalar) : List Scalar :=
  match op with
  | .bor => dedupK normS (ra ++ rb)
  | .band => ra.filter (memN nfc rb)
  | _ => dedupK normS (ra.filter (fun x => !memN nfc rb x) ++ rb.filter (fun x => !memN nfc ra x))

/-- `|`, `&`, `^` on two sets; rejected when the element types differ or the result is empty -/
theorem gen_set_alg (ra rb : List Scalar) (ha : ra ≠ []) (hb : rb ≠ []) (op : BinOp) (hop : op = .bor ∨ op = .band ∨ op = .bxor) :
    genBin op env1 (setObj ra) (setObj rb) = homoRes ra rb (ewRes nfc (.ok (algList nfc op ra rb))) := by
  rcases hop with rfl | rfl | rfl <;>
  · refine wrapper_pass env1 _ _ (.set ra) (.set rb) _ ?_ (homoRes_form ra rb _ (ewRes_form nfc _))
    dsimp only [Gen.Ex.bitwise_or.__wrapped__, Gen.Ex.bitwise_and.__wrapped__, Gen.Ex.bitwise_xor.__wrapped__, Gen.Ex.dispatch._bitwise_or,
      Gen.Ex.dispatch._bitwise_and, Gen.Ex.dispatch._bitwise_xor, emb, classOf_setObj]
    simp only [Gen.Ex.Set._bitwise_or, Gen.Ex.Set._bitwise_and, Gen.Ex.Set._bitwise_xor, Gen.Ex.Set._create_union_with,
      Gen.Ex.Set._create_intersection_with, Gen.Ex.Set._create_disjunctive_union_with, ev_isinstance_set_set, ok_bind, truthy_bool,
      ↓reduceIte, homo_eq nfc n _ ra rb ha hb, w_union, w_intersection, w_symdiff, bind_pure]
    rfl

/-! ### against the model -/

theorem setKind_map (ra : List Scalar) : setKind (ra.map normS) = setKind ra := by
  cases ra with
  | nil => rfl
  | cons x xs => simp [setKind, @normSc_kind SN]

theorem subsetL_map (ra rb : List Scalar) : subsetL (ra.map normS) (rb.map normS) = ra.all (memN nfc rb) := by
  unfold subsetL memN
  rw [List.all_map]
  rfl

theorem dedup_of_nodup (l : List Scalar) (h : l.Nodup) : dedup l = l := by
  induction l with
  | nil => rfl
  | cons x xs ih =>
    rw [List.nodup_cons] at h
    simp only [dedup, ih h.2, h.1, ↓reduceIte]

theorem mkSetS_dedup (es : List Scalar) : mkSetS (dedup es) = mkSetS es := by
  unfold mkSetS
  have h1 : (dedup es).isEmpty = es.isEmpty := by
    cases es with
    | nil => rfl
    | cons x xs =>
      have : dedup (x :: xs) ≠ [] := fun h => by
        have := (dedup_eq_nil (x :: xs)).mp h; cases this
      cases hd : dedup (x :: xs) with
      | nil => exact absurd hd this
      | cons _ _ => rfl
  have h2 : sameKinds (dedup es) = sameKinds es := by
    rw [Bool.eq_iff_iff, sameKinds_iff, sameKinds_iff]
    constructor
    · intro h x hx y hy; exact h x ((mem_dedup x es).mpr hx) y ((mem_dedup y es).mpr hy)
    · intro h x hx y hy; exact h x ((mem_dedup x es).mp hx) y ((mem_dedup y es).mp hy)
  rw [h1, h2, dedup_of_nodup _ (nodup_dedup es)]

theorem filter_map_normS (p : Scalar → Bool) (l : List Scalar) :
    (l.map normS).filter p = (l.filter (fun x => p (normS x))).map normS := by
  rw [List.filter_map]; rfl

/-- the model's list for a set algebra operator is the list of normal forms of the generated code's list, up to the
    duplicates that `Set(...)` removes anyway -/
theorem mkSetS_algList (ra rb : List Scalar) (op : BinOp) (hop : op = .bor ∨ op = .band ∨ op = .bxor) :
    mkSetS ((algList nfc op ra rb).map normS) =
      (match op with
       | .bor => mkSetS (ra.map normS ++ rb.map normS)
       | .band => mkSetS ((ra.map normS).filter (· ∈ rb.map normS))
       | _ => mkSetS ((ra.map normS).filter (· ∉ rb.map normS) ++ (rb.map normS).filter (· ∉ ra.map normS))) := by
  rcases hop with rfl | rfl | rfl
  · show mkSetS ((dedupK normS (ra ++ rb)).map normS) = _
    rw [← dedup_map_normS, mkSetS_dedup, List.map_append]
  · show mkSetS ((ra.filter (memN nfc rb)).map normS) = mkSetS ((ra.map normS).filter (· ∈ rb.map normS))
    rw [filter_map_normS]; rfl
  · show mkSetS ((dedupK normS (ra.filter (fun x => !memN nfc rb x) ++ rb.filter (fun x => !memN nfc ra x))).map normS) = _
    have e : ∀ a b : List Scalar, (a.map normS).filter (· ∉ b.map normS) = (a.filter (fun x => !memN nfc b x)).map normS := by
      intro a b
      rw [filter_map_normS]; congr 1; apply List.filter_congr; intro x _
      show decide (¬ normS x ∈ b.map normS) = !decide (normS x ∈ b.map normS)
      exact decide_not
    rw [← dedup_map_normS, mkSetS_dedup, List.map_append, e, e]

/-- **Two sets.** -/
theorem gen_set_set (ra rb : List Scalar) (ha : ra ≠ []) (hb : rb ≠ []) (op : BinOp) :
    Agree nfc (genBin op env1 (setObj ra) (setObj rb)) (@evalBin SN op (.set (ra.map normS)) (.set (rb.map normS))) := by
  show Agree nfc _ (setSet op (ra.map normS) (rb.map normS))
  have hcmp : (op = .eq ∨ op = .ne ∨ op = .le ∨ op = .ge ∨ op = .lt ∨ op = .gt) →
      Agree nfc (genBin op env1 (setObj ra) (setObj rb))
        (if setKind ra != setKind rb then inval .hetero else .ok (.bool (cmpRes nfc op ra rb))) := by
    intro ho
    rw [gen_set_cmp nfc n ra rb ha hb op ho]
    unfold homoRes
    split
    · rfl
    · exact ⟨_, rfl, (Abs.sc (Scalar.bool (cmpRes nfc op ra rb)) : Abs nfc (embS _) (.sc _))⟩
  have halg : (op = .bor ∨ op = .band ∨ op = .bxor) →
      Agree nfc (genBin op env1 (setObj ra) (setObj rb))
        (if setKind ra != setKind rb then inval .hetero else mkSetS ((algList nfc op ra rb).map normS)) := by
    intro ho
    rw [gen_set_alg nfc n ra rb ha hb op ho]
    unfold homoRes
    split
    · rfl
    · exact agree_ewRes nfc (.ok _)
  cases op
  case eq | ne | le | ge | lt | gt => simpa only [setSet, setKind_map, setEq, subsetL_map, cmpRes] using hcmp (by simp)
  case bor | band | bxor =>
    have h := halg (by simp)
    rw [mkSetS_algList nfc ra rb _ (by simp)] at h
    simpa only [setSet, setKind_map] using h
  -- the logical and the arithmetic operators are undefined on both sides
  all_goals rfl

end
end BridgeEx
