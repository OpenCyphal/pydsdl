import Gen.Constant
import Model.Const
import Bridge.Basic
import Bridge.EvalOrder
import Proofs.Const
/-!
  Bridge for the constant compliance rules (`Gen/Constant.lean`, rewritten from the working tree of /repo on every run: `Constant.__init__`
  of `_serializable/_attribute.py`, the constructors / `inclusive_value_range` / class hierarchy of `_serializable/_primitive.py`,
  `Rational` / `String` of `_expression/_primitive.py`).

  `genConst ty v` is the generated code run the way a definition `<type> NAME = <initialiser>` runs it: the constructor of the type
  named by `ty`, then `Constant.__init__` on the object and the value.  `gen_const` proves, for every type descriptor and every value of
  the model, that it returns exactly what `Ex.constCheck` predicts: the same stored value when the model accepts, and a named pydsdl
  exception (`errName`, always a subclass of `InvalidDefinitionError`) when the model rejects - never an `assert`, an `AttributeError`,
  a `KeyError` or a step outside the translated fragment.
-/
set_option linter.unusedSimpArgs false
set_option linter.unusedVariables false
set_option linter.unnecessarySeqFocus false
set_option linter.unusedTactic false
set_option linter.unreachableTactic false
open Ex

namespace Bridge

@[simp] theorem attr_some {α : Type} (x : α) : Py.attr (some x) = .ok x := rfl
@[simp] theorem throwC {α : Type} (e : Py.Err) : (throw e : Py.M α) = Except.error e := rfl
@[simp] theorem error_bindC {α β : Type} (e : Py.Err) (f : α → Py.M β) : (Except.error e >>= f) = Except.error e := rfl

/-! ### The correspondence between the model's descriptors and the objects of the code -/

def pyMode : CastMode → Py.CastMode
  | .saturated => .SATURATED
  | .truncated => .TRUNCATED

def pyVal : Val → Py.Value
  | .sc (.rat q) => .Rational q
  | .sc (.bool b) => .Boolean b
  | .sc (.str cs) => .String cs
  | .set _ => .Set

/-- what the parser constructs for the type expression on the left of a constant definition (`.other`: any class that is not
    defined in `_primitive.py`: void, arrays, composites) -/
def mkTy : CTy → Py.M Py.Ty
  | .bool => Gen.Cst.BooleanType.new
  | .uint n m => Gen.Cst.UnsignedIntegerType.new (n : Int) (pyMode m)
  | .int n m => Gen.Cst.SignedIntegerType.new (n : Int) (pyMode m)
  | .float n m => Gen.Cst.FloatType.new (n : Int) (pyMode m)
  | .other => pure (.other "VoidType")

/-- `<type> NAME = <initialiser>`: the type is constructed, then the constant -/
def genConst (ty : CTy) (v : Val) : Py.M Py.Value := do
  let t ← mkTy ty
  Gen.Cst.Constant.init t (pyVal v)

/-- the exception class of a rejection -/
def errName (ty : CTy) (v : Val) : String :=
  match ty with
  | .bool => "InvalidConstantValueError"
  | .uint n _ => if 1 ≤ n ∧ n ≤ 64 then "InvalidConstantValueError" else "InvalidBitLengthError"
  | .int n m =>
      if 2 ≤ n ∧ n ≤ 64 then (if m = .saturated then "InvalidConstantValueError" else "InvalidCastModeError")
      else "InvalidBitLengthError"
  | .float n _ => if n = 16 ∨ n = 32 ∨ n = 64 then "InvalidConstantValueError" else "InvalidBitLengthError"
  | .other => match v with
    | .set _ => "InvalidConstantValueError"
    | _ => "InvalidTypeError"

/-- the model's prediction in the vocabulary of the code -/
def expected (ty : CTy) (v : Val) : Py.M Py.Value :=
  match constCheck ty v with
  | .ok v' => .ok (pyVal v')
  | .error _ => .error (.other (errName ty v))

/-! ### Constructors -/

theorem prim_init (n : Int) (cm : Py.CastMode) :
    Gen.Cst.PrimitiveType.init n cm =
      if 1 ≤ n ∧ n ≤ 64 then .ok { bit_length := some n, cast_mode := some cm } else .error (.other "InvalidBitLengthError") := by
  simp only [Gen.Cst.PrimitiveType.init, attr_some, ok_bind, pure_eq_ok]
  by_cases h1 : n < 1 <;> by_cases h2 : n > 64 <;> simp [h1, h2] <;> omega

theorem arith_init (n : Int) (cm : Py.CastMode) : Gen.Cst.ArithmeticType.init n cm = Gen.Cst.PrimitiveType.init n cm := by
  simp only [Gen.Cst.ArithmeticType.init]

theorem integer_init (n : Int) (cm : Py.CastMode) : Gen.Cst.IntegerType.init n cm = Gen.Cst.PrimitiveType.init n cm := by
  simp only [Gen.Cst.IntegerType.init, arith_init]

theorem uint_init (n : Int) (cm : Py.CastMode) : Gen.Cst.UnsignedIntegerType.init n cm = Gen.Cst.PrimitiveType.init n cm := by
  simp only [Gen.Cst.UnsignedIntegerType.init, integer_init]

theorem bool_new : Gen.Cst.BooleanType.new = .ok (.prim .BooleanType { bit_length := some 1, cast_mode := some .SATURATED }) := by
  simp [Gen.Cst.BooleanType.new, Gen.Cst.BooleanType.init, prim_init]

theorem byte_new : Gen.Cst.ByteType.new = .ok (.prim .ByteType { bit_length := some 8, cast_mode := some .TRUNCATED }) := by
  simp [Gen.Cst.ByteType.new, Gen.Cst.ByteType.init, uint_init, prim_init]

theorem utf8_new : Gen.Cst.UTF8Type.new = .ok (.prim .UTF8Type { bit_length := some 8, cast_mode := some .TRUNCATED }) := by
  simp [Gen.Cst.UTF8Type.new, Gen.Cst.UTF8Type.init, uint_init, prim_init]

theorem uint_new (n : Int) (cm : Py.CastMode) :
    Gen.Cst.UnsignedIntegerType.new n cm =
      if 1 ≤ n ∧ n ≤ 64 then .ok (.prim .UnsignedIntegerType { bit_length := some n, cast_mode := some cm })
      else .error (.other "InvalidBitLengthError") := by
  simp only [Gen.Cst.UnsignedIntegerType.new, uint_init, prim_init]
  split <;> rfl

theorem int_new (n : Int) (cm : Py.CastMode) :
    Gen.Cst.SignedIntegerType.new n cm =
      if 2 ≤ n ∧ n ≤ 64 then
        (if cm = .SATURATED then .ok (.prim .SignedIntegerType { bit_length := some n, cast_mode := some cm })
         else .error (.other "InvalidCastModeError"))
      else .error (.other "InvalidBitLengthError") := by
  simp only [Gen.Cst.SignedIntegerType.new, Gen.Cst.SignedIntegerType.init, integer_init, prim_init]
  by_cases h1 : 1 ≤ n ∧ n ≤ 64
  · by_cases h2 : n < 2
    · have : ¬ (2 ≤ n ∧ n ≤ 64) := by omega
      simp [h1, h2, this]
    · have : 2 ≤ n ∧ n ≤ 64 := by omega
      cases cm <;> simp [h1, h2, this]
  · have : ¬ (2 ≤ n ∧ n ≤ 64) := by omega
    simp [h1, this]

section
attribute [local congr] bind_congr_head ite_congr_cond

theorem float_new (n : Nat) (cm : Py.CastMode) :
    Gen.Cst.FloatType.new (n : Int) cm =
      if n = 16 ∨ n = 32 ∨ n = 64 then
        .ok (.prim .FloatType { bit_length := some (n : Int), cast_mode := some cm, magnitude := some (floatMagnitude n) })
      else .error (.other "InvalidBitLengthError") := by
  by_cases h : n = 16 ∨ n = 32 ∨ n = 64
  · -- the three rows of the table of limits
    rw [if_pos h]
    rcases h with rfl | rfl | rfl <;> cases cm <;> decide +kernel
  · rw [if_neg h]
    have e16 : ((16 : Int) == (n : Int)) = false := by simp; omega
    have e32 : ((32 : Int) == (n : Int)) = false := by simp; omega
    have e64 : ((64 : Int) == (n : Int)) = false := by simp; omega
    by_cases hr : 1 ≤ n ∧ n ≤ 64
    · -- the entries of the table are not looked at: the powers stay as they are written
      simp [Gen.Cst.FloatType.new, Gen.Cst.FloatType.init, arith_init, prim_init, Py.tryExcept, Py.intPow, Py.fracPow, Gen.Cst.PrimitiveType.bit_length,
        Py.dictIndex, hr, e16, e32, e64, Py.Err.isKeyError, -Nat.reducePow, -Int.reducePow]
    · simp [Gen.Cst.FloatType.new, Gen.Cst.FloatType.init, arith_init, prim_init, hr]

end

/-! ### Value ranges -/

theorem intShl_nat (a : Int) (n : Nat) : Py.intShl a (n : Int) = .ok (a * 2 ^ n) := by
  simp [Py.intShl]

theorem intPow_nat (a : Int) (n : Nat) : Py.intPow a (n : Int) = .ok (a ^ n) := by
  simp [Py.intPow]

theorem intFloordiv_two (a : Int) : Py.intFloordiv a 2 = .ok (a / 2) := by
  simp [Py.intFloordiv, Int.fdiv_eq_ediv_of_nonneg]

theorem intShr_nonneg (a n : Int) (h : 0 ≤ n) : Py.intShr a n = .ok (a / 2 ^ n.toNat) := by
  simp [Py.intShr, not_lt.mpr h, Int.shiftRight_eq_div_pow]

theorem intShr_one (a : Int) : Py.intShr a 1 = .ok (a / 2) := by
  simpa using intShr_nonneg a 1 (by decide)

theorem shl_cast (n : Nat) : (((1 <<< n : Nat) : Nat) : Int) = 2 ^ n := by
  simp [Nat.one_shiftLeft]

theorem uint_range (n : Nat) (cm : Option Py.CastMode) :
    Gen.Cst.UnsignedIntegerType.inclusive_value_range { bit_length := some (n : Int), cast_mode := cm } =
      .ok ((((uintRange n).1 : Int) : Rat), (((uintRange n).2 : Int) : Rat)) := by
  simp only [Gen.Cst.UnsignedIntegerType.inclusive_value_range, Gen.Cst.PrimitiveType.bit_length, attr_some, ok_bind, pure_eq_ok,
    intShl_nat, intPow_nat, uintRange, shl_cast, one_mul] <;>
  first
  | rfl
  | (congr 2 <;> (push_cast; ring_nf); done)
  | (-- spellings that test the sign of `2 ^ n - 1` (never negative)
     have hp : (1 : Int) ≤ 2 ^ n := one_le_pow₀ (by norm_num)
     have h1 : (0 : Int) ≤ 2 ^ n - 1 := by omega
     have h2 : (0 : Int) ≤ -1 + 2 ^ n := by omega
     have h3 : ¬ ((2 : Int) ^ n - 1 < 0) := by omega
     have h4 : ¬ (-1 + (2 : Int) ^ n < 0) := by omega
     have h5 : ¬ ((2 : Int) ^ n < 1) := by omega
     simp [h1, h2, h3, h4, h5, hp]
     try (congr 2 <;> (push_cast; ring_nf)))

theorem int_range (n : Nat) (cm : Option Py.CastMode) :
    Gen.Cst.SignedIntegerType.inclusive_value_range { bit_length := some (n : Int), cast_mode := cm } =
      .ok ((((intRange n).1 : Int) : Rat), (((intRange n).2 : Int) : Rat)) := by
  simp only [Gen.Cst.SignedIntegerType.inclusive_value_range, Gen.Cst.PrimitiveType.bit_length, attr_some, ok_bind, pure_eq_ok,
    intShl_nat, intPow_nat, intFloordiv_two, intShr_one, intRange, shl_cast, one_mul] <;>
  first
  | rfl
  | (congr 2 <;> (push_cast; ring_nf))

theorem float_range (bl : Option Int) (cm : Option Py.CastMode) (q : Rat) :
    Gen.Cst.FloatType.inclusive_value_range { bit_length := bl, cast_mode := cm, magnitude := some q } = .ok (-q, q) := by
  simp only [Gen.Cst.FloatType.inclusive_value_range, attr_some, ok_bind, pure_eq_ok]

/-! ### `Constant.__init__` -/

theorem den_beq (q : Rat) : (Py.fracDenominator q == 1) = Rat.isInt' q := by
  simp only [Py.fracDenominator, Rat.isInt']
  by_cases h : q.den = 1 <;> simp [h]

theorem utf8Encode1_length (c : Nat) : (Py.utf8Encode1 c).length = utf8Len c := by
  unfold Py.utf8Encode1 utf8Len
  split <;> [rfl; (split <;> [rfl; (split <;> rfl)])]

theorem encode_length (cs : List Nat) : (Py.encodeUtf8Surrogatepass cs).length = (cs.map utf8Len).sum := by
  induction cs with
  | nil => rfl
  | cons c cs ih =>
    simp only [Py.encodeUtf8Surrogatepass, List.map_cons, List.flatten_cons, List.length_append, List.sum_cons, utf8Encode1_length] at ih ⊢
    rw [ih]

/-- the six class tests of `Constant.__init__` on an object of each concrete class -/
theorem ty_isinstance (cls : Py.PrimCls) (o : Py.Obj) (c : String) :
    Py.Ty.isinstance Gen.Cst.Primitive.mro (.prim cls o) c = (Gen.Cst.Primitive.mro cls).contains c := rfl

/-- closes a goal that compares two spellings of "`q` is (an integer and) inside `[lo, hi]`" by deciding the three atoms; independent of
    how the source spells the comparison (chained, negated, as a disjunction of strict inequalities) -/
macro "decide_range" i:term "," lo:term "," hi:term "," q:term : tactic =>
  `(tactic| (
    simp only [← not_le, gt_iff_lt, ge_iff_le]
    by_cases h1 : $lo ≤ $q <;> by_cases h2 : $q ≤ $hi <;> cases h0 : ($i : Bool) <;> first | (simp at h0; done) | simp [h1, h2, h0]))

section
variable (n : Nat) (cm : Option Py.CastMode)

theorem init_set (t : Py.Ty) : Gen.Cst.Constant.init t .Set = .error (.other "InvalidConstantValueError") := by
  simp [Gen.Cst.Constant.init, Py.Value.isinstance, Gen.Cst.Expression.mro, Py.Value.cls]

theorem init_uint_rat (m : CastMode) (q : Rat) :
    Gen.Cst.Constant.init (.prim .UnsignedIntegerType { bit_length := some (n : Int), cast_mode := cm }) (.Rational q) =
      if Rat.isInt' q && inRange (.uint n m) q then .ok (.Rational q) else .error (.other "InvalidConstantValueError") := by
  simp [Gen.Cst.Constant.init, ty_isinstance, Gen.Cst.Primitive.mro, Py.Value.isinstance, Gen.Cst.Expression.mro, Py.Value.cls, Py.Value.asRational,
    Gen.Cst.Rational.is_integer, den_beq, Gen.Cst.Ty.inclusive_value_range, uint_range, Gen.Cst.Rational.native_value, inRange, CTy.range]
  decide_range Rat.isInt' q, (((uintRange n).1 : Int) : Rat), (((uintRange n).2 : Int) : Rat), q

theorem init_uint_bool (b : Bool) :
    Gen.Cst.Constant.init (.prim .UnsignedIntegerType { bit_length := some (n : Int), cast_mode := cm }) (.Boolean b) =
      .error (.other "InvalidConstantValueError") := by
  simp [Gen.Cst.Constant.init, ty_isinstance, Gen.Cst.Primitive.mro, Py.Value.isinstance, Gen.Cst.Expression.mro, Py.Value.cls]

theorem init_uint_str (cs : List Nat) :
    Gen.Cst.Constant.init (.prim .UnsignedIntegerType { bit_length := some (n : Int), cast_mode := cm }) (.String cs) =
      if (cs.map utf8Len).sum != 1 then .error (.other "InvalidConstantValueError")
      else if n != 8 then .error (.other "InvalidConstantValueError")
      else match cs with
        | [c] => .ok (.Rational ((c : Nat) : Rat))
        | _ => .error (.other "InvalidConstantValueError") := by
  simp [Gen.Cst.Constant.init, ty_isinstance, Gen.Cst.Primitive.mro, Py.Value.isinstance, Gen.Cst.Expression.mro, Py.Value.cls, Py.Value.asString,
    Gen.Cst.String.native_value, encode_length, Gen.Cst.Ty.bit_length, Gen.Cst.PrimitiveType.bit_length, Gen.Cst.Rational.new,
    Py.Value.asRational, Gen.Cst.Ty.inclusive_value_range, uint_range, Gen.Cst.Rational.native_value]
  -- what is left: the two guards and the range check of the code point, however the source spells them
  by_cases hl : (cs.map utf8Len).sum = 1
  · obtain ⟨c, rfl, hc⟩ := (utf8_sum_eq_one cs).mp hl
    rcases Nat.lt_trichotomy n 8 with h8 | rfl | h8
    · have a1 : ¬ (8 < n) := by omega
      have a2 : ¬ (8 ≤ n) := by omega
      have a3 : n ≤ 8 := by omega
      have a4 : n ≠ 8 := by omega
      have a5 : ¬ ((n : Int) = 8) := by omega
      simp [(utf8Len_eq_one c).mpr hc, h8, a1, a2, a3, a4, a5]
    · have k255 : c ≤ 255 := by omega
      have l255 : ¬ (255 < c) := by omega
      have i255 : (c : Int) ≤ 255 := by omega
      have j255 : ¬ ((255 : Int) < (c : Int)) := by omega
      have g255 : (c : Rat) ≤ 255 := by exact_mod_cast k255
      have h255 : ¬ ((255 : Rat) < (c : Rat)) := not_lt.mpr g255
      have g255' : ((c : Int) : Rat) ≤ 255 := by exact_mod_cast k255
      have h255' : ¬ ((255 : Rat) < ((c : Int) : Rat)) := not_lt.mpr g255'
      have j0 : ¬ ((c : Int) < 0) := by omega
      have h0 : ¬ ((c : Rat) < 0) := not_lt.mpr (Nat.cast_nonneg c)
      have h0' : ¬ (((c : Int) : Rat) < 0) := not_lt.mpr (by exact_mod_cast Nat.zero_le c)
      simp [(utf8Len_eq_one c).mpr hc, Py.encodeUtf8Surrogatepass, Py.utf8Encode1, hc, Py.ordBytes, uintRange, k255, l255, i255, j255,
        g255, h255, g255', h255', j0, h0, h0']
    · have b1 : ¬ (n < 8) := by omega
      have b2 : ¬ (n ≤ 8) := by omega
      have b3 : 8 ≤ n := by omega
      have b4 : n ≠ 8 := by omega
      have b5 : ¬ ((n : Int) = 8) := by omega
      simp [(utf8Len_eq_one c).mpr hc, h8, b1, b2, b3, b4, b5]
  · simp [hl]

theorem init_int_rat (m : CastMode) (q : Rat) :
    Gen.Cst.Constant.init (.prim .SignedIntegerType { bit_length := some (n : Int), cast_mode := cm }) (.Rational q) =
      if Rat.isInt' q && inRange (.int n m) q then .ok (.Rational q) else .error (.other "InvalidConstantValueError") := by
  simp [Gen.Cst.Constant.init, ty_isinstance, Gen.Cst.Primitive.mro, Py.Value.isinstance, Gen.Cst.Expression.mro, Py.Value.cls, Py.Value.asRational,
    Gen.Cst.Rational.is_integer, den_beq, Gen.Cst.Ty.inclusive_value_range, int_range, Gen.Cst.Rational.native_value, inRange, CTy.range]
  decide_range Rat.isInt' q, (((intRange n).1 : Int) : Rat), (((intRange n).2 : Int) : Rat), q

theorem init_int_bool (b : Bool) :
    Gen.Cst.Constant.init (.prim .SignedIntegerType { bit_length := some (n : Int), cast_mode := cm }) (.Boolean b) =
      .error (.other "InvalidConstantValueError") := by
  simp [Gen.Cst.Constant.init, ty_isinstance, Gen.Cst.Primitive.mro, Py.Value.isinstance, Gen.Cst.Expression.mro, Py.Value.cls]

theorem init_int_str (cs : List Nat) :
    Gen.Cst.Constant.init (.prim .SignedIntegerType { bit_length := some (n : Int), cast_mode := cm }) (.String cs) =
      .error (.other "InvalidConstantValueError") := by
  by_cases hl : ((Py.encodeUtf8Surrogatepass cs).length : Int) = 1 <;>
  simp [Gen.Cst.Constant.init, ty_isinstance, Gen.Cst.Primitive.mro, Py.Value.isinstance, Gen.Cst.Expression.mro, Py.Value.cls, Py.Value.asString,
    Gen.Cst.String.native_value, hl]

theorem init_float_rat (m : CastMode) (q : Rat) :
    Gen.Cst.Constant.init (.prim .FloatType { bit_length := some (n : Int), cast_mode := cm, magnitude := some (floatMagnitude n) }) (.Rational q) =
      if inRange (.float n m) q then .ok (.Rational q) else .error (.other "InvalidConstantValueError") := by
  simp [Gen.Cst.Constant.init, ty_isinstance, Gen.Cst.Primitive.mro, Py.Value.isinstance, Gen.Cst.Expression.mro, Py.Value.cls, Py.Value.asRational,
    Gen.Cst.Ty.inclusive_value_range, float_range, Gen.Cst.Rational.native_value, inRange, CTy.range]
  decide_range true, (-floatMagnitude n), (floatMagnitude n), q

theorem init_float_bool (mg : Option Rat) (b : Bool) :
    Gen.Cst.Constant.init (.prim .FloatType { bit_length := some (n : Int), cast_mode := cm, magnitude := mg }) (.Boolean b) =
      .error (.other "InvalidConstantValueError") := by
  simp [Gen.Cst.Constant.init, ty_isinstance, Gen.Cst.Primitive.mro, Py.Value.isinstance, Gen.Cst.Expression.mro, Py.Value.cls]

theorem init_float_str (mg : Option Rat) (cs : List Nat) :
    Gen.Cst.Constant.init (.prim .FloatType { bit_length := some (n : Int), cast_mode := cm, magnitude := mg }) (.String cs) =
      .error (.other "InvalidConstantValueError") := by
  simp [Gen.Cst.Constant.init, ty_isinstance, Gen.Cst.Primitive.mro, Py.Value.isinstance, Gen.Cst.Expression.mro, Py.Value.cls]

theorem init_bool_bool (o : Py.Obj) (b : Bool) : Gen.Cst.Constant.init (.prim .BooleanType o) (.Boolean b) = .ok (.Boolean b) := by
  simp [Gen.Cst.Constant.init, ty_isinstance, Gen.Cst.Primitive.mro, Py.Value.isinstance, Gen.Cst.Expression.mro, Py.Value.cls]

theorem init_bool_rat (o : Py.Obj) (q : Rat) :
    Gen.Cst.Constant.init (.prim .BooleanType o) (.Rational q) = .error (.other "InvalidConstantValueError") := by
  simp [Gen.Cst.Constant.init, ty_isinstance, Gen.Cst.Primitive.mro, Py.Value.isinstance, Gen.Cst.Expression.mro, Py.Value.cls]

theorem init_bool_str (o : Py.Obj) (cs : List Nat) :
    Gen.Cst.Constant.init (.prim .BooleanType o) (.String cs) = .error (.other "InvalidConstantValueError") := by
  simp [Gen.Cst.Constant.init, ty_isinstance, Gen.Cst.Primitive.mro, Py.Value.isinstance, Gen.Cst.Expression.mro, Py.Value.cls]

/-- a type of a class outside `_primitive.py` carries no constant: `InvalidTypeError` for every primitive value -/
theorem init_other (name : String) (v : Py.Value) (hv : Py.Value.isinstance Gen.Cst.Expression.mro v "Primitive" = true) :
    Gen.Cst.Constant.init (.other name) v = .error (.other "InvalidTypeError") := by
  cases v <;> simp [Gen.Cst.Constant.init, Py.Ty.isinstance, Py.Value.isinstance, Gen.Cst.Expression.mro, Py.Value.cls] at hv ⊢

end

/-! ### The whole decision -/

theorem gen_const (ty : CTy) (v : Val) : genConst ty v = expected ty v := by
  cases ty with
  | bool =>
    rcases v with (q | b | cs) | es <;>
      simp [genConst, mkTy, bool_new, expected, constCheck, CTy.wf, pyVal, errName, inval, init_bool_bool, init_bool_rat, init_bool_str,
        init_set]
  | other =>
    rcases v with (q | b | cs) | es <;>
      simp [genConst, mkTy, expected, constCheck, CTy.wf, pyVal, errName, inval, init_set] <;>
      exact init_other _ _ rfl
  | uint n m =>
    by_cases hn : 1 ≤ n ∧ n ≤ 64
    · have hn' : 1 ≤ (n : Int) ∧ (n : Int) ≤ 64 := by omega
      have hwf : (CTy.uint n m).wf = true := by simp [CTy.wf, hn]
      have hmk : mkTy (.uint n m) = .ok (.prim .UnsignedIntegerType { bit_length := some (n : Int), cast_mode := some (pyMode m) }) := by
        simp [mkTy, uint_new, hn']
      rcases v with (q | b | cs) | es
      · simp only [genConst, hmk, ok_bind, pyVal, init_uint_rat n _ m, expected, constCheck, hwf]
        by_cases hc : (Rat.isInt' q && inRange (.uint n m) q) = true <;> simp [hc, errName, hn, inval, pyVal]
      · simp [genConst, hmk, pyVal, init_uint_bool, expected, constCheck, hwf, errName, hn, inval]
      · simp only [genConst, hmk, ok_bind, pyVal, init_uint_str, expected, constCheck, hwf]
        by_cases h1 : ((cs.map utf8Len).sum != 1) = true
        · simp [h1, errName, hn, inval]
        · by_cases h8 : (n != 8) = true
          · simp [h1, h8, errName, hn, inval]
          · rcases cs with _ | ⟨c, _ | ⟨d, r⟩⟩
            · simp [h1, h8, errName, hn, inval, pyVal]
            · have hu : utf8Len c = 1 := by simpa using h1
              simp [h8, hu, errName, hn, inval, pyVal]
            · simp [h1, h8, errName, hn, inval, pyVal]
      · simp [genConst, hmk, pyVal, init_set, expected, constCheck, hwf, errName, hn, inval]
    · have hn' : ¬ (1 ≤ (n : Int) ∧ (n : Int) ≤ 64) := by omega
      have hwf : (CTy.uint n m).wf = false := by simp [CTy.wf, hn]
      simp [genConst, mkTy, uint_new, hn', expected, constCheck, hwf, errName, inval, hn]
  | int n m =>
    by_cases hn : 2 ≤ n ∧ n ≤ 64
    · have hn' : 2 ≤ (n : Int) ∧ (n : Int) ≤ 64 := by omega
      cases m with
      | saturated =>
        have hwf : (CTy.int n .saturated).wf = true := by simp [CTy.wf, hn]
        have hmk : mkTy (.int n .saturated) =
            .ok (.prim .SignedIntegerType { bit_length := some (n : Int), cast_mode := some .SATURATED }) := by
          simp [mkTy, int_new, hn', pyMode]
        rcases v with (q | b | cs) | es
        · simp only [genConst, hmk, ok_bind, pyVal, init_int_rat n _ .saturated, expected, constCheck, hwf]
          by_cases hc : (Rat.isInt' q && inRange (.int n .saturated) q) = true <;> simp [hc, errName, hn, inval, pyVal]
        · simp [genConst, hmk, pyVal, init_int_bool, expected, constCheck, hwf, errName, hn, inval]
        · simp [genConst, hmk, pyVal, init_int_str, expected, constCheck, hwf, errName, hn, inval]
        · simp [genConst, hmk, pyVal, init_set, expected, constCheck, hwf, errName, hn, inval]
      | truncated =>
        have hwf : (CTy.int n .truncated).wf = false := by simp [CTy.wf]
        simp [genConst, mkTy, int_new, hn', pyMode, expected, constCheck, hwf, errName, inval, hn]
    · have hn' : ¬ (2 ≤ (n : Int) ∧ (n : Int) ≤ 64) := by omega
      have hwf : (CTy.int n m).wf = false := by simp [CTy.wf, hn]
      simp [genConst, mkTy, int_new, hn', expected, constCheck, hwf, errName, inval, hn]
  | float n m =>
    by_cases hn : n = 16 ∨ n = 32 ∨ n = 64
    · have hwf : (CTy.float n m).wf = true := by rcases hn with rfl | rfl | rfl <;> rfl
      have hmk : mkTy (.float n m) = .ok (.prim .FloatType
          { bit_length := some (n : Int), cast_mode := some (pyMode m), magnitude := some (floatMagnitude n) }) := by
        simp [mkTy, float_new, hn]
      rcases v with (q | b | cs) | es
      · simp only [genConst, hmk, ok_bind, pyVal, init_float_rat n _ m, expected, constCheck, hwf]
        by_cases hc : inRange (.float n m) q = true <;> simp [hc, errName, hn, inval, pyVal]
      · simp [genConst, hmk, pyVal, init_float_bool, expected, constCheck, hwf, errName, hn, inval]
      · simp [genConst, hmk, pyVal, init_float_str, expected, constCheck, hwf, errName, hn, inval]
      · simp [genConst, hmk, pyVal, init_set, expected, constCheck, hwf, errName, hn, inval]
    · have hwf : (CTy.float n m).wf = false := by
        simp only [not_or] at hn
        simp [CTy.wf, hn]
      simp [genConst, mkTy, float_new, expected, constCheck, hwf, errName, inval, hn]

/-! ### Consequences -/

/-- the pydsdl exception classes a rejected constant definition is reported with (all derive from `InvalidDefinitionError`) -/
def rejectionClasses : List String :=
  ["InvalidConstantValueError", "InvalidTypeError", "InvalidBitLengthError", "InvalidCastModeError"]

theorem errName_mem (ty : CTy) (v : Val) : errName ty v ∈ rejectionClasses := by
  cases ty with
  | bool => simp [errName, rejectionClasses]
  | other => cases v <;> simp [errName, rejectionClasses]
  | uint n m => by_cases h : 1 ≤ n ∧ n ≤ 64 <;> simp [errName, rejectionClasses, h]
  | int n m => by_cases h : 2 ≤ n ∧ n ≤ 64 <;> cases m <;> simp [errName, rejectionClasses, h]
  | float n m => by_cases h : n = 16 ∨ n = 32 ∨ n = 64 <;> simp [errName, rejectionClasses, h]

theorem gen_const_ok {ty : CTy} {v v' : Val} (h : constCheck ty v = .ok v') : genConst ty v = .ok (pyVal v') := by
  rw [gen_const, expected, h]

theorem gen_const_error {ty : CTy} {v : Val} {e : Ex.Err} (h : constCheck ty v = .error e) :
    genConst ty v = .error (.other (errName ty v)) := by
  rw [gen_const, expected, h]

/-- the same for a closed instance, where evaluating the model decides the hypothesis -/
theorem gen_const_accepts {ty : CTy} {v : Val} {w : Py.Value} (h : (constCheck ty v).map pyVal = .ok w) : genConst ty v = .ok w := by
  cases hc : constCheck ty v with
  | ok v' => rw [hc] at h; cases h; exact gen_const_ok hc
  | error e => rw [hc] at h; cases h

theorem gen_const_rejects {ty : CTy} {v : Val} (h : (constCheck ty v).isOk = false) :
    genConst ty v = .error (.other (errName ty v)) := by
  cases hc : constCheck ty v with
  | ok v' => rw [hc] at h; cases h
  | error e => exact gen_const_error hc

theorem gen_const_ok_inv {ty : CTy} {v : Val} {w : Py.Value} (h : genConst ty v = .ok w) :
    ∃ v', constCheck ty v = .ok v' ∧ w = pyVal v' := by
  rw [gen_const, expected] at h
  cases hc : constCheck ty v with
  | ok v' => rw [hc] at h; exact ⟨v', rfl, by cases h; rfl⟩
  | error e => rw [hc] at h; cases h

theorem pyVal_sc_inj {s : Scalar} {v : Val} (h : pyVal (.sc s) = pyVal v) : v = .sc s := by
  rcases v with (q | b | cs) | es <;> rcases s with q' | b' | cs' <;> simp [pyVal] at h <;> simp [h]

/-- `Constant.__init__` does not tell `byte` / `utf8` from `uint8`: on an object of `ByteType` or `UTF8Type` it decides exactly as on an
    `UnsignedIntegerType` with the same attributes (that these types cannot carry a constant is decided elsewhere, by
    `_check_aggregation`, when the attribute is added to a composite). -/
theorem init_byte (o : Py.Obj) (v : Py.Value) :
    Gen.Cst.Constant.init (.prim .ByteType o) v = Gen.Cst.Constant.init (.prim .UnsignedIntegerType o) v := by
  simp [Gen.Cst.Constant.init, ty_isinstance, Gen.Cst.Primitive.mro, Gen.Cst.Ty.bit_length, Gen.Cst.Ty.inclusive_value_range]

theorem init_utf8 (o : Py.Obj) (v : Py.Value) :
    Gen.Cst.Constant.init (.prim .UTF8Type o) v = Gen.Cst.Constant.init (.prim .UnsignedIntegerType o) v := by
  simp [Gen.Cst.Constant.init, ty_isinstance, Gen.Cst.Primitive.mro, Gen.Cst.Ty.bit_length, Gen.Cst.Ty.inclusive_value_range]

/-- a serializable type used as an initialiser is an `Any` but not a `Primitive`: rejected for every type -/
theorem init_type_value (t : Py.Ty) : Gen.Cst.Constant.init t .SerializableType = .error (.other "InvalidConstantValueError") := by
  simp [Gen.Cst.Constant.init, Py.Value.isinstance, Gen.Cst.Expression.mro, Py.Value.cls]

end Bridge
