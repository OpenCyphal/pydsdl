import PyLib
/-!
  PyRegex: the Lean meaning of the fragment of Python's `str` / `re` that `tools/py2lean_names.py` translates
  (`pydsdl/_serializable/_name.py`).  No Mathlib; the only import is `PyLib` (for the exception monad `Py.M`), and part 1
  uses nothing of it.

  Part 1 - regular expressions.  `Rx` is the abstract syntax the translator's own parser produces from the *source text* of a
  pattern; `Rx.Matches` is the declarative meaning (the language of the expression); `Rx.fullmatch` is a total executable
  matcher by Brzozowski derivatives, proved correct against `Matches` (`Rx.fullmatch_iff`).  A backtracking engine such as
  CPython's `sre` finds a match exactly when one exists for this fragment (no back-references, no possessive / atomic
  groups, no look-around: none of them is in `Rx`), so the boolean result of `pattern.fullmatch(s) is not None` is
  `Rx.fullmatch`; `pattern.match(s)` is `Rx.pyMatch`.

  Characters: a Python `str` is a list of code points; `\d` and `.` are modelled on ASCII subjects (`\d` = `0-9`; for `str`
  patterns CPython's `\d` is the Unicode category Nd, which contains no other ASCII character; `.` = anything but `\n`).
  Part 2 makes that explicit: `Py.reMatch` and `Py.strLower` *fail* (`Err.other "non-ASCII"`) on a subject with a non-ASCII
  character instead of guessing, like `Py.sub` when it would leave the naturals.

  Part 2 - `str` primitives in `Py.M` (`x in s`, `s[i]`, `s.lower()`, `isinstance(p, str)`, `p == s`, `p.match(s)`).
-/

namespace Py

/-! ## Part 1: regular expressions -/

inductive Rx where
  /-- the empty language (only produced by derivatives) -/
  | empty
  /-- the empty string -/
  | eps
  /-- a literal character -/
  | chr (c : Char)
  /-- `[a-zX]` / `[^…]`: inclusive ranges (a single character `c` is the range `(c, c)`) -/
  | cls (neg : Bool) (ranges : List (Char × Char))
  /-- `\d` -/
  | digit
  /-- `.` (without DOTALL) -/
  | any
  | seq (a b : Rx)
  | alt (a b : Rx)
  | star (a : Rx)
  deriving Repr, DecidableEq, Inhabited

namespace Rx

/-- `a+` -/
@[reducible] def plus (a : Rx) : Rx := seq a (star a)
/-- `a?` -/
@[reducible] def opt (a : Rx) : Rx := alt a eps

def isDigit (c : Char) : Bool := '0' ≤ c && c ≤ '9'

def inCls (neg : Bool) (ranges : List (Char × Char)) (c : Char) : Bool :=
  neg != ranges.any fun r => r.1 ≤ c && c ≤ r.2

/-- the declarative meaning: the language of a regular expression -/
inductive Matches : Rx → List Char → Prop where
  | eps : Matches .eps []
  | chr (c : Char) : Matches (.chr c) [c]
  | cls {neg : Bool} {rs : List (Char × Char)} {c : Char} : inCls neg rs c = true → Matches (.cls neg rs) [c]
  | digit {c : Char} : isDigit c = true → Matches .digit [c]
  | any {c : Char} : c ≠ '\n' → Matches .any [c]
  | seq {a b : Rx} {s t : List Char} : Matches a s → Matches b t → Matches (.seq a b) (s ++ t)
  | altL {a b : Rx} {s : List Char} : Matches a s → Matches (.alt a b) s
  | altR {a b : Rx} {s : List Char} : Matches b s → Matches (.alt a b) s
  | starNil {a : Rx} : Matches (.star a) []
  | starCons {a : Rx} {s t : List Char} : Matches a s → Matches (.star a) t → Matches (.star a) (s ++ t)

def nullable : Rx → Bool
  | empty => false
  | eps => true
  | chr _ => false
  | cls _ _ => false
  | digit => false
  | any => false
  | seq a b => a.nullable && b.nullable
  | alt a b => a.nullable || b.nullable
  | star _ => true

/-- Brzozowski derivative -/
def deriv (c : Char) : Rx → Rx
  | empty => empty
  | eps => empty
  | chr d => if c = d then eps else empty
  | cls neg rs => if inCls neg rs c then eps else empty
  | digit => if isDigit c then eps else empty
  | any => if c = '\n' then empty else eps
  | seq a b => if a.nullable then alt (seq (deriv c a) b) (deriv c b) else seq (deriv c a) b
  | alt a b => alt (deriv c a) (deriv c b)
  | star a => seq (deriv c a) (star a)

/-- `re.compile(r).fullmatch(s) is not None` -/
def fullmatch (r : Rx) : List Char → Bool
  | [] => r.nullable
  | c :: s => (r.deriv c).fullmatch s

/-! ### inversion of `Matches` -/

theorem matches_empty (u : List Char) : ¬ Matches .empty u := fun h => nomatch h

theorem matches_eps (u : List Char) : Matches .eps u ↔ u = [] :=
  ⟨fun h => by cases h; rfl, fun h => h ▸ .eps⟩

theorem matches_chr (c : Char) (u : List Char) : Matches (.chr c) u ↔ u = [c] :=
  ⟨fun h => by cases h; rfl, fun h => h ▸ .chr c⟩

theorem matches_cls (neg : Bool) (rs : List (Char × Char)) (u : List Char) :
    Matches (.cls neg rs) u ↔ ∃ c, u = [c] ∧ inCls neg rs c = true :=
  ⟨fun h => by cases h with | cls h => exact ⟨_, rfl, h⟩, fun ⟨_, h, hc⟩ => h ▸ .cls hc⟩

theorem matches_digit (u : List Char) : Matches .digit u ↔ ∃ c, u = [c] ∧ isDigit c = true :=
  ⟨fun h => by cases h with | digit h => exact ⟨_, rfl, h⟩, fun ⟨_, h, hc⟩ => h ▸ .digit hc⟩

theorem matches_any (u : List Char) : Matches .any u ↔ ∃ c, u = [c] ∧ c ≠ '\n' :=
  ⟨fun h => by cases h with | any h => exact ⟨_, rfl, h⟩, fun ⟨_, h, hc⟩ => h ▸ .any hc⟩

theorem matches_seq (a b : Rx) (u : List Char) :
    Matches (.seq a b) u ↔ ∃ s t, u = s ++ t ∧ Matches a s ∧ Matches b t :=
  ⟨fun h => by cases h with | seq h1 h2 => exact ⟨_, _, rfl, h1, h2⟩, fun ⟨_, _, h, h1, h2⟩ => h ▸ .seq h1 h2⟩

theorem matches_alt (a b : Rx) (u : List Char) : Matches (.alt a b) u ↔ Matches a u ∨ Matches b u :=
  ⟨fun h => by cases h with | altL h => exact .inl h | altR h => exact .inr h,
   fun h => h.elim .altL .altR⟩

theorem matches_star (a : Rx) (u : List Char) :
    Matches (.star a) u ↔ u = [] ∨ ∃ s t, u = s ++ t ∧ Matches a s ∧ Matches (.star a) t :=
  ⟨fun h => by cases h with | starNil => exact .inl rfl | starCons h1 h2 => exact .inr ⟨_, _, rfl, h1, h2⟩,
   fun h => h.elim (fun h => h ▸ .starNil) fun ⟨_, _, h, h1, h2⟩ => h ▸ .starCons h1 h2⟩

/-- a non-empty word of `a*` starts with a non-empty word of `a` -/
theorem matches_star_cons (a : Rx) (c : Char) (u : List Char) :
    Matches (.star a) (c :: u) ↔ ∃ s t, u = s ++ t ∧ Matches a (c :: s) ∧ Matches (.star a) t := by
  constructor
  · intro h
    generalize hr : Rx.star a = r at h
    generalize hw : c :: u = w at h
    induction h generalizing u with
    | eps | chr | cls | digit | any | seq | altL | altR => cases hr
    | starNil => cases hw
    | @starCons a' s t h1 h2 _ ih2 =>
      cases hr
      cases s with
      | nil => exact ih2 u rfl hw
      | cons d s' =>
        simp only [List.cons_append, List.cons.injEq] at hw
        obtain ⟨rfl, rfl⟩ := hw
        exact ⟨s', t, rfl, h1, h2⟩
  · rintro ⟨s, t, rfl, h1, h2⟩
    exact Matches.starCons h1 h2

/-- the one-character expressions and the test they perform -/
def charTest : Rx → Option (Char → Bool)
  | chr d => some fun c => c == d
  | cls neg rs => some (inCls neg rs)
  | digit => some isDigit
  | any => some fun c => c != '\n'
  | _ => none

theorem matches_charTest {a : Rx} {p : Char → Bool} (h : charTest a = some p) (u : List Char) :
    Matches a u ↔ ∃ c, u = [c] ∧ p c = true := by
  cases a <;> simp only [charTest, Option.some.injEq, reduceCtorEq] at h <;> subst h
  · simp [matches_chr]
  · exact matches_cls _ _ u
  · exact matches_digit u
  · simp [matches_any]

/-- the derivative of a one-character expression: the empty string if the character passes the test, nothing otherwise -/
theorem deriv_charTest {a : Rx} {p : Char → Bool} (h : charTest a = some p) (c : Char) :
    a.deriv c = if p c = true then eps else empty := by
  cases a <;> simp only [charTest, Option.some.injEq, reduceCtorEq] at h <;> subst h <;>
    simp only [deriv, beq_iff_eq, bne_iff_ne, ne_eq, ite_not]

/-! ### correctness of the matcher -/

theorem nullable_iff (r : Rx) : r.nullable = true ↔ Matches r [] := by
  induction r with
  | empty => simp [nullable, matches_empty]
  | eps => simp [nullable, matches_eps]
  | chr c => simp [nullable, matches_chr]
  | cls neg rs => simp [nullable, matches_cls]
  | digit => simp [nullable, matches_digit]
  | any => simp [nullable, matches_any]
  | seq a b iha ihb =>
    simp only [nullable, Bool.and_eq_true, iha, ihb, matches_seq]
    constructor
    · rintro ⟨h1, h2⟩; exact ⟨[], [], rfl, h1, h2⟩
    · rintro ⟨s, t, h, h1, h2⟩
      obtain ⟨rfl, rfl⟩ := List.append_eq_nil_iff.mp h.symm
      exact ⟨h1, h2⟩
  | alt a b iha ihb => simp only [nullable, Bool.or_eq_true, iha, ihb, matches_alt]
  | star a _ => simp [nullable, Matches.starNil]

theorem deriv_iff_char {a : Rx} {p : Char → Bool} (h : charTest a = some p) (c : Char) (u : List Char) :
    Matches (a.deriv c) u ↔ Matches a (c :: u) := by
  rw [deriv_charTest h, matches_charTest h]
  split
  · next hp => rw [matches_eps]; exact ⟨fun hu => ⟨c, by rw [hu], hp⟩, fun ⟨_, hu, _⟩ => (List.cons.inj hu).2⟩
  · next hp => exact iff_of_false (matches_empty u) fun ⟨d, hu, hd⟩ => hp ((List.cons.inj hu).1 ▸ hd)

theorem deriv_iff (r : Rx) (c : Char) (u : List Char) : Matches (r.deriv c) u ↔ Matches r (c :: u) := by
  induction r generalizing u with
  | empty => simp [deriv, matches_empty]
  | eps => simp [deriv, matches_empty, matches_eps]
  | chr d => exact deriv_iff_char (a := chr d) rfl c u
  | cls neg rs => exact deriv_iff_char (a := cls neg rs) rfl c u
  | digit => exact deriv_iff_char (a := digit) rfl c u
  | any => exact deriv_iff_char (a := any) rfl c u
  | seq a b iha ihb =>
    have key : Matches (.seq a b) (c :: u) ↔
        (Matches a [] ∧ Matches b (c :: u)) ∨ ∃ s t, u = s ++ t ∧ Matches a (c :: s) ∧ Matches b t := by
      rw [matches_seq]
      constructor
      · rintro ⟨s, t, h, h1, h2⟩
        cases s with
        | nil => exact .inl ⟨h1, by simpa using h ▸ h2⟩
        | cons d s' =>
          simp only [List.cons_append, List.cons.injEq] at h
          obtain ⟨rfl, rfl⟩ := h
          exact .inr ⟨s', t, rfl, h1, h2⟩
      · rintro (⟨h1, h2⟩ | ⟨s, t, rfl, h1, h2⟩)
        · exact ⟨[], c :: u, rfl, h1, h2⟩
        · exact ⟨c :: s, t, rfl, h1, h2⟩
    have hseq : Matches (.seq (deriv c a) b) u ↔ ∃ s t, u = s ++ t ∧ Matches a (c :: s) ∧ Matches b t := by
      rw [matches_seq]
      exact ⟨fun ⟨s, t, h, h1, h2⟩ => ⟨s, t, h, (iha s).mp h1, h2⟩, fun ⟨s, t, h, h1, h2⟩ => ⟨s, t, h, (iha s).mpr h1, h2⟩⟩
    rw [key]
    simp only [deriv]
    split
    · rename_i hn
      rw [matches_alt, hseq, ihb]
      have := (nullable_iff a).mp hn
      constructor
      · rintro (h | h)
        · exact .inr h
        · exact .inl ⟨this, h⟩
      · rintro (⟨_, h⟩ | h)
        · exact .inr h
        · exact .inl h
    · rename_i hn
      rw [hseq]
      constructor
      · exact .inr
      · rintro (⟨h, _⟩ | h)
        · exact absurd ((nullable_iff a).mpr h) hn
        · exact h
  | alt a b iha ihb => simp only [deriv, matches_alt, iha, ihb]
  | star a iha =>
    simp only [deriv]
    rw [matches_star_cons, matches_seq]
    exact ⟨fun ⟨s, t, h, h1, h2⟩ => ⟨s, t, h, (iha s).mp h1, h2⟩, fun ⟨s, t, h, h1, h2⟩ => ⟨s, t, h, (iha s).mpr h1, h2⟩⟩

/-- The executable matcher decides the language of the expression. -/
theorem fullmatch_iff (r : Rx) (s : List Char) : r.fullmatch s = true ↔ Matches r s := by
  induction s generalizing r with
  | nil => exact nullable_iff r
  | cons c s ih => rw [fullmatch, ih, deriv_iff]

instance (r : Rx) (s : List Char) : Decidable (Matches r s) := decidable_of_iff _ (fullmatch_iff r s)

/-- two expressions with the same language get the same verdict -/
theorem fullmatch_congr {r r' : Rx} {s : List Char} (h : Matches r s ↔ Matches r' s) : r.fullmatch s = r'.fullmatch s := by
  rw [Bool.eq_iff_iff, fullmatch_iff, fullmatch_iff]; exact h

/-! ### compositional laws of the matcher (what the bridges rewrite with) -/

theorem fullmatch_empty (s : List Char) : fullmatch .empty s = false := by
  rw [Bool.eq_false_iff]; intro h; exact matches_empty s ((fullmatch_iff _ _).mp h)

@[simp] theorem fullmatch_nil (r : Rx) : r.fullmatch [] = r.nullable := rfl

theorem fullmatch_eps (s : List Char) : fullmatch .eps s = s.isEmpty := by
  rw [Bool.eq_iff_iff, fullmatch_iff, matches_eps, List.isEmpty_iff]

theorem fullmatch_alt (a b : Rx) (s : List Char) : (alt a b).fullmatch s = (a.fullmatch s || b.fullmatch s) := by
  rw [Bool.eq_iff_iff, Bool.or_eq_true, fullmatch_iff, fullmatch_iff, fullmatch_iff, matches_alt]

theorem fullmatch_seq_iff (a b : Rx) (u : List Char) :
    (seq a b).fullmatch u = true ↔ ∃ s t, u = s ++ t ∧ a.fullmatch s = true ∧ b.fullmatch t = true := by
  simp only [fullmatch_iff, matches_seq]

theorem fullmatch_seq_assoc (a b c : Rx) (s : List Char) : (seq (seq a b) c).fullmatch s = (seq a (seq b c)).fullmatch s := by
  apply fullmatch_congr
  simp only [matches_seq]
  constructor
  · rintro ⟨_, t, rfl, ⟨s1, s2, rfl, h1, h2⟩, h3⟩
    exact ⟨s1, s2 ++ t, by simp, h1, s2, t, rfl, h2, h3⟩
  · rintro ⟨s1, _, rfl, h1, s2, t, rfl, h2, h3⟩
    exact ⟨s1 ++ s2, t, by simp, ⟨s1, s2, rfl, h1, h2⟩, h3⟩

theorem fullmatch_seq_eps (a : Rx) (s : List Char) : (seq a eps).fullmatch s = a.fullmatch s := by
  apply fullmatch_congr
  simp only [matches_seq, matches_eps]
  constructor
  · rintro ⟨s1, _, rfl, h1, rfl⟩; simpa using h1
  · intro h; exact ⟨s, [], by simp, h, rfl⟩

theorem fullmatch_eps_seq (a : Rx) (s : List Char) : (seq eps a).fullmatch s = a.fullmatch s := by
  apply fullmatch_congr
  simp only [matches_seq, matches_eps]
  constructor
  · rintro ⟨_, s2, rfl, rfl, h1⟩; simpa using h1
  · intro h; exact ⟨[], s, by simp, rfl, h⟩

/-- `(a|b)r` -/
theorem fullmatch_alt_seq (a b r : Rx) (s : List Char) :
    (seq (alt a b) r).fullmatch s = ((seq a r).fullmatch s || (seq b r).fullmatch s) := by
  rw [← fullmatch_alt]
  apply fullmatch_congr
  simp only [matches_seq, matches_alt]
  constructor
  · rintro ⟨s1, s2, h, h1 | h1, h2⟩
    · exact .inl ⟨s1, s2, h, h1, h2⟩
    · exact .inr ⟨s1, s2, h, h1, h2⟩
  · rintro (⟨s1, s2, h, h1, h2⟩ | ⟨s1, s2, h, h1, h2⟩)
    · exact ⟨s1, s2, h, .inl h1, h2⟩
    · exact ⟨s1, s2, h, .inr h1, h2⟩

/-- `a?r` -/
theorem fullmatch_opt_seq (a r : Rx) (s : List Char) :
    (seq (opt a) r).fullmatch s = ((seq a r).fullmatch s || r.fullmatch s) := by
  rw [fullmatch_alt_seq, fullmatch_eps_seq]

/-- `a*r = r | a a*r` -/
theorem fullmatch_star_seq (a r : Rx) (s : List Char) :
    (seq (star a) r).fullmatch s = (r.fullmatch s || (seq a (seq (star a) r)).fullmatch s) := by
  rw [← fullmatch_alt]
  apply fullmatch_congr
  simp only [matches_seq, matches_alt]
  constructor
  · rintro ⟨s1, s2, rfl, h1, h2⟩
    rcases (matches_star a s1).mp h1 with rfl | ⟨u, v, rfl, hu, hv⟩
    · exact .inl (by simpa using h2)
    · exact .inr ⟨u, v ++ s2, by simp, hu, v, s2, rfl, hv, h2⟩
  · rintro (h | ⟨u, _, rfl, hu, v, s2, rfl, hv, h2⟩)
    · exact ⟨[], s, by simp, .starNil, h⟩
    · exact ⟨u ++ v, s2, by simp, .starCons hu hv, h2⟩

theorem fullmatch_char {a : Rx} {p : Char → Bool} (h : charTest a = some p) (s : List Char) :
    a.fullmatch s = (match s with | [c] => p c | _ => false) := by
  rw [Bool.eq_iff_iff, fullmatch_iff, matches_charTest h]
  split
  · simp
  · rename_i hne
    simp only [Bool.false_eq_true, iff_false]
    rintro ⟨c, rfl, _⟩
    exact hne c rfl

theorem fullmatch_char_seq_nil {a : Rx} {p : Char → Bool} (h : charTest a = some p) (r : Rx) :
    (seq a r).fullmatch [] = false := by
  cases a <;> simp [charTest] at h <;> simp [nullable]

/-- one character, then the rest -/
theorem fullmatch_char_seq_cons {a : Rx} {p : Char → Bool} (h : charTest a = some p) (r : Rx) (c : Char) (s : List Char) :
    (seq a r).fullmatch (c :: s) = (p c && r.fullmatch s) := by
  rw [Bool.eq_iff_iff, Bool.and_eq_true, fullmatch_iff, fullmatch_iff, matches_seq]
  constructor
  · rintro ⟨s1, s2, hs, h1, h2⟩
    obtain ⟨d, rfl, hd⟩ := (matches_charTest h s1).mp h1
    simp only [List.cons_append, List.nil_append, List.cons.injEq] at hs
    obtain ⟨rfl, rfl⟩ := hs
    exact ⟨hd, h2⟩
  · rintro ⟨h1, h2⟩
    exact ⟨[c], s, rfl, (matches_charTest h [c]).mpr ⟨c, rfl, h1⟩, h2⟩

/-- `a*` for a one-character `a` -/
theorem fullmatch_star_char {a : Rx} {p : Char → Bool} (h : charTest a = some p) (s : List Char) :
    (star a).fullmatch s = s.all p := by
  induction s with
  | nil => rfl
  | cons c s ih =>
    rw [Bool.eq_iff_iff, fullmatch_iff, matches_star_cons, List.all_cons, Bool.and_eq_true, ← ih, fullmatch_iff]
    constructor
    · rintro ⟨s1, t, rfl, h1, h2⟩
      obtain ⟨d, hd, hp⟩ := (matches_charTest h _).mp h1
      simp only [List.cons.injEq] at hd
      obtain ⟨rfl, rfl⟩ := hd
      exact ⟨hp, by simpa using h2⟩
    · rintro ⟨h1, h2⟩
      exact ⟨[], s, rfl, (matches_charTest h [c]).mpr ⟨c, rfl, h1⟩, h2⟩

/-- `a*r` when no word of `r` starts with a character of `a`: the star is greedy without loss -/
theorem fullmatch_star_char_seq {a : Rx} {p : Char → Bool} (h : charTest a = some p) (r : Rx)
    (hr : ∀ c s, p c = true → r.fullmatch (c :: s) = false) (s : List Char) :
    (seq (star a) r).fullmatch s = r.fullmatch (s.dropWhile p) := by
  induction s with
  | nil => rw [fullmatch_star_seq, fullmatch_char_seq_nil h]; simp
  | cons c s ih =>
    rw [fullmatch_star_seq, fullmatch_char_seq_cons h, ih]
    cases hp : p c
    · simp [List.dropWhile, hp]
    · simp [List.dropWhile, hp, hr c s hp]

/-! the same for the concrete one-character expressions, in the form `simp` can use -/

@[simp] theorem fullmatch_chr_seq_cons (d : Char) (r : Rx) (c : Char) (s : List Char) :
    (seq (chr d) r).fullmatch (c :: s) = (c == d && r.fullmatch s) :=
  fullmatch_char_seq_cons (a := chr d) (p := fun c => c == d) rfl r c s
@[simp] theorem fullmatch_chr_seq_nil (d : Char) (r : Rx) : (seq (chr d) r).fullmatch [] = false := fullmatch_char_seq_nil rfl r
@[simp] theorem fullmatch_digit_seq_cons (r : Rx) (c : Char) (s : List Char) :
    (seq digit r).fullmatch (c :: s) = (isDigit c && r.fullmatch s) := fullmatch_char_seq_cons rfl r c s
@[simp] theorem fullmatch_digit_seq_nil (r : Rx) : (seq digit r).fullmatch [] = false := fullmatch_char_seq_nil rfl r
@[simp] theorem fullmatch_any_seq_cons (r : Rx) (c : Char) (s : List Char) :
    (seq any r).fullmatch (c :: s) = (c != '\n' && r.fullmatch s) :=
  fullmatch_char_seq_cons (a := any) (p := fun c => c != '\n') rfl r c s
@[simp] theorem fullmatch_any_seq_nil (r : Rx) : (seq any r).fullmatch [] = false := fullmatch_char_seq_nil rfl r
theorem fullmatch_chr (d : Char) (s : List Char) : (chr d).fullmatch s = (match s with | [c] => c == d | _ => false) :=
  fullmatch_char (a := chr d) (p := fun c => c == d) rfl s
theorem fullmatch_digit (s : List Char) : digit.fullmatch s = (match s with | [c] => isDigit c | _ => false) :=
  fullmatch_char rfl s
theorem fullmatch_star_digit (s : List Char) : (star digit).fullmatch s = s.all isDigit := fullmatch_star_char rfl s
theorem fullmatch_star_any (s : List Char) : (star any).fullmatch s = s.all (fun c => c != '\n') :=
  fullmatch_star_char (a := any) (p := fun c => c != '\n') rfl s

/-! ### `Pattern.match` -/

/-- `re.compile(src).match(s) is not None`, where `src` is the source of `r`, followed by `$` when `dollar`:
    without `$` some prefix of `s` is a word of `r`; with `$` (no MULTILINE) the match must end at the end of `s` or just before
    a final line feed. -/
def pyMatch (r : Rx) (dollar : Bool) (s : List Char) : Bool :=
  if dollar then
    r.fullmatch s || (s.getLast? == some '\n' && r.fullmatch s.dropLast)
  else
    (List.range (s.length + 1)).any fun n => r.fullmatch (s.take n)

theorem pyMatch_dollar_iff (r : Rx) (s : List Char) :
    pyMatch r true s = true ↔ Matches r s ∨ ∃ p, s = p ++ ['\n'] ∧ Matches r p := by
  simp only [pyMatch, if_true, Bool.or_eq_true, Bool.and_eq_true, beq_iff_eq, fullmatch_iff]
  constructor
  · rintro (h | ⟨h1, h2⟩)
    · exact .inl h
    · obtain ⟨ys, rfl⟩ := List.getLast?_eq_some_iff.mp h1
      exact .inr ⟨ys, rfl, by simpa using h2⟩
  · rintro (h | ⟨p, rfl, h⟩)
    · exact .inl h
    · exact .inr ⟨by simp, by simpa using h⟩

theorem pyMatch_prefix_iff (r : Rx) (s : List Char) :
    pyMatch r false s = true ↔ ∃ p t, s = p ++ t ∧ Matches r p := by
  simp only [pyMatch, Bool.false_eq_true, if_false, List.any_eq_true, List.mem_range, fullmatch_iff]
  constructor
  · rintro ⟨n, _, h⟩
    exact ⟨s.take n, s.drop n, (List.take_append_drop n s).symm, h⟩
  · rintro ⟨p, t, rfl, h⟩
    exact ⟨p.length, by simp; omega, by simpa using h⟩

/-- on a subject that does not end in a line feed, `match` with a final `$` is `fullmatch` -/
theorem pyMatch_dollar_eq (r : Rx) (s : List Char) (h : s.getLast? ≠ some '\n') : pyMatch r true s = r.fullmatch s := by
  simp only [pyMatch, if_true]
  have : (s.getLast? == some '\n') = false := by simpa using h
  rw [this]; simp

end Rx

/-! ## Part 2: `str` and `re` primitives -/

/-- a Python `str`: its code points (lone surrogates, which a `str` may hold, have no counterpart; the translated code rejects
    every non-ASCII character before it looks further) -/
abbrev Str := List Char

def isAscii (c : Char) : Bool := c.toNat < 128

/-- `str.lower()` of one ASCII character -/
def lowerChar (c : Char) : Char :=
  match c with
  | 'A' => 'a' | 'B' => 'b' | 'C' => 'c' | 'D' => 'd' | 'E' => 'e' | 'F' => 'f' | 'G' => 'g' | 'H' => 'h' | 'I' => 'i'
  | 'J' => 'j' | 'K' => 'k' | 'L' => 'l' | 'M' => 'm' | 'N' => 'n' | 'O' => 'o' | 'P' => 'p' | 'Q' => 'q' | 'R' => 'r'
  | 'S' => 's' | 'T' => 't' | 'U' => 'u' | 'V' => 'v' | 'W' => 'w' | 'X' => 'x' | 'Y' => 'y' | 'Z' => 'z'
  | c => c

/-- `s.lower()`.  Defined on ASCII strings only: Unicode lower-casing (`'K'` U+212A ↦ `'k'`, `'İ'` ↦ two code points, …) is not
    modelled, a non-ASCII subject is an error of the translation, not a value. -/
def strLower (s : Str) : M Str :=
  if s.all isAscii then pure (s.map lowerChar) else throw (.other "non-ASCII")

/-- `x in s` / `x not in s` for a one-character `x` (the element of a `for c in s` loop, or `s[i]`) -/
def charIn (c : Char) (s : Str) : Bool := s.contains c

/-- `s[i]` for `i ≥ 0` -/
def strIndex (s : Str) (i : Nat) : M Char := index s i

/-- an element of a table that mixes plain strings and compiled patterns; `dollar` records a final `$` of the pattern source -/
inductive Pat where
  | str (s : Str)
  | re (r : Rx) (dollar : Bool)
  deriving Repr, DecidableEq, Inhabited

/-- `isinstance(p, str)` -/
def Pat.isStr : Pat → Bool
  | .str _ => true
  | .re _ _ => false

/-- `p == s` for a `str` `s`: a compiled pattern never equals a string -/
def Pat.eqStr : Pat → Str → Bool
  | .str w, s => w == s
  | .re _ _, _ => false

/-- `bool(p.match(s))`: `AttributeError` on a `str`; defined on ASCII subjects (see the header) -/
def Pat.match : Pat → Str → M Bool
  | .str _, _ => throw (.other "AttributeError")
  | .re r dollar, s => if s.all isAscii then pure (r.pyMatch dollar s) else throw (.other "non-ASCII")

/-- `bool(p.fullmatch(s))`: a final `$` adds nothing (the match must span the whole subject) -/
def Pat.fullmatch : Pat → Str → M Bool
  | .str _, _ => throw (.other "AttributeError")
  | .re r _, s =>
    if s.all isAscii then pure (r.fullmatch s) else throw (.other "non-ASCII")

/-- `s in t` for a collection `t` of strings and compiled patterns (list, tuple, set, frozenset: membership is equality with an
    element; a compiled pattern never equals a string) -/
def strInTable (s : Str) (t : List Pat) : Bool := t.any fun p => p.eqStr s

/-- `[x for x in l if c(x)]` with a condition that may raise: every element is tested, in order -/
def filterM {α : Type} : List α → (α → M Bool) → M (List α)
  | [], _ => pure []
  | a :: l, f => f a >>= fun b => filterM l f >>= fun r => pure (if b then a :: r else r)

/-- `any(c(x) for x in l)` over a generator: stops at the first true element -/
def anyM {α : Type} : List α → (α → M Bool) → M Bool
  | [], _ => pure false
  | a :: l, f => f a >>= fun b => if b then pure true else anyM l f

/-- `all(c(x) for x in l)` over a generator: stops at the first false element -/
def allM {α : Type} : List α → (α → M Bool) → M Bool
  | [], _ => pure true
  | a :: l, f => f a >>= fun b => if b then allM l f else pure false

end Py
