import Proofs.RulesKernel
import Proofs.RulesBuilder
/-! The declarative static rules of C05 (`Spec`) and their equivalence with the checks of `Model/Rules.lean`. -/
namespace Rules
namespace Spec

/-- legal bit widths: 1..64, signed ≥ 2 and never truncated, float 16/32/64 -/
def WidthOk : Scalar → Prop
  | .uint w _ => 1 ≤ w ∧ w ≤ 64
  | .int w c => 2 ≤ w ∧ w ≤ 64 ∧ c = .saturated
  | .float w _ => w = 16 ∨ w = 32 ∨ w = 64
  | .void w => 1 ≤ w ∧ w ≤ 64
  | _ => True

/-- … and array capacity ≥ 1; the implicit length field of a variable-length array is an unsigned integer of a legal width
    (8/16/32/64 bits), i.e. its capacity is below 2^64 -/
def TypeOk : Ty → Prop
  | .scalar s => WidthOk s
  | .fixedArr e cap => WidthOk e ∧ 1 ≤ cap
  | .varArr e cap => WidthOk e ∧ 1 ≤ cap ∧ cap < 2 ^ 64

/-- a constant is of a boolean, integer or float type -/
def ConstTypeOk : Ty → Prop
  | .scalar (.void _) => False
  | .scalar (.comp _) => False
  | .scalar _ => True
  | _ => False

/-- the rules an attribute statement has to obey by itself -/
def AttrOk : RStmt → Prop
  | .field t n => TypeOk t ∧ (∀ w, t ≠ .scalar (.void w)) ∧ NameOk n
  | .padding w => 1 ≤ w ∧ w ≤ 64
  | .const t n => TypeOk t ∧ ConstTypeOk t ∧ NameOk n
  | _ => True

/-- void only as structure padding, utf8 only as element of variable-length arrays, byte only as array element,
    a deprecated type only inside a deprecated one — also through arrays -/
def PlaceOk (t : Ty) (union deprecated : Bool) : Prop :=
  match t with
  | .scalar (.void _) => union = false
  | .scalar .utf8 => False
  | .scalar .byte => False
  | .scalar (.comp i) => i.deprecated = true → deprecated = true
  | .scalar _ => True
  | .fixedArr (.void _) _ => False
  | .fixedArr .utf8 _ => False
  | .fixedArr (.comp i) _ => i.deprecated = true → deprecated = true
  | .fixedArr _ _ => True
  | .varArr (.void _) _ => False
  | .varArr (.comp i) _ => i.deprecated = true → deprecated = true
  | .varArr _ _ => True

/-- where a statement may stand, given the statements in front of it -/
def StmtOk (pre : List RStmt) (st : RStmt) : Prop :=
  match st with
  | .field .. | .padding .. | .const .. => AttrOk st ∧ ∀ x ∈ lastSeg pre, x.isExtentStmt = false
  | .union => RStmt.union ∉ lastSeg pre ∧ ∀ x ∈ lastSeg pre, x.isAttr = false
  | .deprecated => RStmt.deprecated ∉ pre ∧ RStmt.marker ∉ pre ∧ ∀ x ∈ pre, x.isAttr = false
  | .sealed | .extent _ => ∀ x ∈ lastSeg pre, x.isMode = false
  | .marker => RStmt.marker ∉ pre

def NameRule (comps : List String) : Prop :=
  2 ≤ comps.length ∧ (fullName comps).length ≤ 255 ∧ ∀ c ∈ comps, NameOk c

def longest (sc : RSchema) : Nat :=
  let fields := (sc.attrs.filter RAttr.isField).map RAttr.ty
  if sc.union then unionMax fields else structMax fields

structure SchemaValid (comps : List String) (deprecated : Bool) (sc : RSchema) : Prop where
  typeName : NameRule comps
  uniqueNames : ((sc.attrs.map RAttr.name).filter (· ≠ "")).Nodup
  placement : ∀ a ∈ sc.attrs, PlaceOk a.ty sc.union deprecated
  unionArity : sc.union = true → 2 ≤ (sc.attrs.filter RAttr.isField).length
  mode : sc.mode = some .sealed ∨ ∃ e, sc.mode = some (.extent e) ∧ e % 8 = 0 ∧ (longest sc : Int) ≤ e

def VersionOk (major minor : Nat) : Prop := major ≤ 255 ∧ minor ≤ 255 ∧ ¬ (major = 0 ∧ minor = 0)

def Regulated (service : Bool) (root : String) (p : Nat) : Prop :=
  let std := root = "uavcan" ∨ root = "cyphal"
  if service then (std → 384 ≤ p ∧ p ≤ 511) ∧ (¬ std → 256 ≤ p ∧ p ≤ 383)
  else (std → 7168 ≤ p ∧ p ≤ 8191) ∧ (¬ std → 6144 ≤ p ∧ p ≤ 7167)

def PortOk (h : Header) (service : Bool) : Prop :=
  ∀ p, h.port = some p → (if service then p ≤ 511 else p ≤ 8191) ∧ (h.allowUnregulated = false → Regulated service (h.ns.headD "") p)

end Spec

open Spec

theorem Scalar.ctorOk_iff (s : Scalar) : s.ctorOk = true ↔ WidthOk s := by
  cases s with
  | int w c =>
    simp only [Scalar.ctorOk, WidthOk, Bool.and_eq_true, decide_eq_true_eq, beq_iff_eq]
    constructor
    · rintro ⟨⟨⟨_, h2⟩, h3⟩, h4⟩; exact ⟨h3, h2, h4⟩
    · rintro ⟨h1, h2, h3⟩; exact ⟨⟨⟨by omega, h2⟩, h1⟩, h3⟩
  | float w c =>
    simp only [Scalar.ctorOk, WidthOk, Bool.and_eq_true, Bool.or_eq_true, decide_eq_true_eq, beq_iff_eq]
    constructor
    · rintro ⟨_, h⟩; omega
    · intro h; exact ⟨by omega, by omega⟩
  | _ => simp [Scalar.ctorOk, WidthOk]

theorem Ty.ctorOk_iff (t : Ty) : t.ctorOk = true ↔ TypeOk t := by
  cases t <;> simp [Ty.ctorOk, TypeOk, Scalar.ctorOk_iff, and_assoc]

theorem attrCtorOk_iff (st : RStmt) : attrCtorOk st = true ↔ AttrOk st := by
  cases st with
  | field t n =>
    simp only [attrCtorOk, AttrOk, Bool.and_eq_true, Ty.ctorOk_iff]
    cases t with
    | scalar s => cases s <;> simp [checkName_iff]
    | fixedArr _ _ | varArr _ _ => simp [checkName_iff]
  | padding w => simp [attrCtorOk, AttrOk, Scalar.ctorOk]
  | const t n =>
    simp only [attrCtorOk, AttrOk, Bool.and_eq_true, Ty.ctorOk_iff]
    cases t with
    | scalar s => cases s <;> simp [checkName_iff, ConstTypeOk]
    | fixedArr _ _ | varArr _ _ => simp [ConstTypeOk]
  | _ => simp [attrCtorOk, AttrOk]

theorem baseAgg_iff (d : Bool) (a : Agg) : baseAgg d a = true ↔ (d = true → a.deprecated = true) := by
  unfold baseAgg
  cases d <;> cases a.deprecated <;> decide

theorem Ty.aggOk_iff (t : Ty) (union deprecated : Bool) :
    t.aggOk (if union then .union deprecated else .structure deprecated) = true ↔ PlaceOk t union deprecated := by
  cases union <;> cases t with
  | scalar e | fixedArr e _ | varArr e _ =>
    cases e <;> simp [Ty.aggOk, Scalar.aggOk, baseAgg_iff, Agg.deprecated, PlaceOk, Scalar.deprecated]

theorem namesUnique_iff (names : List String) : namesUnique names = true ↔ (names.filter (· ≠ "")).Nodup := by
  induction names with
  | nil => simp [namesUnique]
  | cons n rest ih =>
    simp only [namesUnique, Bool.and_eq_true, ih]
    by_cases hn : n = ""
    · subst hn; simp
    · simp only [List.filter_cons, ne_eq, hn, not_false_eq_true, decide_true, if_true, List.nodup_cons, List.mem_filter]
      simp [hn]

theorem versionOk_iff (a b : Nat) : versionOk a b = true ↔ VersionOk a b := by
  simp [versionOk, VersionOk]; omega

theorem regulatedOk_iff (service : Bool) (root : String) (p : Nat) :
    regulatedOk service root p = true ↔ Regulated service root p := by
  unfold regulatedOk Regulated standardRoot
  by_cases h1 : root = "uavcan" <;> by_cases h2 : root = "cyphal" <;> cases service <;> simp [h1, h2]

theorem portOk_iff (h : Header) (service : Bool) : portOk h service = true ↔ PortOk h service := by
  unfold portOk PortOk
  cases hp : h.port with
  | none => simp
  | some p =>
    simp only [Option.some.injEq, forall_eq', Bool.and_eq_true, Bool.or_eq_true, regulatedOk_iff]
    cases service <;> cases h.allowUnregulated <;> simp

theorem compositeNameOk_iff (comps : List String) : compositeNameOk comps = true ↔ NameRule comps := by
  simp [compositeNameOk, NameRule, List.all_eq_true, checkName_iff, and_assoc]

theorem schemaOk_iff (comps : List String) (deprecated : Bool) (sc : RSchema) :
    schemaOk comps deprecated sc = true ↔ SchemaValid comps deprecated sc := by
  unfold schemaOk
  simp only [Bool.and_eq_true, compositeNameOk_iff, namesUnique_iff, List.all_eq_true]
  have hagg : (∀ a ∈ sc.attrs, a.ty.aggOk (if sc.union = true then .union deprecated else .structure deprecated) = true) ↔
      ∀ a ∈ sc.attrs, PlaceOk a.ty sc.union deprecated := by
    constructor <;> intro h a ha <;> have := h a ha <;> rw [Ty.aggOk_iff] at * <;> exact this
  have harity : ((!sc.union || decide (2 ≤ ((sc.attrs.filter RAttr.isField).map RAttr.ty).length)) = true) ↔
      (sc.union = true → 2 ≤ (sc.attrs.filter RAttr.isField).length) := by
    cases sc.union <;> simp
  have hmode : ((match sc.mode with
      | none => false
      | some .sealed => true
      | some (.extent e) =>
          decide (e % 8 = 0) && decide (((if sc.union = true then unionMax ((sc.attrs.filter RAttr.isField).map RAttr.ty)
            else structMax ((sc.attrs.filter RAttr.isField).map RAttr.ty) : Nat) : Int) ≤ e)) = true) ↔
      (sc.mode = some .sealed ∨ ∃ e, sc.mode = some (.extent e) ∧ e % 8 = 0 ∧ (longest sc : Int) ≤ e) := by
    cases hm : sc.mode with
    | none => simp
    | some m => cases m <;> simp [longest]
  constructor
  · rintro ⟨⟨⟨⟨h1, h2⟩, h3⟩, h4⟩, h5⟩
    exact ⟨h1, h2, hagg.mp h3, harity.mp h4, hmode.mp h5⟩
  · rintro ⟨h1, h2, h3, h4, h5⟩
    exact ⟨⟨⟨⟨h1, h2⟩, hagg.mpr h3⟩, harity.mpr h4⟩, hmode.mpr h5⟩

theorem admissible_iff (pre : List RStmt) (st : RStmt) : admissible pre st = true ↔ StmtOk pre st := by
  cases st <;>
    simp [admissible, StmtOk, attrCtorOk_iff, List.any_eq_false, List.any_eq_true, List.contains_iff_mem, and_assoc]

end Rules
