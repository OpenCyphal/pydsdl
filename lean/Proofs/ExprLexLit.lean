import Proofs.ExprLex
import Proofs.ExprLit
/-!
  The integer literals as they are written (`writeDigits`, Proofs/ExprLit.lean) are terminals of the lexer: the text of a
  binary / octal / hexadecimal / decimal literal of the grammar's form, followed by anything that is no name character
  and no `.`, is lexed as `Lit.int` of exactly that text -- the text whose value `decodeInt_prefixed` / `decodeInt_decimal`
  determine.
-/
namespace Ex

theorem digitChar_bin (d : Nat) (u : Bool) (h : d < 2) : isBinC (digitChar d u) = true := by
  revert u; revert d; decide +kernel
theorem digitChar_oct (d : Nat) (u : Bool) (h : d < 8) : isOctC (digitChar d u) = true := by
  revert u; revert d; decide +kernel
theorem digitChar_hex (d : Nat) (u : Bool) (h : d < 16) : isHexC (digitChar d u) = true := by
  revert u; revert d; decide +kernel
theorem digitChar_dec' (d : Nat) (u : Bool) (h : d < 10) : isDigitC (digitChar d u) = true := by
  revert u; revert d; decide +kernel
theorem digitChar_zero (u : Bool) : isZeroC (digitChar 0 u) = true := by cases u <;> decide
theorem digitChar_nz (d : Nat) (u : Bool) (h : d < 10) (h0 : d ≠ 0) : isNzDigitC (digitChar d u) = true := by
  revert u; revert d; decide +kernel

theorem scanDigitsTail_written (p : Char → Bool) (ws : List DigitW) (hp : ∀ w ∈ ws, p (digitChar w.d w.upper) = true)
    (R : List Char) (hR : Stop (fun c => p c || c == '_') R) :
    scanDigitsTail p (writeDigits ws ++ R) = (writeDigits ws, R) := by
  induction ws with
  | nil =>
    have := scanDigitsTail_ext p R hR []
    simpa [writeDigits, scanDigitsTail] using this
  | cons w ws ih =>
    have hw := hp w (by simp)
    have ih' := ih (fun x hx => hp x (by simp [hx]))
    cases hus : w.us
    · simp [writeDigits, hus, scanDigitsTail, hw, ih']
    · simp [writeDigits, hus, scanDigitsTail, hw, ih', headIs]

theorem writeDigits_ne_nil (ws : List DigitW) (h : ws ≠ []) : writeDigits ws ≠ [] := by
  cases ws with
  | nil => exact absurd rfl h
  | cons w ws => cases hus : w.us <;> simp [writeDigits, hus]

/-- the real-literal alternatives fail in front of a base letter -/
theorem scanReal_prefixed (c : Char) (r : List Char) (hc : isDigitC c = false) (hu : c ≠ '_') (hd : c ≠ '.')
    (he : c ≠ 'e') (hE : c ≠ 'E') : scanReal ('0' :: c :: r) = none := by
  have h4 : scanExponent (c :: r) = none := by simp [scanExponent, he, hE]
  simp [scanReal, scanRealExp, scanMantissa_prefixed c r hc hu hd, h4, scanPoint_prefixed c r hc hu hd]

theorem scanPrefixed_other (p : Char → Bool) (lo up c : Char) (r : List Char) (h1 : c ≠ lo) (h2 : c ≠ up) :
    scanPrefixed p lo up ('0' :: c :: r) = none := by
  simp [scanPrefixed, h1, h2]

theorem scanPrefixed_written (p : Char → Bool) (hp' : ∀ c, p c = true → isIdentChar c = true) (lo up c : Char)
    (hc : c = lo ∨ c = up) (ws : List DigitW) (hne : ws ≠ [])
    (hp : ∀ w ∈ ws, p (digitChar w.d w.upper) = true) (R : List Char) (hR : Stop qNum R) :
    scanPrefixed p lo up ('0' :: c :: (writeDigits ws ++ R)) = some ('0' :: c :: writeDigits ws, R) := by
  have hc' : (c == lo || c == up) = true := by simpa using hc
  have hne' : (writeDigits ws).isEmpty = false := by
    have := writeDigits_ne_nil ws hne
    cases h : writeDigits ws with
    | nil => exact absurd h this
    | cons _ _ => rfl
  simp [scanPrefixed, hc', scanDigitsTail_written p ws hp R (stopNum_of p hp' hR), hne']

/-- **prefixed integer literals are terminals**: `0b…`, `0o…`, `0x…` exactly as `C04.literals_prefixed` writes them -/
theorem lexOne_prefixed (radix : Nat) (p : Char) (ws : List DigitW) (hne : ws ≠ [])
    (hp : (radix = 2 ∧ (p = 'b' ∨ p = 'B')) ∨ (radix = 8 ∧ (p = 'o' ∨ p = 'O')) ∨ (radix = 16 ∧ (p = 'x' ∨ p = 'X')))
    (h : ∀ w ∈ ws, w.d < radix) (R : List Char) (hR : Stop qNum R) :
    lexOne ('0' :: p :: writeDigits ws ++ R) = some (.lit (.int (String.ofList ('0' :: p :: writeDigits ws))), R) := by
  have hcons : '0' :: p :: writeDigits ws ++ R = '0' :: p :: (writeDigits ws ++ R) := rfl
  rw [hcons, lexOne_number '0' _ (by decide)]
  have hreal : scanReal ('0' :: p :: (writeDigits ws ++ R)) = none := by
    apply scanReal_prefixed <;>
      (rcases hp with ⟨_, rfl | rfl⟩ | ⟨_, rfl | rfl⟩ | ⟨_, rfl | rfl⟩ <;> decide)
  have hint : scanInt ('0' :: p :: (writeDigits ws ++ R)) = some ('0' :: p :: writeDigits ws, R) := by
    rcases hp with ⟨rfl, hp⟩ | ⟨rfl, hp⟩ | ⟨rfl, hp⟩
    · simp [scanInt, scanPrefixed_written isBinC (fun _ h => isDigitC_ident (isBinC_digit h)) 'b' 'B' p hp ws hne
        (fun w hw => digitChar_bin w.d w.upper (h w hw)) R hR]
    · have hb : scanPrefixed isBinC 'b' 'B' ('0' :: p :: (writeDigits ws ++ R)) = none :=
        scanPrefixed_other _ _ _ _ _ (by rcases hp with rfl | rfl <;> decide) (by rcases hp with rfl | rfl <;> decide)
      simp [scanInt, hb, scanPrefixed_written isOctC (fun _ h => isDigitC_ident (isOctC_digit h)) 'o' 'O' p hp ws hne
        (fun w hw => digitChar_oct w.d w.upper (h w hw)) R hR]
    · have hb : scanPrefixed isBinC 'b' 'B' ('0' :: p :: (writeDigits ws ++ R)) = none :=
        scanPrefixed_other _ _ _ _ _ (by rcases hp with rfl | rfl <;> decide) (by rcases hp with rfl | rfl <;> decide)
      have ho : scanPrefixed isOctC 'o' 'O' ('0' :: p :: (writeDigits ws ++ R)) = none :=
        scanPrefixed_other _ _ _ _ _ (by rcases hp with rfl | rfl <;> decide) (by rcases hp with rfl | rfl <;> decide)
      simp [scanInt, hb, ho, scanPrefixed_written isHexC (fun _ h => isHexC_ident h) 'x' 'X' p hp ws hne
        (fun w hw => digitChar_hex w.d w.upper (h w hw)) R hR]
  simp [lexNumber, hreal, hint]

/-- a digit run followed by no name character and no `.` is no real literal -/
theorem scanReal_digits (s : List Char) (R : List Char) (hR : Stop qNum R)
    (hd : scanDigits isDigitC (s ++ R) = some (s, R)) : scanReal (s ++ R) = none := by
  have hf : scanFraction R = none := by
    have := scanFraction_ext R hR []
    simpa [scanFraction] using this
  have hdot : ∀ r, R ≠ '.' :: r := by
    intro r hr
    subst hr
    exact absurd hR.cons (by decide)
  have hp : scanPoint (s ++ R) = none := by
    simp only [scanPoint, hd, hf]
  have he : scanExponent R = none := by
    have := scanExponent_ext R hR [] (by intro c _ _; simp)
    simpa [scanExponent] using this
  simp [scanReal, scanRealExp, scanMantissa, hp, hd, he]

/-- **decimal integer literals are terminals**: `[1-9](_?[0-9])*` -/
theorem lexOne_decimal (w : DigitW) (ws : List DigitW) (hus : w.us = false) (h0 : w.d ≠ 0)
    (h : ∀ x ∈ w :: ws, x.d < 10) (R : List Char) (hR : Stop qNum R) :
    lexOne (writeDigits (w :: ws) ++ R) = some (.lit (.int (String.ofList (writeDigits (w :: ws)))), R) := by
  have hw := h w (by simp)
  have hws : ∀ x ∈ ws, isDigitC (digitChar x.d x.upper) = true := fun x hx => digitChar_dec' x.d x.upper (h x (by simp [hx]))
  have htxt : writeDigits (w :: ws) = digitChar w.d w.upper :: writeDigits ws := by simp [writeDigits, hus]
  have hdig := digitChar_dec' w.d w.upper hw
  have hnz := digitChar_nz w.d w.upper hw h0
  have hne0 : (digitChar w.d w.upper == '0') = false := by
    cases hz : digitChar w.d w.upper == '0' with
    | false => rfl
    | true =>
      rw [beq_iff_eq] at hz
      have : isNzDigitC '0' = true := hz ▸ hnz
      exact absurd this (by decide)
  have htail := scanDigitsTail_written isDigitC ws hws R (stopDigit hR)
  rw [htxt, List.cons_append, lexOne_number _ _ (by simp [hdig])]
  have hd : scanDigits isDigitC ((digitChar w.d w.upper :: writeDigits ws) ++ R)
      = some (digitChar w.d w.upper :: writeDigits ws, R) := by
    simp [scanDigits, hdig, htail]
  have hreal := scanReal_digits _ R hR hd
  have hfirst : ∀ (q : Char → Bool) (lo up : Char),
      scanPrefixed q lo up (digitChar w.d w.upper :: (writeDigits ws ++ R)) = none := by
    intro q lo up
    unfold scanPrefixed
    split
    · rename_i c r heq
      simp only [List.cons.injEq] at heq
      rw [heq.1] at hne0
      exact absurd hne0 (by decide)
    · rfl
  have hint : scanInt (digitChar w.d w.upper :: (writeDigits ws ++ R)) = some (digitChar w.d w.upper :: writeDigits ws, R) := by
    simp [scanInt, hfirst, scanDecimal, hne0, hnz, htail]
  simp only [List.cons_append] at hreal
  simp [lexNumber, hreal, hint]

/-- … and `(0(_?0)*)+` -/
theorem lexOne_zeros (w : DigitW) (ws : List DigitW) (hus : w.us = false) (h : ∀ x ∈ w :: ws, x.d = 0)
    (R : List Char) (hR : Stop qNum R) :
    lexOne (writeDigits (w :: ws) ++ R) = some (.lit (.int (String.ofList (writeDigits (w :: ws)))), R) := by
  have hw := h w (by simp)
  have htxt : writeDigits (w :: ws) = '0' :: writeDigits ws := by
    have : digitChar 0 w.upper = '0' := by cases w.upper <;> decide
    simp [writeDigits, hus, hw, this]
  have hws0 : ∀ x ∈ ws, isZeroC (digitChar x.d x.upper) = true := fun x hx => by
    rw [h x (by simp [hx])]; exact digitChar_zero _
  have hws : ∀ x ∈ ws, isDigitC (digitChar x.d x.upper) = true := fun x hx => isZeroC_digit (hws0 x hx)
  have htail := scanDigitsTail_written isDigitC ws hws R (stopDigit hR)
  have htail0 := scanDigitsTail_written isZeroC ws hws0 R
    (stopNum_of isZeroC (fun _ h => isDigitC_ident (isZeroC_digit h)) hR)
  rw [htxt, List.cons_append, lexOne_number _ _ (by decide)]
  have hd : scanDigits isDigitC (('0' :: writeDigits ws) ++ R) = some ('0' :: writeDigits ws, R) := by
    have : isDigitC '0' = true := by decide
    simp [scanDigits, this, htail]
  have hreal := scanReal_digits _ R hR hd
  -- the prefixed forms need a base letter after the `0`
  have hhead : ∀ c r, writeDigits ws ++ R = c :: r → c = '0' ∨ c = '_' ∨ qNum c = false := by
    intro c r hrest
    cases ws with
    | nil =>
      simp only [writeDigits, List.nil_append] at hrest
      subst hrest
      exact Or.inr (Or.inr hR.cons)
    | cons x xs =>
      have hx0 : digitChar x.d x.upper = '0' := by
        rw [h x (by simp)]; cases x.upper <;> decide
      cases hxu : x.us
      · simp only [writeDigits, hxu, Bool.false_eq_true, ↓reduceIte, List.nil_append, List.cons_append,
          List.cons.injEq] at hrest
        exact Or.inl (hrest.1 ▸ hx0)
      · simp only [writeDigits, hxu, ↓reduceIte, List.cons_append, List.cons.injEq] at hrest
        exact Or.inr (Or.inl hrest.1.symm)
  have hsecond : ∀ (q : Char → Bool) (lo up : Char), lo ≠ '0' → up ≠ '0' → lo ≠ '_' → up ≠ '_' → qNum lo = true →
      qNum up = true → scanPrefixed q lo up ('0' :: (writeDigits ws ++ R)) = none := by
    intro q lo up hl0 hu0 hlu huu hlq huq
    cases hrest : writeDigits ws ++ R with
    | nil => simp [scanPrefixed]
    | cons c r =>
      have hne : ∀ x : Char, x ≠ '0' → x ≠ '_' → qNum x = true → c ≠ x := by
        intro x h1 h2 h3 hcx
        subst hcx
        rcases hhead c r hrest with hc | hc | hc
        · exact h1 hc
        · exact h2 hc
        · rw [h3] at hc; exact absurd hc (by simp)
      exact scanPrefixed_other q lo up c r (hne lo hl0 hlu hlq) (hne up hu0 huu huq)
  have hint : scanInt ('0' :: (writeDigits ws ++ R)) = some ('0' :: writeDigits ws, R) := by
    simp [scanInt, hsecond isBinC 'b' 'B' (by decide) (by decide) (by decide) (by decide) (by decide) (by decide),
      hsecond isOctC 'o' 'O' (by decide) (by decide) (by decide) (by decide) (by decide) (by decide),
      hsecond isHexC 'x' 'X' (by decide) (by decide) (by decide) (by decide) (by decide) (by decide),
      scanDecimal, htail0]
  simp only [List.cons_append] at hreal
  simp [lexNumber, hreal, hint]

end Ex
