import Proofs.Expr
import Model.Const
/-! Hazard-freedom of bounded expressions: inside the bounds of the property the evaluator only produces values and
    `invalid`-class rejections. -/
namespace Ex

/-- an error that is a rejection (or the explicit modelling gap "set of sets"), never a hazard or an inexact result -/
def Err.benign : Err → Prop
  | .invalid _ => True
  | .unsupported => True
  | _ => False

theorem benign_of_invalid {e : Err} (h : ∃ k, e = .invalid k) : e.benign := by
  obtain ⟨k, rfl⟩ := h; trivial

theorem reduceCmp_err [StrNorm] (flip : Bool) (a : Scalar) (l : List Scalar) (e : Err) (h : reduceCmp flip a l = .error e) :
    ∃ k, e = .invalid k := by
  induction l generalizing a with
  | nil => simp [reduceCmp] at h
  | cons b rest ih =>
    simp only [reduceCmp] at h
    split at h
    · exact ih _ h
    · exact ih _ h
    · rename_i e' he
      simp only [Except.error.injEq] at h; subst h
      refine (scBin_defined _ a b ?_).err _ he
      cases flip <;> exact intExp_of_ne_pow _ (by simp) _

theorem evalAttr_err [StrNorm] (v : Val) (n : String) (e : Err) (h : evalAttr v n = .error e) : ∃ k, e = .invalid k := by
  unfold evalAttr at h
  split at h
  · exact reduceCmp_err _ _ _ _ (map_err _ _ _ h)
  · exact reduceCmp_err _ _ _ _ (map_err _ _ _ h)
  · simp at h
  · exact invalid_of_inval h

theorem evalUn_err (op : UnOp) (v : Val) (e : Err) (h : evalUn op v = .error e) : ∃ k, e = .invalid k := by
  unfold evalUn at h
  split at h <;> first | exact invalid_of_inval h | cases h

theorem mkSet_err [StrNorm] (vs : List Val) (e : Err) (h : mkSet vs = .error e) : e.benign := by
  unfold mkSet at h
  split at h
  · exact benign_of_invalid ⟨_, by simpa [inval] using h.symm⟩
  · simp only at h
    split at h
    · exact benign_of_invalid (mkSetS_err _ _ h)
    · split at h
      · simp only [Except.error.injEq] at h; subst h; trivial
      · exact benign_of_invalid ⟨_, by simpa [inval] using h.symm⟩

/-- `Constant.__init__` only rejects: every leaf of its decision tree is a value or an `invalid`-class rejection -/
theorem constCheck_err {ty : CTy} {v : Val} {e : Err} (h : constCheck ty v = .error e) : ∃ k, e = .invalid k := by
  unfold constCheck at h
  repeat' split at h
  all_goals first | exact invalid_of_inval h | cases h

theorem optSyntax_err {α} (o : Option α) (e : Err) (h : optSyntax o = .error e) : e = .invalid .syntax := by
  cases o <;> simp [optSyntax, inval] at h; exact h.symm

theorem decodeInt_err (cs : List Char) (hb : (stripUnderscores cs).length ≤ pyIntMaxDigits) (e : Err)
    (h : decodeInt cs = .error e) : e = .invalid .syntax := by
  unfold decodeInt at h
  split at h
  all_goals first
    | exact optSyntax_err _ _ h
    | (rename_i t _ _ _ _ _ _
       split at h
       · omega
       · exact optSyntax_err _ _ h)

theorem splitAt1_length (p : Char → Bool) (l : List Char) :
    (splitAt1 p l).1.length + ((splitAt1 p l).2.getD []).length ≤ l.length := by
  induction l with
  | nil => simp [splitAt1]
  | cons c cs ih =>
    simp only [splitAt1]
    split
    · simp
    · simp only [List.length_cons]; omega

theorem decodeReal_err (cs : List Char) (hb : (stripUnderscores cs).length ≤ pyIntMaxDigits) (e : Err)
    (h : decodeReal cs = .error e) : e = .invalid .syntax := by
  unfold decodeReal at h
  simp only at h
  have h1 := splitAt1_length (fun c => c == 'e' || c == 'E') (stripUnderscores cs)
  have h2 := splitAt1_length (· == '.') (splitAt1 (fun c => c == 'e' || c == 'E') (stripUnderscores cs)).1
  split at h
  · rename_i hlen
    simp only [List.length_append] at hlen
    omega
  · split at h
    · simpa [inval] using h.symm
    · split at h
      · simp at h
      · exact optSyntax_err _ _ (map_err _ _ _ h)
      · exact optSyntax_err _ _ (map_err _ _ _ h)
      · exact optSyntax_err _ _ (map_err _ _ _ h)

theorem evalLit_err (l : Lit) (hb : litBounded l = true) (e : Err) (h : evalLit l = .error e) : e.benign := by
  cases l with
  | int t =>
    have hd : decodeInt t.toList = .error e := map_err (decodeInt t.toList) _ e h
    rw [decodeInt_err t.toList (of_decide_eq_true hb) e hd]; trivial
  | real t =>
    have hd : decodeReal t.toList = .error e := map_err (decodeReal t.toList) Val.rat e h
    rw [decodeReal_err t.toList (of_decide_eq_true hb) e hd]; trivial
  | str t =>
    have hd : decodeStr t.toList = .error e := map_err (decodeStr t.toList) Val.str e h
    rw [litBounded, hd] at hb
    cases e with
    | invalid k => trivial
    | _ => cases hb
  | bool b => cases h

/-- an exponent that is an integer literal, possibly signed, evaluates to an integral rational -/
theorem intSyntax_value [StrNorm] (env : Env) (r : Expr) (hr : intSyntax r = true) (v : Val) (h : eval env r = .ok v) :
    ∃ q : Rat, v = .rat q ∧ Rat.isInt' q = true := by
  have lit : ∀ t (w : Val), eval env (.lit (.int t)) = .ok w → ∃ n : Nat, w = .rat (n : Nat) := fun t w hw => by
    obtain ⟨n, _, rfl⟩ := (map_ok_iff (decodeInt t.toList) _ w).mp hw
    exact ⟨n, rfl⟩
  -- a sign in front of the literal
  have signed : ∀ op t, eval env (.un op (.lit (.int t))) = .ok v → ∃ n : Nat, evalUn op (.rat (n : Nat)) = .ok v := fun op t h => by
    change (match eval env (.lit (.int t)) with | .error x => Except.error x | .ok w => evalUn op w) = .ok v at h
    cases hw : eval env (.lit (.int t)) with
    | error x => rw [hw] at h; cases h
    | ok w => obtain ⟨n, rfl⟩ := lit t w hw; rw [hw] at h; exact ⟨n, h⟩
  unfold intSyntax at hr
  split at hr
  · obtain ⟨n, rfl⟩ := lit _ v h
    exact ⟨_, rfl, by simp [Rat.isInt']⟩
  · obtain ⟨n, hn⟩ := signed _ _ h
    cases hn
    exact ⟨_, rfl, by simp [Rat.isInt']⟩
  · obtain ⟨n, hn⟩ := signed _ _ h
    cases hn
    exact ⟨_, rfl, by simp [Rat.isInt']⟩
  · cases hr

mutual
/-- Inside the bounds of the property (literals within CPython's conversion limit, escapes within Unicode, exponents
    integral by syntax) evaluation yields a value or a benign error: no hazard, nothing inexact. -/
theorem eval_bounded [StrNorm] (env : Env) : (e : Expr) → e.bounded = true → ∀ x, eval env e = .error x → x.benign
  | .lit l, hb, x, h => evalLit_err l hb x h
  | .ident n, _, x, h => by
      simp only [eval] at h
      split at h
      · cases h
      · exact benign_of_invalid (invalid_of_inval h)
  | .setLit es, hb, x, h => by
      simp only [eval] at h
      split at h
      · rename_i he; cases h; exact evalList_bounded env es hb _ he
      · exact mkSet_err _ _ h
  | .un op e, hb, x, h => by
      simp only [eval] at h
      split at h
      · rename_i he; cases h; exact eval_bounded env e hb _ he
      · exact benign_of_invalid (evalUn_err _ _ _ h)
  | .bin op l r, hb, x, h => by
      simp only [Expr.bounded, Bool.and_eq_true, Bool.or_eq_true, bne_iff_ne, ne_eq] at hb
      obtain ⟨⟨hl, hr⟩, hexp⟩ := hb
      simp only [eval] at h
      split at h
      · rename_i he; cases h; exact eval_bounded env l hl _ he
      split at h
      · rename_i he; cases h; exact eval_bounded env r hr _ he
      rename_i _ a _ _ b hb
      refine benign_of_invalid (evalBin_err_invalid op a b ?_ x h)
      by_cases hp : op = .pow
      · obtain ⟨q, rfl, hq⟩ := intSyntax_value env r (hexp.resolve_left (not_not_intro hp)) b hb
        exact fun _ q' hq' => Scalar.rat.inj hq' ▸ hq
      · cases b with
        | sc y => exact intExp_of_ne_pow op hp y
        | set bs => exact fun z _ => intExp_of_ne_pow op hp z
  | .attr e n, hb, x, h => by
      simp only [eval] at h
      split at h
      · rename_i he; cases h; exact eval_bounded env e hb _ he
      · exact benign_of_invalid (evalAttr_err _ _ _ h)
theorem evalList_bounded [StrNorm] (env : Env) : (es : List Expr) → boundedList es = true → ∀ x, evalList env es = .error x → x.benign
  | [], _, x, h => by cases h
  | e :: es, hb, x, h => by
      simp only [boundedList, Bool.and_eq_true] at hb
      simp only [evalList] at h
      split at h
      · rename_i he; cases h; exact eval_bounded env e hb.1 _ he
      split at h
      · rename_i he; cases h; exact evalList_bounded env es hb.2 _ he
      · cases h
end

end Ex
