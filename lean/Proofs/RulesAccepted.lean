import Proofs.RulesLayout
/-!
  What the statement rules of an accepted definition give for the attributes of its schemas: every attribute type
  passed the constructor checks — so the layout bridge (`Proofs/RulesLayout.lean`) applies to the schemas of every
  accepted definition.
-/
namespace Rules
open Spec

/-- the schemas of a definition: request and response of a service, or the one schema of a message -/
def BState.schemas (b : BState) : List RSchema := b.done ++ [b.cur]

theorem mem_foldl_lastSeg (pre acc : List RStmt) (x : RStmt)
    (h : x ∈ pre.foldl (fun acc st => if st = .marker then [] else acc ++ [st]) acc) : x ∈ acc ∨ x ∈ pre := by
  induction pre generalizing acc with
  | nil => exact Or.inl h
  | cons st pre ih =>
    rw [List.foldl_cons] at h
    rcases ih _ h with h' | h'
    · split at h'
      · cases h'
      · rcases List.mem_append.mp h' with h'' | h''
        · exact Or.inl h''
        · right; simp only [List.mem_singleton] at h''; subst h''; exact List.mem_cons_self
    · exact Or.inr (List.mem_cons_of_mem _ h')

theorem mem_lastSeg {pre : List RStmt} {x : RStmt} (h : x ∈ lastSeg pre) : x ∈ pre := by
  rcases mem_foldl_lastSeg pre [] x h with h | h
  · cases h
  · exact h

theorem mem_firstSeg {pre : List RStmt} {x : RStmt} (h : x ∈ firstSeg pre) : x ∈ pre :=
  (List.takeWhile_sublist _).subset h

theorem mem_segSummary_attrs {seg : List RStmt} {a : RAttr} (h : a ∈ (segSummary seg).attrs) :
    ∃ st ∈ seg, st.toAttr = some a := by
  simpa [segSummary, List.mem_filterMap] using h

/-- every attribute of every schema was written as an attribute statement -/
theorem mem_schemas_attrs {stmts : List RStmt} {sc : RSchema} {a : RAttr} (hsc : sc ∈ (summ stmts).schemas)
    (ha : a ∈ sc.attrs) : ∃ st ∈ stmts, st.toAttr = some a := by
  simp only [BState.schemas, summ, List.mem_append, List.mem_singleton] at hsc
  rcases hsc with hsc | rfl
  · split at hsc
    · simp only [List.mem_singleton] at hsc
      subst hsc
      obtain ⟨st, hst, e⟩ := mem_segSummary_attrs ha
      exact ⟨st, mem_firstSeg hst, e⟩
    · cases hsc
  · obtain ⟨st, hst, e⟩ := mem_segSummary_attrs ha
    exact ⟨st, mem_lastSeg hst, e⟩

theorem typeOk_of_attrOk {st : RStmt} {a : RAttr} (e : st.toAttr = some a) (h : AttrOk st) : TypeOk a.ty := by
  cases st with
  | field _ _ | const _ _ => simp only [RStmt.toAttr, Option.some.injEq] at e; subst e; exact h.1
  | padding w => simp only [RStmt.toAttr, Option.some.injEq] at e; subst e; exact h
  | _ => simp [RStmt.toAttr] at e

theorem attrOk_of_stmtOk {pre : List RStmt} {st : RStmt} {a : RAttr} (e : st.toAttr = some a) (h : StmtOk pre st) :
    AttrOk st := by
  cases st with
  | field _ _ | const _ _ | padding _ => exact h.1
  | _ => simp [RStmt.toAttr] at e

/-- in a definition whose statements obey the statement rules, every attribute type of every schema obeys the
    width / capacity rules -/
theorem schemas_typeOk {stmts : List RStmt} (hs : ∀ pre st post, stmts = pre ++ st :: post → StmtOk pre st)
    {sc : RSchema} (hsc : sc ∈ (summ stmts).schemas) : ∀ a ∈ sc.attrs, TypeOk a.ty := by
  intro a ha
  obtain ⟨st, hst, e⟩ := mem_schemas_attrs hsc ha
  obtain ⟨pre, post, hpp⟩ := List.append_of_mem hst
  exact typeOk_of_attrOk e (attrOk_of_stmtOk e (hs pre st post hpp))

/-! ### from the rules to the hypotheses of the layout bridge -/

/-- what the rules model does not see of a type: its references are interpreted faithfully (that a variable-length
    capacity fits the 64-bit length prefix is part of `TypeOk`) -/
def Ty.Fits (ρ : CompInfo → Layout.Ty) : Ty → Prop
  | .scalar s => s.RefsOk ρ
  | .fixedArr e _ => e.RefsOk ρ
  | .varArr e _ => e.RefsOk ρ

theorem Ty.LayoutOk.fits {ρ : CompInfo → Layout.Ty} {t : Ty} (h : t.LayoutOk ρ) : t.Fits ρ := by
  cases t with
  | scalar s => exact h.2
  | fixedArr _ _ | varArr _ _ => exact h.2.1

theorem Ty.layoutOk_of (ρ : CompInfo → Layout.Ty) (t : Ty) (h1 : TypeOk t) (h2 : t.Fits ρ) : t.LayoutOk ρ := by
  cases t with
  | scalar s => exact ⟨h1, h2⟩
  | fixedArr e cap => exact ⟨h1.1, h2, h1.2⟩
  | varArr e cap => exact ⟨h1.1, h2, h1.2.1, h1.2.2⟩

theorem mem_fieldTys {sc : RSchema} {t : Ty} (h : t ∈ sc.fieldTys) : ∃ a ∈ sc.attrs, a.ty = t := by
  simp only [RSchema.fieldTys, List.mem_map, List.mem_filter] at h
  obtain ⟨a, ⟨ha, _⟩, e⟩ := h
  exact ⟨a, ha, e⟩

theorem RSchema.layoutOk_of (ρ : CompInfo → Layout.Ty) (sc : RSchema) (ht : ∀ a ∈ sc.attrs, TypeOk a.ty)
    (hf : ∀ t ∈ sc.fieldTys, t.Fits ρ) (hu : sc.union = true → 2 ≤ (sc.attrs.filter RAttr.isField).length)
    (hl : sc.fieldTys.length ≤ 2 ^ 64) : sc.LayoutOk ρ := by
  refine ⟨fun t htm => ?_, fun h => ⟨?_, hl⟩⟩
  · obtain ⟨a, ha, rfl⟩ := mem_fieldTys htm
    exact Ty.layoutOk_of ρ _ (ht a ha) (hf _ htm)
  · simpa [RSchema.fieldTys] using hu h

end Rules
