import Proofs.WireInput
/-! Relaxed input (`_normalize_relaxed_value`, model `Wire.normalize`): the cases of a structure as equations,
    the positional and bare-value forms expressed through the explicit dict form, and idempotence, which
    then has to be settled for dicts only. -/
namespace Wire

/-! ### the cases of a structure, as equations -/

/-- the quirk of single-field structures: a non-empty dict that lacks the field's key is the field's VALUE -/
def bareDict (fs : List Ty) (kvs : List (Nat × Inp)) : Prop :=
  ∃ k, nonPad fs 0 = [k] ∧ (!kvs.isEmpty && !hasKey k kvs) = true

/-- the only field given bare: by anything that is not a dict, or by a dict as in `bareDict` -/
theorem norm_struct_bare (fs : List Ty) (m : Mode) (x : Inp) (k : Nat) (hk : nonPad fs 0 = [k])
    (hx : (∀ kvs, x ≠ .dict kvs) ∨ ∃ kvs, x = .dict kvs ∧ (!kvs.isEmpty && !hasKey k kvs) = true) :
    normalize (.struct fs m) x = (do
      let y ← normField fs k x
      pure (.dict [(k, y)])) := by
  rcases hx with hx | ⟨kvs, rfl, hb⟩
  · cases x with
    | dict kvs => exact absurd rfl (hx kvs)
    | _ => simp only [normalize, hk]
  · simp only [normalize, hk, hb, if_true]

theorem norm_struct_dict (fs : List Ty) (m : Mode) (kvs : List (Nat × Inp)) (hb : ¬ bareDict fs kvs) :
    normalize (.struct fs m) (.dict kvs) = (do
      let ys ← mapKvs (fun k' y => normField fs k' y) kvs
      pure (.dict ys)) := by
  rcases hnf : nonPad fs 0 with _ | ⟨k, _ | ⟨k', rest⟩⟩
  · simp only [normalize, hnf]
  · have : (!kvs.isEmpty && !hasKey k kvs) = false := Bool.eq_false_iff.mpr fun h => hb ⟨k, hnf, h⟩
    simp only [normalize, hnf, this, Bool.false_eq_true, if_false]
  · simp only [normalize, hnf]

theorem norm_struct_list (fs : List Ty) (m : Mode) (xs : List Inp) (hk : ∀ k, nonPad fs 0 ≠ [k]) :
    normalize (.struct fs m) (.list xs) =
      if xs.length > (nonPad fs 0).length then .error .value else (do
        let ys ← normPos fs 0 xs
        pure (.dict ys)) := by
  simp only [normalize]

theorem norm_struct_other (fs : List Ty) (m : Mode) (x : Inp) (hk : ∀ k, nonPad fs 0 ≠ [k])
    (hd : ∀ kvs, x ≠ .dict kvs) (hl : ∀ xs, x ≠ .list xs) :
    normalize (.struct fs m) x = .ok x := by
  cases x with
  | dict kvs => exact absurd rfl (hd kvs)
  | list xs => exact absurd rfl (hl xs)
  | _ => simp only [normalize]

/-! ### list helpers -/

theorem mapInps_idem {f : Inp → Except Err Inp} :
    ∀ (xs ys : List Inp), (∀ x ∈ xs, ∀ y, f x = .ok y → f y = .ok y) → mapInps f xs = .ok ys → mapInps f ys = .ok ys
  | [], ys, _, h => by
      simp only [mapInps] at h; cases h; rfl
  | x :: xs, ys, hf, h => by
      simp only [mapInps, bind_ok] at h
      obtain ⟨y, hy, ys', hys, hd⟩ := h
      cases hd
      simp only [mapInps, bind_ok]
      exact ⟨y, hf x (by simp) y hy, ys', mapInps_idem xs ys' (fun x' hx' => hf x' (by simp [hx'])) hys, rfl⟩

theorem mapKvs_keys {f : Nat → Inp → Except Err Inp} :
    ∀ (kvs ys : List (Nat × Inp)), mapKvs f kvs = .ok ys → ys.map Prod.fst = kvs.map Prod.fst
  | [], ys, h => by simp only [mapKvs] at h; cases h; rfl
  | (k, x) :: rest, ys, h => by
      simp only [mapKvs, bind_ok] at h
      obtain ⟨y, _, ys', hys, hd⟩ := h
      cases hd
      simp [mapKvs_keys rest ys' hys]

theorem mapKvs_idem {f : Nat → Inp → Except Err Inp} :
    ∀ (kvs ys : List (Nat × Inp)), (∀ kv ∈ kvs, ∀ y, f kv.1 kv.2 = .ok y → f kv.1 y = .ok y) →
      mapKvs f kvs = .ok ys → mapKvs f ys = .ok ys
  | [], ys, _, h => by simp only [mapKvs] at h; cases h; rfl
  | (k, x) :: rest, ys, hf, h => by
      simp only [mapKvs, bind_ok] at h
      obtain ⟨y, hy, ys', hys, hd⟩ := h
      cases hd
      simp only [mapKvs, bind_ok]
      exact ⟨y, hf (k, x) (by simp) y hy, ys', mapKvs_idem rest ys' (fun kv hkv => hf kv (by simp [hkv])) hys, rfl⟩

theorem hasKey_eq_of_keys (k : Nat) (a b : List (Nat × Inp)) (h : a.map Prod.fst = b.map Prod.fst) :
    hasKey k a = hasKey k b := by
  have : ∀ l : List (Nat × Inp), hasKey k l = (l.map Prod.fst).any (fun k' => k' == k) := by
    intro l; simp [hasKey, List.any_map, Function.comp_def]
  rw [this a, this b, h]

theorem isEmpty_eq_of_keys (a b : List (Nat × Inp)) (h : a.map Prod.fst = b.map Prod.fst) :
    a.isEmpty = b.isEmpty := by
  cases a <;> cases b <;> simp_all

theorem bareDict_congr (fs : List Ty) (a b : List (Nat × Inp)) (h : a.map Prod.fst = b.map Prod.fst) :
    bareDict fs a ↔ bareDict fs b := by
  unfold bareDict
  simp only [hasKey_eq_of_keys _ a b h, isEmpty_eq_of_keys a b h]

theorem normField_append : ∀ (pre ts : List Ty) (j : Nat) (x : Inp),
    normField (pre ++ ts) (pre.length + j) x = normField ts j x
  | [], ts, j, x => by simp
  | p :: pre, ts, j, x => by
      have : (p :: pre).length + j = (pre.length + j) + 1 := by simp; omega
      rw [List.cons_append, this, normField]
      exact normField_append pre ts j x

theorem not_bareDict_singleton {fs : List Ty} {k : Nat} (h : nonPad fs 0 = [k]) :
    ¬ bareDict fs [(k, x)] := by
  rintro ⟨k', hk', hb⟩
  rw [h] at hk'
  cases hk'
  simp [hasKey] at hb

/-! ### the relaxed forms, expressed through the explicit dict form -/

/-- positional values are the dict that pairs them with the non-padding field indices, in order -/
theorem normPos_eq_zip : ∀ (ts pre : List Ty) (i : Nat) (xs : List Inp), i = pre.length →
    normPos ts i xs = mapKvs (fun k' y => normField (pre ++ ts) k' y) (List.zip (nonPad ts i) xs)
  | [], pre, i, xs, _ => by simp [normPos, nonPad, mapKvs]
  | t :: ts, pre, i, xs, hi => by
      have hpre : pre ++ t :: ts = (pre ++ [t]) ++ ts := by simp
      simp only [normPos, nonPad]
      split
      · rw [hpre]
        exact normPos_eq_zip ts (pre ++ [t]) (i+1) xs (by simp [hi])
      · rename_i hv
        cases xs with
        | nil => simp [mapKvs]
        | cons x xs' =>
          simp only [List.zip_cons_cons, mapKvs]
          have := normField_append pre (t :: ts) 0 x
          rw [Nat.add_zero, ← hi] at this
          rw [this]
          simp only [normField, hv, Bool.false_eq_true, if_false]
          rw [normPos_eq_zip ts (pre ++ [t]) (i+1) xs' (by simp [hi]), hpre]

theorem norm_positional (fs : List Ty) (m : Mode) (xs : List Inp) (hk : ∀ k, nonPad fs 0 ≠ [k])
    (hlen : xs.length ≤ (nonPad fs 0).length) :
    normalize (.struct fs m) (.list xs) = normalize (.struct fs m) (.dict (List.zip (nonPad fs 0) xs)) := by
  have hnb : ∀ kvs, ¬ bareDict fs kvs := by
    rintro kvs ⟨k', hk', _⟩
    exact hk k' hk'
  rw [norm_struct_list fs m xs hk, norm_struct_dict fs m _ (hnb _), if_neg (by omega),
    normPos_eq_zip fs [] 0 xs rfl]
  rfl

theorem norm_bare (fs : List Ty) (m : Mode) (x : Inp) (k : Nat) (hk : nonPad fs 0 = [k])
    (hx : (∀ kvs, x ≠ .dict kvs) ∨ ∃ kvs, x = .dict kvs ∧ (!kvs.isEmpty && !hasKey k kvs) = true) :
    normalize (.struct fs m) x = normalize (.struct fs m) (.dict [(k, x)]) := by
  rw [norm_struct_bare fs m x k hk hx, norm_struct_dict fs m [(k, x)] (not_bareDict_singleton hk)]
  simp only [mapKvs]
  cases normField fs k x <;> rfl

/-! ### idempotence -/

/-- a dict whose entries are normal and which is not the bare form of a single field -/
theorem norm_struct_fix (fs : List Ty) (m : Mode) (ys : List (Nat × Inp)) (hnb : ¬ bareDict fs ys)
    (h : mapKvs (fun k' y => normField fs k' y) ys = .ok ys) :
    normalize (.struct fs m) (.dict ys) = .ok (.dict ys) := by
  rw [norm_struct_dict fs m ys hnb, h]; rfl

mutual
theorem normalize_idem : ∀ (t : Ty) (x y : Inp), normalize t x = .ok y → normalize t y = .ok y
  | .bool, x, y, h | .uint _ _, x, y, h | .sint _ _, x, y, h | .float _ _, x, y, h
  | .byte, x, y, h | .utf8, x, y, h | .void _, x, y, h => by
      simp only [normalize] at h ⊢
  | .farr e cap, x, y, h | .varr e cap, x, y, h => by
      cases x with
      | list xs =>
        simp only [normalize, bind_ok] at h
        obtain ⟨ys, hys, hd⟩ := h
        cases hd
        simp only [normalize, bind_ok]
        exact ⟨ys, mapInps_idem xs ys (fun x' _ y' hy' => normalize_idem e x' y' hy') hys, rfl⟩
      | _ => simp only [normalize] at h; cases h; simp only [normalize]
  | .struct fs m, x, y, h => by
      -- every relaxed form has been expressed through a dict that is not bare, so this is the case to settle
      have hdict : ∀ kvs, ¬ bareDict fs kvs → normalize (.struct fs m) (.dict kvs) = .ok y →
          normalize (.struct fs m) y = .ok y := by
        intro kvs hb h'
        rw [norm_struct_dict fs m kvs hb] at h'
        simp only [bind_ok] at h'
        obtain ⟨ys, hys, hd⟩ := h'
        cases hd
        exact norm_struct_fix fs m ys (fun hb' => hb ((bareDict_congr fs ys kvs (mapKvs_keys kvs ys hys)).mp hb'))
          (mapKvs_idem kvs ys (fun kv _ y' hy' => normField_idem fs kv.1 kv.2 y' hy') hys)
      by_cases hsingle : ∃ k, nonPad fs 0 = [k]
      · obtain ⟨k, hk⟩ := hsingle
        by_cases hx : (∀ kvs, x ≠ .dict kvs) ∨ ∃ kvs, x = .dict kvs ∧ (!kvs.isEmpty && !hasKey k kvs) = true
        · rw [norm_bare fs m x k hk hx] at h
          exact hdict _ (not_bareDict_singleton hk) h
        · cases x with
          | dict kvs =>
            refine hdict kvs (fun ⟨k', hk', hb⟩ => hx (Or.inr ⟨kvs, rfl, ?_⟩)) h
            rw [hk] at hk'; cases hk'; exact hb
          | _ => exact absurd (Or.inl (by intro kvs hc; cases hc)) hx
      · have hk : ∀ k, nonPad fs 0 ≠ [k] := fun k hc => hsingle ⟨k, hc⟩
        have hnb : ∀ kvs, ¬ bareDict fs kvs := fun kvs ⟨k', hk', _⟩ => hk k' hk'
        cases x with
        | dict kvs => exact hdict kvs (hnb kvs) h
        | list xs =>
          by_cases hlen : xs.length ≤ (nonPad fs 0).length
          · rw [norm_positional fs m xs hk hlen] at h
            exact hdict _ (hnb _) h
          · rw [norm_struct_list fs m xs hk, if_pos (by omega)] at h
            cases h
        | _ =>
          rw [norm_struct_other fs m _ hk (by intro kvs hc; cases hc) (by intro xs hc; cases hc)] at h
          cases h
          exact norm_struct_other fs m _ hk (by intro kvs hc; cases hc) (by intro xs hc; cases hc)
  | .union fs m, x, y, h => by
      simp only [normalize] at h
      split at h
      · rename_i k y0
        split at h
        · rename_i hk
          simp only [bind_ok] at h
          obtain ⟨y', hy', hd⟩ := h
          cases hd
          simp only [normalize, hk, if_true, bind_ok]
          exact ⟨y', normField_idem fs k y0 y' hy', rfl⟩
        · cases h
          rename_i hk
          simp only [normalize, hk, if_false]
      · cases h
        rename_i hne
        simp only [normalize]
theorem normField_idem : ∀ (ts : List Ty) (k : Nat) (x y : Inp), normField ts k x = .ok y → normField ts k y = .ok y
  | [], k, x, y, h => by simp only [normField]
  | t :: ts, 0, x, y, h => by
      simp only [normField] at h ⊢
      split at h
      · rename_i hv; simp only [hv, if_true]
      · rename_i hv; simp only [hv]; exact normalize_idem t x y h
  | t :: ts, k+1, x, y, h => by
      simp only [normField] at h ⊢
      exact normField_idem ts k x y h
end

/-- the dict built from positional values is entrywise normal -/
theorem normPos_idem : ∀ (ts pre : List Ty) (i : Nat) (xs : List Inp) (ys : List (Nat × Inp)), i = pre.length →
    normPos ts i xs = .ok ys → mapKvs (fun k' y => normField (pre ++ ts) k' y) ys = .ok ys := by
  intro ts pre i xs ys hi h
  rw [normPos_eq_zip ts pre i xs hi] at h
  exact mapKvs_idem _ ys (fun kv _ y' hy' => normField_idem _ kv.1 kv.2 y' hy') h

end Wire
