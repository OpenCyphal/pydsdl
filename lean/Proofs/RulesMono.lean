import Proofs.RulesAccepted
/-!
  Further kernels of C05 for all values: the length of a full name, the declarative reading of "no service type as an
  attribute type", and monotonicity of the rule conjunction in the obvious directions (larger extent, deprecating the
  enclosing type, appending a field never shortens the longest representation).
-/
namespace Rules
open Spec

/-! ### full names -/

/-- the length of a full name: the components plus one separator between neighbours -/
theorem fullName_length (comps : List String) :
    (fullName comps).length = (comps.map String.length).sum + (comps.length - 1) := by
  unfold fullName
  induction comps with
  | nil => rfl
  | cons c rest ih =>
    cases rest with
    | nil => simp
    | cons d rest =>
      rw [String.intercalate_cons_cons, String.length_append, String.length_append, ih]
      have : ".".length = 1 := rfl
      simp only [List.map_cons, List.sum_cons, List.length_cons, this]
      omega

/-! ### no service type as an attribute type -/

/-- the scalar a type is made of -/
def Ty.elem : Ty → Scalar
  | .scalar s => s
  | .fixedArr e _ => e
  | .varArr e _ => e

/-- no attribute of any schema is of a service type, nor an array of one -/
def ServiceFree (b : BState) : Prop :=
  ∀ sc ∈ b.schemas, ∀ a ∈ sc.attrs, ∀ i, a.ty.elem = .comp i → i.service = false

theorem Ty.usesService_eq_false_iff (t : Ty) : t.usesService = false ↔ ∀ i, t.elem = .comp i → i.service = false := by
  have e : t.usesService = t.elem.isService := by cases t <;> rfl
  rw [e]
  cases t.elem <;> simp [Scalar.isService]

theorem usesService_eq_false_iff (b : BState) : usesService b = false ↔ ServiceFree b := by
  unfold usesService ServiceFree BState.schemas
  simp only [List.any_eq_false, Bool.not_eq_true, Ty.usesService_eq_false_iff]

/-! ### monotonicity -/

theorem Spec.SchemaValid.longest_le {comps : List String} {dep : Bool} {sc : RSchema} {e : Int}
    (h : SchemaValid comps dep sc) (hm : sc.mode = some (.extent e)) : (longest sc : Int) ≤ e := by
  rcases h.mode with h5 | ⟨e0, he0, _, hl⟩
  · rw [hm] at h5; cases h5
  · rw [hm] at he0; cases he0; exact hl

/-- a larger extent (still a whole number of bytes) keeps a schema valid -/
theorem Spec.SchemaValid.extent_mono {comps : List String} {dep : Bool} {sc : RSchema} {e e' : Int}
    (h : SchemaValid comps dep { sc with mode := some (.extent e) }) (hle : e ≤ e') (h8 : e' % 8 = 0) :
    SchemaValid comps dep { sc with mode := some (.extent e') } :=
  ⟨h.typeName, h.uniqueNames, h.placement, h.unionArity, Or.inr ⟨e', rfl, h8, Int.le_trans (h.longest_le rfl) hle⟩⟩

/-- sealing is the strongest promise: a sealed schema stays valid with any byte-multiple extent that covers it -/
theorem Spec.SchemaValid.sealed_to_extent {comps : List String} {dep : Bool} {sc : RSchema} {e : Int}
    (h : SchemaValid comps dep { sc with mode := some .sealed }) (hle : (longest sc : Int) ≤ e) (h8 : e % 8 = 0) :
    SchemaValid comps dep { sc with mode := some (.extent e) } := by
  obtain ⟨h1, h2, h3, h4, _⟩ := h
  exact ⟨h1, h2, h3, h4, Or.inr ⟨e, rfl, h8, hle⟩⟩

theorem Spec.PlaceOk.deprecate {t : Ty} {u : Bool} (h : PlaceOk t u false) : PlaceOk t u true := by
  cases t with
  | scalar e | fixedArr e _ | varArr e _ => cases e <;> simp_all [PlaceOk]

/-- marking the enclosing type `@deprecated` keeps a schema valid -/
theorem Spec.SchemaValid.deprecate {comps : List String} {sc : RSchema} (h : SchemaValid comps false sc) :
    SchemaValid comps true sc :=
  ⟨h.typeName, h.uniqueNames, fun a ha => Spec.PlaceOk.deprecate (h.placement a ha), h.unionArity, h.mode⟩

theorem foldl_max_le (l : List Nat) (x B : Nat) (hx : x ≤ B) (hl : ∀ y ∈ l, y ≤ B) : l.foldl Nat.max x ≤ B := by
  induction l generalizing x with
  | nil => exact hx
  | cons a l ih =>
    rw [List.foldl_cons]
    exact ih _ (Nat.max_le.mpr ⟨hx, hl a (by simp)⟩) fun y hy => hl y (by simp [hy])

theorem le_foldl_max' (l : List Nat) (x : Nat) : x ≤ l.foldl Nat.max x ∧ ∀ y ∈ l, y ≤ l.foldl Nat.max x := by
  induction l generalizing x with
  | nil => simp
  | cons a l ih =>
    rw [List.foldl_cons]
    obtain ⟨h1, h2⟩ := ih (Nat.max x a)
    refine ⟨Nat.le_trans (Nat.le_max_left _ _) h1, fun y hy => ?_⟩
    rcases List.mem_cons.mp hy with rfl | hy
    · exact Nat.le_trans (Nat.le_max_right _ _) h1
    · exact h2 y hy

theorem foldl_max_mono (l l' : List Nat) (x x' : Nat) (hx : x ≤ x') (hl : ∀ y ∈ l, y ∈ l') :
    l.foldl Nat.max x ≤ l'.foldl Nat.max x' :=
  foldl_max_le l x _ (Nat.le_trans hx (le_foldl_max' l' x').1) fun y hy => (le_foldl_max' l' x').2 y (hl y hy)

/-- appending a field never shortens the longest representation of a structure … -/
theorem structMax_append (fs : List Ty) (t : Ty) : structMax fs ≤ structMax (fs ++ [t]) := by
  unfold structMax
  rw [List.foldl_append]
  apply padTo_mono
  simp only [List.foldl_cons, List.foldl_nil]
  have ha : 0 < t.align := by rcases Ty.align_cases t with h | h <;> omega
  exact Nat.le_trans (le_padTo t.align _ ha) (Nat.le_add_right _ _)

/-- … nor of a union -/
theorem unionMax_append (fs : List Ty) (t : Ty) : unionMax fs ≤ unionMax (fs ++ [t]) := by
  unfold unionMax
  apply padTo_mono
  apply Nat.add_le_add
  · apply foldl_max_mono
    · exact pow2ceil8_mono (bitLength_mono (by simp))
    · intro y hy; simp only [List.map_append, List.mem_append]; exact Or.inl hy
  · apply foldl_max_mono _ _ _ _ (Nat.le_refl _)
    intro y hy; simp only [List.map_append, List.mem_append]; exact Or.inl hy

end Rules
