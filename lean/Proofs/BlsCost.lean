import Proofs.BlsMinMax
/-! Enumeration cost of `modulo` is bounded by a function of the tree shape and the divisor only (C16). -/
open scoped Pointwise
namespace Bls

/-- bound for one repetition node at divisor `D`: at most `2D` tuple sizes, `D^(2D)` tuples each, `2D` items per tuple -/
def G (D : ℕ) : ℕ := 6 * D * D * D ^ (2 * D)

mutual
/-- An upper bound on `Op.cost` that never looks at a repetition count. -/
def Op.bound : Op → ℕ → ℕ
  | .leaf vs, _ => vs.length
  | .pad c a, d => c.bound (Nat.lcm a d) + Nat.lcm a d
  | .cat cs, d => bounds cs d + d ^ cs.length * cs.length
  | .rep c _, d => c.bound d + G d
  | .rrep c _, d => c.bound d + G d
  | .uni cs, d => bounds cs d + cs.length * d
def bounds : List Op → ℕ → ℕ
  | [], _ => 0
  | c :: cs, d => c.bound d + bounds cs d
end

theorem costs_eq (cs : List Op) (d : ℕ) : costs cs d = (cs.map fun c => c.cost d).sum := by
  induction cs with
  | nil => rfl
  | cons c cs ih => simp [costs, ih]

theorem bounds_eq (cs : List Op) (d : ℕ) : bounds cs d = (cs.map fun c => c.bound d).sum := by
  induction cs with
  | nil => rfl
  | cons c cs ih => simp [bounds, ih]

theorem sumLens_le (l : List (List ℕ)) (n : ℕ) (h : ∀ t ∈ l, t.length ≤ n) : sumLens l ≤ l.length * n := by
  induction l with
  | nil => simp [sumLens]
  | cons t l ih =>
    have := ih fun x hx => h x (List.mem_cons_of_mem _ hx)
    have ht := h t List.mem_cons_self
    simp only [sumLens, List.map_cons, List.sum_cons, List.length_cons, Nat.succ_mul] at this ⊢
    omega

theorem cwr_length_le (s : List ℕ) (k : ℕ) : (cwr s k).length ≤ s.length ^ k := by
  fun_induction cwr s k with
  | case1 s => simp
  | case2 k => simp
  | case3 x xs k ih1 ih2 =>
    rw [List.length_append, List.length_map, List.length_cons] at *
    calc (cwr (x :: xs) k).length + (cwr xs (k + 1)).length
        ≤ (xs.length + 1) ^ k + (xs.length + 1) ^ k * xs.length :=
          Nat.add_le_add ih1 (le_trans ih2 (by rw [Nat.pow_succ]; exact Nat.mul_le_mul_right _ (Nat.pow_le_pow_left (by omega) k)))
      _ = (xs.length + 1) ^ (k + 1) := by rw [Nat.pow_succ, Nat.mul_succ, Nat.add_comm]

theorem sumLens_cwr_le (s : List ℕ) (k D : ℕ) (hs : s.length ≤ D) (hk : k ≤ 2 * D) (hD : 0 < D) :
    sumLens (cwr s k) ≤ D ^ (2 * D) * (2 * D) :=
  calc sumLens (cwr s k) ≤ (cwr s k).length * k := sumLens_le _ k fun t ht => ((cwr_sound s k t ht).1).le
    _ ≤ D ^ (2 * D) * (2 * D) := Nat.mul_le_mul
      (le_trans (cwr_length_le s k) (le_trans (Nat.pow_le_pow_left hs k) (Nat.pow_le_pow_right hD hk))) hk

theorem rep_cost_le (s : List ℕ) (k D : ℕ) (hs : s.length ≤ D) (hk : k ≤ 2 * D) (hD : 0 < D) :
    sumLens (cwr s k) ≤ G D :=
  calc sumLens (cwr s k) ≤ D ^ (2 * D) * (2 * D) := sumLens_cwr_le s k D hs hk hD
    _ ≤ D ^ (2 * D) * (6 * D * D) := Nat.mul_le_mul_left _ (Nat.mul_le_mul (by omega : 2 ≤ 6 * D) le_rfl)
    _ = G D := Nat.mul_comm _ _

theorem sumLens_flatMap_range (f : ℕ → List (List ℕ)) (n B : ℕ) (h : ∀ j < n, sumLens (f j) ≤ B) :
    sumLens ((List.range n).flatMap f) ≤ n * B := by
  induction n with
  | zero => simp [sumLens]
  | succ n ih =>
    have h1 := ih fun j hj => h j (by omega)
    have h2 := h n (by omega)
    simp only [sumLens, List.range_succ, List.flatMap_append, List.map_append, List.sum_append, List.flatMap_cons,
      List.flatMap_nil, List.append_nil, Nat.succ_mul] at h1 h2 ⊢
    omega

theorem rrep_cost_le (s : List ℕ) (k D : ℕ) (hs : s.length ≤ D) (hk : k ≤ 2 * D) (hD : 0 < D) :
    sumLens ((List.range (k + 1)).flatMap fun j => cwr s j) ≤ G D :=
  calc sumLens ((List.range (k + 1)).flatMap fun j => cwr s j)
      ≤ (k + 1) * (D ^ (2 * D) * (2 * D)) :=
        sumLens_flatMap_range _ _ _ fun j hj => sumLens_cwr_le s j D hs (by omega) hD
    _ ≤ (3 * D) * (D ^ (2 * D) * (2 * D)) := Nat.mul_le_mul_right _ (by omega)
    _ = G D := by unfold G; ring

theorem product_length (ls : List (List ℕ)) : (product ls).length = (ls.map List.length).prod := by
  induction ls with
  | nil => simp [product]
  | cons l ls ih =>
    simp only [product, List.length_flatMap, List.length_map, List.map_cons, List.prod_cons, ih, List.map_const',
      List.sum_replicate_nat]

theorem product_tuple_length (ls : List (List ℕ)) : ∀ t ∈ product ls, t.length = ls.length := by
  induction ls with
  | nil => simp [product]
  | cons l ls ih =>
    intro t ht
    obtain ⟨a, _, t', ht', rfl⟩ := (mem_product_cons l ls t).mp ht
    simp [ih t' ht']

/-- A duplicate-free list of residues `< d` has at most `d` entries. -/
theorem modulo_length_le (o : Op) (d : ℕ) (hd : 0 < d) : (o.modulo d).length ≤ d := by
  have h := Finset.card_le_card fun x hx => Finset.mem_range.mpr (modulo_lt d hd o x (List.mem_toFinset.mp hx))
  rwa [List.toFinset_card_of_nodup (modulo_nodup o d), Finset.card_range] at h

theorem equivK_le (k d : ℕ) (hd : 0 < d) : equivK k d ≤ 2 * d := by
  unfold equivK
  have := Nat.mod_lt k hd
  omega

/-- The enumeration cost of `modulo d` never exceeds the k-blind bound. -/
theorem cost_le_bound : ∀ o : Op, o.wf = true → ∀ d, 0 < d → o.cost d ≤ o.bound d :=
  Op.wf_induct
    (leaf := fun vs _ d _ => le_rfl)
    (pad := fun c a _ ha ih d hd =>
      have hl : 0 < Nat.lcm a d := Nat.lcm_pos (by omega) hd
      Nat.add_le_add (ih _ hl) (modulo_length_le c _ hl))
    (cat := fun cs _ _ ih d hd => by
      rw [Op.cost, Op.bound, costs_eq, bounds_eq]
      refine Nat.add_le_add (List.sum_le_sum fun c hc => ih c hc d hd) ?_
      calc sumLens (product (modulos cs d))
          ≤ (product (modulos cs d)).length * cs.length :=
            sumLens_le _ _ fun t ht => by rw [product_tuple_length _ t ht, modulos_eq, List.length_map]
        _ ≤ d ^ cs.length * cs.length := Nat.mul_le_mul_right _ (by
            rw [product_length, modulos_eq, List.map_map]
            simpa using List.prod_le_pow_card (cs.map _) d fun x hx => by
              obtain ⟨c, _, rfl⟩ := List.mem_map.mp hx
              exact modulo_length_le c d hd))
    (rep := fun c k _ ih d hd =>
      Nat.add_le_add (ih d hd) (rep_cost_le _ _ d (modulo_length_le c d hd) (equivK_le k d hd) hd))
    (rrep := fun c k _ ih d hd =>
      Nat.add_le_add (ih d hd) (rrep_cost_le _ _ d (modulo_length_le c d hd) (equivK_le k d hd) hd))
    (uni := fun cs _ _ ih d hd => by
      rw [Op.cost, Op.bound, costs_eq, bounds_eq, modulos_eq]
      refine Nat.add_le_add (List.sum_le_sum fun c hc => ih c hc d hd) ?_
      simpa using sumLens_le (cs.map fun c => c.modulo d) d fun t ht => by
        obtain ⟨c, _, rfl⟩ := List.mem_map.mp ht
        exact modulo_length_le c d hd)

end Bls
