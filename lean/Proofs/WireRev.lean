import Proofs.WireValid
import Proofs.WireExt
/-! Revisions of a delimited structure: reading data written with a field list `fs` through the field list
    `fs ++ gs` (fields appended) or the other way round (fields removed).  The reader ends in exactly the state
    in which a reader of the writer's own revision would end, which is why the container does not matter. -/
namespace Wire

/-! ### decoding an all-zero window yields the default value -/

theorem read_zeros (o n k : Nat) : (R.read ⟨o, zeros k⟩ n) = (zeros n, ⟨o + n, zeros (k - n)⟩) := by
  simp only [R.read, takeZ_zeros, zeros_drop]

theorem alignTo_zeros' (o a k : Nat) : (R.alignTo ⟨o, zeros k⟩ a) = ⟨o + padLen o a, zeros (k - padLen o a)⟩ := by
  simp only [R.alignTo, zeros_drop]

/-- a decoder step that turns an all-zero window into the value `d` and leaves an all-zero window -/
def ZeroDflt (f : R → Except Err (Val × R)) (d : Val) : Prop :=
  ∀ o k, ∃ o' k', f ⟨o, zeros k⟩ = .ok (d, ⟨o', zeros k'⟩)

theorem decRep_zeros {f : R → Except Err (Val × R)} {d : Val} (hf : ZeroDflt f d) :
    ∀ (n o k : Nat), ∃ o' k', decRep f n ⟨o, zeros k⟩ = .ok (List.replicate n d, ⟨o', zeros k'⟩)
  | 0, o, k => ⟨o, k, rfl⟩
  | n+1, o, k => by
      obtain ⟨o1, k1, h1⟩ := hf o k
      obtain ⟨o2, k2, h2⟩ := decRep_zeros hf n o1 k1
      exact ⟨o2, k2, by simp only [decRep, bind_ok]; exact ⟨_, h1, _, h2, rfl⟩⟩

theorem unwrapDelim_zeros {body : R → Except Err (Val × R)} {d : Val} (hb : ZeroDflt body d) (m : Mode) :
    ZeroDflt (fun r => unwrapDelim m r body) d := by
  intro o k
  cases m with
  | sealed => exact hb o k
  | delimited x =>
    -- the header reads as zero bytes: the body sees an empty window
    obtain ⟨o', k', h⟩ := hb (o + headerBits) 0
    simp only [unwrapDelim, read_zeros, bitsNat_zeros, Nat.zero_mul, shorter, Bool.false_eq_true, if_false,
      List.take_zero, List.drop_zero, Nat.add_zero, bind_ok]
    exact ⟨_, _, _, h, rfl⟩

theorem dec_prim_zeros {t : Ty} (hp : t.isPrim = true) (o k : Nat) :
    dec t ⟨o, zeros k⟩ = .ok (dflt t, ⟨o + t.maxLen, zeros (k - t.maxLen)⟩) := by
  rw [dec_prim hp, takeZ_zeros, zeros_drop, ofBits_zeros hp]

mutual
theorem dec_zeros : ∀ (t : Ty), t.wf = true → ZeroDflt (dec t) (dflt t)
  | .bool | .uint _ _ | .sint _ _ | .float _ _ | .byte | .utf8 | .void _ => fun _ o k =>
      ⟨_, _, dec_prim_zeros rfl o k⟩
  | .farr e cap => fun hw o k => by
      obtain ⟨o', k', h⟩ := decRep_zeros (dec_zeros e (wf_farr.mp hw).1) cap o k
      exact ⟨o', k', by simp only [dec, dflt, bind_ok]; exact ⟨_, h, rfl⟩⟩
  | .varr e cap => fun _ o k => by
      refine ⟨o + lenBits cap, k - lenBits cap, ?_⟩
      simp only [dec, read_zeros, bitsNat_zeros, dflt, gt_iff_lt, Nat.not_lt_zero, if_false, decRep, bind,
        Except.bind, List.map_nil, validUtf8, Bool.not_true, Bool.and_false, Bool.false_eq_true, pure, Except.pure]
  | .struct fs m => fun hw => by
      rw [funext (dec_struct fs m)]
      refine unwrapDelim_zeros (fun o k => ?_) m
      obtain ⟨o', k', h⟩ := decFields_zeros fs (wf_struct.mp hw).1 o k
      refine ⟨o' + padLen o' 8, k' - padLen o' 8, ?_⟩
      simp only [dec, dflt, unwrapDelim, h, bind, Except.bind, pure, Except.pure, alignTo_zeros']
  | .union fs m => fun hw => by
      rw [funext (dec_union fs m)]
      refine unwrapDelim_zeros (fun o k => ?_) m
      obtain ⟨hwf, _, h2, _⟩ := wf_union.mp hw
      match fs, hwf, h2 with
      | t :: ts, hwf, _ =>
        obtain ⟨o', k', h⟩ := dec_zeros t (wfFields_cons.mp hwf).1 (o + tagBits (t :: ts).length)
          (k - tagBits (t :: ts).length)
        refine ⟨o' + padLen o' 8, k' - padLen o' 8, ?_⟩
        simp only [dec, dflt, unwrapDelim, read_zeros, bitsNat_zeros, decVariant, dfltFirst, h, bind, Except.bind, pure,
          Except.pure, alignTo_zeros']
theorem decFields_zeros : ∀ (ts : List Ty), wfFields ts = true → ∀ o k, ∃ o' k',
    decFields ts ⟨o, zeros k⟩ = .ok (dfltFields ts, ⟨o', zeros k'⟩)
  | [], _, o, k => ⟨o, k, rfl⟩
  | t :: ts, hw, o, k => by
      obtain ⟨hwt, _, hwts⟩ := wfFields_cons.mp hw
      obtain ⟨o1, k1, h1⟩ := dec_zeros t hwt (o + padLen o t.align) (k - padLen o t.align)
      obtain ⟨o2, k2, h2⟩ := decFields_zeros ts hwts o1 k1
      refine ⟨o2, k2, ?_⟩
      simp only [decFields, dfltFields, alignTo_zeros', h1, h2, bind, Except.bind, pure, Except.pure]
end

/-! ### field lists split -/

theorem validFields_length : ∀ (ts : List Ty) (vs : List Val), validFields ts vs = true → vs.length = ts.length
  | [], vs, h => by rw [validFields_nil.mp h]; rfl
  | _ :: ts, vs, h => by
      obtain ⟨v, vs, rfl, _, hvs⟩ := validFields_cons.mp h
      exact congrArg (· + 1) (validFields_length ts vs hvs)

theorem encFields_append : ∀ (fs gs : List Ty) (vs ws : List Val) (o : Nat), vs.length = fs.length →
    encFields (fs ++ gs) (vs ++ ws) o = encFields fs vs o ++ encFields gs ws (o + (encFields fs vs o).length)
  | [], gs, vs, ws, o, h => by
      cases vs <;> first | rfl | cases h
  | t :: fs, gs, vs, ws, o, h => by
      cases vs with
      | nil => cases h
      | cons v vs =>
        simp only [List.cons_append, encFields, List.append_assoc, List.length_append, zeros_length]
        rw [encFields_append fs gs vs ws _ (Nat.succ.inj h)]
        simp only [Nat.add_assoc]

theorem decFields_append : ∀ (fs gs : List Ty) (r : R),
    decFields (fs ++ gs) r = (do
      let (vs, r1) ← decFields fs r
      let (ws, r2) ← decFields gs r1
      pure (vs ++ ws, r2))
  | [], gs, r => by
      simp only [List.nil_append, decFields, bind, Except.bind, pure, Except.pure]
      cases decFields gs r <;> simp
  | t :: fs, gs, r => by
      simp only [List.cons_append, decFields, decFields_append fs gs, bind, Except.bind, pure, Except.pure]
      cases dec t (r.alignTo t.align) with
      | error e => rfl
      | ok p =>
        simp only []
        cases decFields fs p.2 with
        | error e => rfl
        | ok p2 =>
          simp only []
          cases decFields gs p2.2 <;> simp

theorem wfFields_append (fs gs : List Ty) : wfFields (fs ++ gs) = (wfFields fs && wfFields gs) := by
  induction fs with
  | nil => simp [wfFields]
  | cons t fs ih => simp [wfFields, ih, Bool.and_assoc]

theorem validFields_append : ∀ (fs gs : List Ty) (vs ws : List Val), vs.length = fs.length →
    validFields (fs ++ gs) (vs ++ ws) = (validFields fs vs && validFields gs ws)
  | [], gs, vs, ws, h => by
      cases vs <;> first | rfl | cases h
  | t :: fs, gs, vs, ws, h => by
      cases vs with
      | nil => cases h
      | cons v vs =>
        simp only [List.cons_append, validFields, validFields_append fs gs vs ws (Nat.succ.inj h), Bool.and_assoc]

/-! ### the two directions -/

/-- What a reader that knows the field list `fs'` makes of a delimited structure written with `fs`: the header
    step, then `decFields fs'` on the writer's body. -/
theorem dec_revision (fs fs' : List Ty) (x x' : Nat) (vs us : List Val) (o : Nat) (junk : List Bool) (q : R)
    (hw : (Ty.struct fs (.delimited x)).wf = true) (hv : validFields fs vs = true)
    (hb : decFields fs' ⟨o + headerBits, padTail 0 (encFields fs vs 0)⟩ = .ok (us, q)) :
    dec (.struct fs' (.delimited x')) ⟨o, enc (.struct fs (.delimited x)) (.recd vs) o ++ junk⟩
      = .ok (.recd us, ⟨o + (enc (.struct fs (.delimited x)) (.recd vs) o).length, junk⟩) := by
  obtain ⟨h8, _, hfit⟩ := inner_fits (t := .struct fs (.delimited x)) rfl hw
    (enc_len (.struct fs .sealed) (.recd vs) 0 (wf_inner _ hw) hv rfl)
  have hbody : dec (.struct fs' .sealed) ⟨o + headerBits, padTail 0 (encFields fs vs 0)⟩
      = .ok (.recd us, q.alignTo 8) := by
    simp only [dec, unwrapDelim, hb, bind, Except.bind, pure, Except.pure]
  rw [dec_struct, enc_struct]
  simp only [wrapDelim, List.append_assoc]
  rw [unwrapDelim_append h8 hfit hbody]
  simp only [List.length_append, natBits_length, Nat.add_assoc]

/-- Fields appended: a reader that knows `fs ++ gs` reads data written by a writer that knew only `fs`.
    Common fields keep their values, the new fields read as their defaults (zero / empty / first variant), and
    the reader stops exactly where the writer's representation ends. -/
theorem rev_appended (fs gs : List Ty) (x x' : Nat) (vs : List Val) (o : Nat) (junk : List Bool)
    (hw : (Ty.struct fs (.delimited x)).wf = true) (hw' : (Ty.struct (fs ++ gs) (.delimited x')).wf = true)
    (hv : valid (.struct fs (.delimited x)) (.recd vs) = true) (ho : o % 8 = 0) :
    dec (.struct (fs ++ gs) (.delimited x')) ⟨o, enc (.struct fs (.delimited x)) (.recd vs) o ++ junk⟩
      = .ok (.recd (vs ++ dfltFields gs),
             ⟨o + (enc (.struct fs (.delimited x)) (.recd vs) o).length, junk⟩) := by
  have hwf := (wf_struct.mp hw').1
  rw [wfFields_append, Bool.and_eq_true] at hwf
  -- inside the sub-reader: the known fields, then zeros
  have h1 := decFields_rt fs vs (o + headerBits) (zeros (padLen (0 + (encFields fs vs 0).length) 8)) hwf.1 hv
  rw [← encFields_congr fs vs 0 _ (add_mod_zero ho rfl).symm] at h1
  obtain ⟨o2, k2, h2⟩ := decFields_zeros gs hwf.2 (o + headerBits + (encFields fs vs 0).length)
    (padLen (0 + (encFields fs vs 0).length) 8)
  refine dec_revision fs (fs ++ gs) x x' vs _ o junk ⟨o2, zeros k2⟩ hw hv ?_
  rw [decFields_append]
  simp only [bind_ok]
  exact ⟨_, h1, _, h2, rfl⟩

/-- Fields removed: a reader that knows only `fs` reads data written by a writer that knew `fs ++ gs`.
    Common fields keep their values, the unknown tail is skipped, and the reader stops exactly where the
    writer's representation ends. -/
theorem rev_removed (fs gs : List Ty) (x x' : Nat) (vs ws : List Val) (o : Nat) (junk : List Bool)
    (hw : (Ty.struct (fs ++ gs) (.delimited x)).wf = true) (hlen : vs.length = fs.length)
    (hv : valid (.struct (fs ++ gs) (.delimited x)) (.recd (vs ++ ws)) = true) (ho : o % 8 = 0) :
    dec (.struct fs (.delimited x')) ⟨o, enc (.struct (fs ++ gs) (.delimited x)) (.recd (vs ++ ws)) o ++ junk⟩
      = .ok (.recd vs, ⟨o + (enc (.struct (fs ++ gs) (.delimited x)) (.recd (vs ++ ws)) o).length, junk⟩) := by
  have hwf := (wf_struct.mp hw).1
  rw [wfFields_append, Bool.and_eq_true] at hwf
  have hvf : validFields (fs ++ gs) (vs ++ ws) = true := hv
  rw [validFields_append fs gs vs ws hlen, Bool.and_eq_true] at hvf
  apply dec_revision (fs ++ gs) fs x x' (vs ++ ws) vs o junk _ hw hv
  rw [padTail, encFields_append fs gs vs ws 0 hlen, List.append_assoc,
    encFields_congr fs vs 0 (o + headerBits) (add_mod_zero ho rfl).symm]
  exact decFields_rt fs vs (o + headerBits) _ hwf.1 hvf.1

end Wire
