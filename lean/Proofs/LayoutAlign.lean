import Proofs.LayoutDen
/-! Well-formedness of the built expressions, divisibility of all lengths by the alignment. -/
open scoped Pointwise
namespace Layout
open Bls

theorem wfs_map_bls (fs : List Ty) (h : ∀ f ∈ fs, f.bls.wf = true) : wfs (fs.map Ty.bls) = true := by
  rw [wfs_iff]
  intro c hc
  obtain ⟨f, hf, rfl⟩ := List.mem_map.mp hc
  exact h f hf

theorem wf_cat2 {a b : Op} (ha : a.wf = true) (hb : b.wf = true) : (Op.cat [a, b]).wf = true := by
  simp [Op.wf, wfs, ha, hb]

theorem wf_pad {a : Op} {n : ℕ} (ha : a.wf = true) (hn : 1 ≤ n) : (Op.pad a n).wf = true := by
  simp [Op.wf, ha, hn]

theorem wf_leaf1 (n : ℕ) : (Op.leaf [n]).wf = true := rfl

theorem aggStructFrom_wf (fs : List Ty) (h : ∀ f ∈ fs, f.bls.wf = true) (acc : Op) (hacc : acc.wf = true) :
    (aggStructFrom acc fs).wf = true := by
  induction fs generalizing acc with
  | nil => rwa [aggStructFrom]
  | cons f fs ih =>
    rw [aggStructFrom]
    exact ih (fun x hx => h x (List.mem_cons_of_mem _ hx)) _
      (wf_cat2 (wf_pad hacc (one_le_align f)) (h f List.mem_cons_self))

theorem aggStruct_wf (fs : List Ty) (h : ∀ f ∈ fs, f.bls.wf = true) : (aggStruct fs).wf = true := by
  cases fs with
  | nil => rw [aggStruct]; rfl
  | cons f fs =>
    rw [aggStruct]
    exact aggStructFrom_wf fs (fun x hx => h x (List.mem_cons_of_mem _ hx)) _ (h f List.mem_cons_self)

theorem aggUnion_wf (fs : List Ty) (h : ∀ f ∈ fs, f.bls.wf = true) (h2 : 2 ≤ fs.length) : (aggUnion fs).wf = true := by
  rw [aggUnion_of_two_le h2, blsList_eq]
  refine wf_cat2 (wf_leaf1 _) ?_
  rw [Op.wf, wfs_map_bls fs h, Bool.and_true, Bool.not_eq_true', List.isEmpty_eq_false_iff]
  exact List.ne_nil_of_length_pos (by rw [List.length_map]; omega)

/-- Every type the constructors accept gets a well-formed operator tree, so all of C01 applies to it. -/
theorem bls_wf : ∀ t : Ty, t.wf = true → t.bls.wf = true :=
  Ty.wf_induct
    (prim := fun n => by rw [Ty.bls]; rfl)
    (void := fun n => by rw [Ty.bls]; rfl)
    (farr := fun e cap _ _ ih => by rwa [Ty.bls, Op.wf])
    (varr := fun e cap _ _ _ ih => by rw [Ty.bls]; exact wf_cat2 (wf_leaf1 _) (by rwa [Op.wf]))
    (struct := fun fs _ ih => by rw [Ty.bls, comp_align]; exact wf_pad (aggStruct_wf fs ih) (by omega))
    (union := fun fs _ h2 _ ih => by rw [Ty.bls, comp_align]; exact wf_pad (aggUnion_wf fs ih h2) (by omega))
    (delim := fun inner ext _ _ _ => by
      rw [Ty.bls]; exact wf_cat2 (wf_leaf1 _) (by rw [Op.wf]; rfl))

theorem dvd_of_mem_nsmul (S : Finset ℕ) (a k : ℕ) (h : ∀ x ∈ S, a ∣ x) : ∀ y ∈ k • S, a ∣ y := by
  induction k with
  | zero => intro y hy; simp at hy; subst hy; exact dvd_zero a
  | succ k ih =>
    intro y hy
    rw [succ_nsmul] at hy
    obtain ⟨u, hu, v, hv, rfl⟩ := Finset.mem_add.mp hy
    exact dvd_add (ih u hu) (h v hv)

theorem align_dvd_std (t : Ty) (w : ℕ) (hw : w ∈ [8, 16, 32, 64]) : t.align ∣ max w t.align := by
  simp only [List.mem_cons, List.mem_nil_iff, or_false] at hw
  rcases align_cases t with h | h <;> rw [h] <;> rcases hw with rfl | rfl | rfl | rfl <;> decide

/-- Every possible length of a type is a multiple of its alignment requirement. -/
theorem align_dvd_len : ∀ t : Ty, t.wf = true → ∀ l ∈ specLens t, t.align ∣ l :=
  Ty.wf_induct
    (prim := fun n l _ => one_dvd l)
    (void := fun n l _ => one_dvd l)
    (farr := fun e cap _ _ ih l hl => by
      rw [specLens] at hl
      exact dvd_of_mem_nsmul _ _ _ ih l hl)
    (varr := fun e cap _ _ hlen ih l hl => by
      simp only [specLens, Finset.mem_add, Finset.mem_singleton, Finset.mem_biUnion, Finset.mem_range] at hl
      obtain ⟨a, rfl, b, ⟨j, _, hb⟩, rfl⟩ := hl
      exact dvd_add (align_dvd_std e _ (stdWidth_eq_stdOf cap (le_trans (Nat.le_max_left _ _) hlen)).2)
        (dvd_of_mem_nsmul _ _ _ ih b hb))
    (struct := fun fs _ _ l hl => by
      rw [specLens] at hl
      obtain ⟨x, _, rfl⟩ := Finset.mem_image.mp hl
      rw [Ty.align, comp_align]; exact padTo_dvd 8 x)
    (union := fun fs _ _ _ _ l hl => by
      rw [specLens] at hl
      obtain ⟨x, _, rfl⟩ := Finset.mem_image.mp hl
      rw [Ty.align, comp_align]; exact padTo_dvd 8 x)
    (delim := fun inner ext h _ _ l hl => by
      rw [specLens] at hl
      obtain ⟨i, _, rfl⟩ := Finset.mem_image.mp hl
      rw [Ty.align, delim_inner_align h]
      omega)

end Layout
