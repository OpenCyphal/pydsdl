import Proofs.WireEncLen
/-! Round trip: decoding the encoding of a valid value, followed by arbitrary junk, returns the value and
    leaves exactly the junk (implicit truncation). -/
namespace Wire

/-! ### reader steps on `bits ++ junk` -/

theorem read_append (o : Nat) (a junk : List Bool) :
    (R.read ⟨o, a ++ junk⟩ a.length) = (a, ⟨o + a.length, junk⟩) := by
  simp [R.read, takeZ_append_left]

theorem read_append' (o n : Nat) (a junk : List Bool) (h : a.length = n) :
    (R.read ⟨o, a ++ junk⟩ n) = (a, ⟨o + n, junk⟩) := by
  subst h; exact read_append o a junk

theorem alignTo_zeros (o a : Nat) (rest : List Bool) :
    (R.alignTo ⟨o, zeros (padLen o a) ++ rest⟩ a) = ⟨o + padLen o a, rest⟩ := by
  simp [R.alignTo]

/-- The header step of a delimited composite: behind a header announcing the whole bytes `B`, the body runs on
    exactly `B` and the parent resumes behind it, whatever the body left unread. -/
theorem unwrapDelim_append {body : R → Except Err (Val × R)} {B : List Bool} {o : Nat} {v : Val} {q : R}
    (h8 : B.length % 8 = 0) (hfit : B.length / 8 < 2^32) (hb : body ⟨o + headerBits, B⟩ = .ok (v, q))
    (x : Nat) (junk : List Bool) :
    unwrapDelim (.delimited x) ⟨o, natBits headerBits (B.length / 8) ++ (B ++ junk)⟩ body
      = .ok (v, ⟨o + headerBits + B.length, junk⟩) := by
  have hbn : bitsNat (natBits headerBits (B.length / 8)) = B.length / 8 := bitsNat_natBits _ _ hfit
  simp only [unwrapDelim]
  rw [read_append' o headerBits _ _ (natBits_length _ _)]
  simp only [hbn, Nat.div_mul_cancel (Nat.dvd_of_mod_eq_zero h8), shorter_iff, List.length_append,
    Nat.not_lt.mpr (Nat.le_add_right _ _), decide_false, Bool.false_eq_true, if_false, List.take_left',
    List.drop_left', hb]
  rfl

theorem padTail_append (o : Nat) (b junk : List Bool) :
    padTail o b ++ junk = b ++ (zeros (padLen (o + b.length) 8) ++ junk) := by
  simp [padTail]

/-- a variable-length array reads its length prefix, then that many elements -/
theorem dec_varr_append {e : Ty} {cap o k : Nat} {b : List Bool} {vs : List Val} (hk : k ≤ cap) (hcap : cap < 2^64)
    (hu : e.isUtf8 = false ∨ validUtf8 (vs.map Val.byteOf) = true)
    (h : ∀ junk, decRep (fun q => dec e q) k ⟨o + lenBits cap, b ++ junk⟩
      = .ok (vs, ⟨o + lenBits cap + b.length, junk⟩)) (junk : List Bool) :
    dec (.varr e cap) ⟨o, natBits (lenBits cap) k ++ b ++ junk⟩
      = .ok (.arr vs, ⟨o + (natBits (lenBits cap) k ++ b).length, junk⟩) := by
  have hu' : (e.isUtf8 && !validUtf8 (vs.map Val.byteOf)) = false := by
    rcases hu with h | h <;> simp [h]
  simp only [dec, List.append_assoc]
  rw [read_append' o (lenBits cap) _ _ (natBits_length _ _)]
  simp only [bitsNat_natBits _ _ (Nat.lt_of_le_of_lt hk (lt_pow_lenBits cap hcap)), Nat.not_lt.mpr hk, if_false, h,
    hu', bind, Except.bind, pure, Except.pure, Bool.false_eq_true, List.length_append, natBits_length, Nat.add_assoc]

/-- a sealed structure reads its fields and the padding behind them -/
theorem dec_struct_append {fs : List Ty} {o : Nat} {b : List Bool} {vs : List Val}
    (h : ∀ junk, decFields fs ⟨o, b ++ junk⟩ = .ok (vs, ⟨o + b.length, junk⟩)) (junk : List Bool) :
    dec (.struct fs .sealed) ⟨o, padTail o b ++ junk⟩ = .ok (.recd vs, ⟨o + (padTail o b).length, junk⟩) := by
  rw [padTail_append]
  simp only [dec, unwrapDelim, h, bind, Except.bind, pure, Except.pure, alignTo_zeros, padTail_length, Nat.add_assoc]

/-- a sealed union reads the tag, the variant it selects and the padding behind it -/
theorem dec_union_append {fs : List Ty} {o tag : Nat} {b : List Bool} {v : Val} (htag : tag < 2^(tagBits fs.length))
    (h : ∀ junk, decVariant fs tag ⟨o + tagBits fs.length, b ++ junk⟩
      = .ok (v, ⟨o + tagBits fs.length + b.length, junk⟩)) (junk : List Bool) :
    dec (.union fs .sealed) ⟨o, padTail o (natBits (tagBits fs.length) tag ++ b) ++ junk⟩
      = .ok (.var tag v, ⟨o + (padTail o (natBits (tagBits fs.length) tag ++ b)).length, junk⟩) := by
  rw [padTail_append, List.append_assoc]
  simp only [dec, unwrapDelim]
  rw [read_append' o (tagBits fs.length) _ _ (natBits_length _ _)]
  simp only [bitsNat_natBits _ _ htag, h, bind, Except.bind, pure, Except.pure, List.length_append, natBits_length,
    Nat.add_assoc, alignTo_zeros, padTail_length]

/-! ### the round trip -/

/-- the round-trip statement for one type and value -/
def Rt (d : R → Except Err (Val × R)) (e : Nat → List Bool) (v : Val) (a : Nat) : Prop :=
  ∀ (o : Nat) (junk : List Bool), o % a = 0 → d ⟨o, e o ++ junk⟩ = .ok (v, ⟨o + (e o).length, junk⟩)

theorem decRep_rt {fd : R → Except Err (Val × R)} {fe : Val → Nat → List Bool} {a : Nat} :
    ∀ (vs : List Val) (o : Nat) (junk : List Bool),
      (∀ v ∈ vs, Rt fd (fe v) v a) → (∀ v ∈ vs, ∀ o, o % a = 0 → (fe v o).length % a = 0) → o % a = 0 →
      decRep fd vs.length ⟨o, encRep fe vs o ++ junk⟩ = .ok (vs, ⟨o + (encRep fe vs o).length, junk⟩)
  | [] => fun o junk _ _ _ => by simp [decRep, encRep]
  | v :: vs => fun o junk hrt hlen ho => by
      simp only [List.length_cons, decRep, encRep, List.append_assoc, bind_ok]
      have hv := List.mem_cons_self (a := v) (l := vs)
      refine ⟨_, hrt v hv o _ ho, _, decRep_rt vs (o + (fe v o).length) junk
        (fun w hw => hrt w (List.mem_cons_of_mem _ hw)) (fun w hw => hlen w (List.mem_cons_of_mem _ hw))
        (add_mod_zero ho (hlen v hv o ho)), ?_⟩
      simp only [List.length_append, Nat.add_assoc]
      rfl

/-- round trip through `wrapDelim` / `unwrapDelim`, given the round trip of the sealed body -/
theorem wrap_rt (m : Mode) (v : Val) (bd : R → Except Err (Val × R)) (be : Nat → List Bool)
    (hrt : Rt bd be v 8) (hcongr : ∀ o o', o % 8 = o' % 8 → be o = be o')
    (hmod : ∀ o, o % 8 = 0 → (be o).length % 8 = 0)
    (hfit : ∀ x, m = .delimited x → (be 0).length / 8 < 2^32) :
    Rt (fun r => unwrapDelim m r bd) (fun o => wrapDelim m o be) v 8 := by
  intro o junk ho
  cases m with
  | sealed => exact hrt o junk ho
  | delimited x =>
    -- the body was written at offset 0 and is read at `o + 32`: the same modulo 8
    have ho' : (o + headerBits) % 8 = 0 := add_mod_zero ho rfl
    have := hrt (o + headerBits) [] ho'
    rw [← hcongr 0 _ ho'.symm, List.append_nil] at this
    simp only [wrapDelim, List.append_assoc]
    rw [unwrapDelim_append (hmod 0 rfl) (hfit x rfl) this]
    simp only [List.length_append, natBits_length, Nat.add_assoc]

/-- a delimited composite round-trips if its sealed twin does -/
theorem rt_delimited {t : Ty} (hd : t.isDelimited = true) (hw : t.wf = true) {v : Val} (hv : valid t v = true)
    (hs : Rt (dec t.inner) (enc t.inner v) v 8) : Rt (dec t) (enc t v) v 8 := by
  have hwi := wf_inner t hw
  have hvi := (valid_inner t v).trans hv
  have ha : t.inner.align = 8 := (align_inner t).trans (align_of_delimited hd)
  intro o junk ho
  rw [dec_delimited hd 0, enc_delimited hd hv 0]
  exact wrap_rt (.delimited 0) v _ _ hs (enc_congr t.inner v)
    (fun o ho => ha ▸ enc_length_mod t.inner v o hwi hvi (ha.symm ▸ ho))
    (fun _ _ => (inner_fits hd hw (enc_len t.inner v 0 hwi hvi (Nat.zero_mod _))).2.2) o junk ho

theorem validVariant_lt : ∀ (ts : List Ty) (n : Nat) (v : Val), validVariant ts n v = true → n < ts.length
  | [], _, _, h => by cases h
  | _ :: _, 0, _, _ => Nat.zero_lt_succ _
  | _ :: ts, n+1, v, h => Nat.succ_lt_succ (validVariant_lt ts n v h)

mutual
theorem dec_enc : ∀ (t : Ty) (v : Val), t.wf = true → valid t v = true → Rt (dec t) (enc t v) v t.align
  | .bool | .uint _ _ | .sint _ _ | .float _ _ | .byte | .utf8 | .void _ => fun v hw hv o junk _ => by
      obtain ⟨b, hb, rfl, he⟩ := enc_prim rfl hw hv
      rw [he o]
      exact dec_prim_append rfl hb o junk
  | .farr e cap => fun v hw hv o junk ho => by
      obtain ⟨vs, rfl, rfl, hvs⟩ := valid_farr.mp hv
      have hwe := (wf_farr.mp hw).1
      simp only [dec, enc, bind_ok]
      exact ⟨_, decRep_rt vs o junk (fun w hw' => dec_enc e w hwe (hvs w hw'))
        (fun w hw' o' => enc_length_mod e w o' hwe (hvs w hw')) ho, rfl⟩
  | .varr e cap => fun v hw hv o junk ho => by
      obtain ⟨vs, rfl, hl, hvs, hu⟩ := valid_varr.mp hv
      obtain ⟨hwe, _, hcap, _⟩ := wf_varr.mp hw
      exact dec_varr_append hl hcap hu (fun junk => decRep_rt vs _ junk (fun w hw' => dec_enc e w hwe (hvs w hw'))
        (fun w hw' o' => enc_length_mod e w o' hwe (hvs w hw'))
        (add_mod_zero ho (mod_align_zero e (lenBits_mod8 cap)))) junk
  | .struct fs m => fun v hw hv => by
      have hs : Rt (dec (.struct fs .sealed)) (enc (.struct fs .sealed) v) v 8 := by
        obtain ⟨vs, rfl, hvs⟩ := valid_struct.mp hv
        exact fun o junk _ => dec_struct_append (fun junk => decFields_rt fs vs o junk (wf_struct.mp hw).1 hvs) junk
      cases m with
      | sealed => exact hs
      | delimited x => exact rt_delimited rfl hw hv hs
  | .union fs m => fun v hw hv => by
      have hs : Rt (dec (.union fs .sealed)) (enc (.union fs .sealed) v) v 8 := by
        obtain ⟨tag, w, rfl, hvs⟩ := valid_union.mp hv
        obtain ⟨hwf, _, _, hn, _⟩ := wf_union.mp hw
        exact fun o junk ho => dec_union_append
          (Nat.lt_of_lt_of_le (validVariant_lt fs tag w hvs) (le_pow_tagBits _ hn))
          (fun junk => decVariant_rt fs tag w _ junk hwf hvs (add_mod_zero ho (tagBits_mod8 _))) junk
      cases m with
      | sealed => exact hs
      | delimited x => exact rt_delimited rfl hw hv hs
theorem decFields_rt : ∀ (ts : List Ty) (vs : List Val) (o : Nat) (junk : List Bool), wfFields ts = true →
    validFields ts vs = true →
    decFields ts ⟨o, encFields ts vs o ++ junk⟩ = .ok (vs, ⟨o + (encFields ts vs o).length, junk⟩)
  | [] => fun vs o junk _ hv => by
      rw [validFields_nil.mp hv]
      rfl
  | t :: ts => fun vs o junk hw hv => by
      obtain ⟨v, vs, rfl, hvt, hvs⟩ := validFields_cons.mp hv
      obtain ⟨hwt, _, hwts⟩ := wfFields_cons.mp hw
      simp only [decFields, encFields, List.append_assoc, bind_ok]
      rw [alignTo_zeros]
      refine ⟨_, dec_enc t v hwt hvt _ _ (padLen_dvd o t.align (align_pos t)), _,
        decFields_rt ts vs _ junk hwts hvs, ?_⟩
      simp only [List.length_append, zeros_length, Nat.add_assoc]
      rfl
theorem decVariant_rt : ∀ (ts : List Ty) (n : Nat) (v : Val) (o : Nat) (junk : List Bool), wfFields ts = true →
    validVariant ts n v = true → o % 8 = 0 →
    decVariant ts n ⟨o, encVariant ts n v o ++ junk⟩ = .ok (v, ⟨o + (encVariant ts n v o).length, junk⟩)
  | [], _ => fun _ _ _ _ hv _ => by cases hv
  | t :: _, 0 => fun v o junk hw hv ho =>
      dec_enc t v (wfFields_cons.mp hw).1 hv o junk (mod_align_zero t ho)
  | _ :: ts, n+1 => fun v o junk hw hv ho =>
      decVariant_rt ts n v o junk (wfFields_cons.mp hw).2.2 hv ho
end

end Wire
