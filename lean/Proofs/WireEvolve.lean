import Proofs.WireRev
/-! Reading across revisions: the reader's type may differ from the writer's type
    in ANY number of delimited structures at ANY positions (fields appended or removed at their end, again
    containing revised members), and in trailing variants appended to unions.  The reader obtains the adapted
    value and stops exactly where the writer's representation ends. -/
namespace Wire

mutual
/-- `Evolves t t'`: a reader of `t'` understands what a writer of `t` writes -/
def Evolves : Ty → Ty → Prop
  | .farr e c, t' =>
      match t' with
      | .farr e' c' => c = c' ∧ Evolves e e'
      | _ => False
  | .varr e c, t' =>
      match t' with
      | .varr e' c' => c = c' ∧ Evolves e e'
      | _ => False
  | .struct fs m, t' =>
      match t' with
      | .struct fs' m' =>
          match m, m' with
          | .sealed, .sealed => EvolvesAll fs fs'
          | .delimited _, .delimited _ => EvolvesPrefix fs fs'
          | _, _ => False
      | _ => False
  | .union fs m, t' =>
      match t' with
      | .union fs' m' =>
          m.isSealed = m'.isSealed ∧ tagBits fs.length = tagBits fs'.length ∧ fs.length ≤ fs'.length ∧
            EvolvesPrefix fs fs'
      | _ => False
  | t, t' => t = t'
/-- same number of members, pairwise -/
def EvolvesAll : List Ty → List Ty → Prop
  | [], [] => True
  | t :: ts, t' :: ts' => Evolves t t' ∧ EvolvesAll ts ts'
  | _, _ => False
/-- pairwise on the common prefix; either side may have more members -/
def EvolvesPrefix : List Ty → List Ty → Prop
  | t :: ts, t' :: ts' => Evolves t t' ∧ EvolvesPrefix ts ts'
  | _, _ => True
end

mutual
/-- what the reader of `t'` makes of a value written as `t` -/
def adapt : Ty → Ty → Val → Val
  | .farr e _, t', v =>
      match t', v with
      | .farr e' _, .arr vs => .arr (vs.map fun w => adapt e e' w)
      | _, _ => v
  | .varr e _, t', v =>
      match t', v with
      | .varr e' _, .arr vs => .arr (vs.map fun w => adapt e e' w)
      | _, _ => v
  | .struct fs _, t', v =>
      match t', v with
      | .struct fs' _, .recd vs => .recd (adaptFields fs fs' vs)
      | _, _ => v
  | .union fs _, t', v =>
      match t', v with
      | .union fs' _, .var tag w => .var tag (adaptVariant fs fs' tag w)
      | _, _ => v
  | _, _, v => v
/-- common fields adapted; fields unknown to the writer read as defaults; fields unknown to the reader are dropped -/
def adaptFields : List Ty → List Ty → List Val → List Val
  | [], ts', _ => dfltFields ts'
  | _ :: _, [], _ => []
  | _ :: _, _ :: _, [] => []
  | t :: ts, t' :: ts', v :: vs => adapt t t' v :: adaptFields ts ts' vs
def adaptVariant : List Ty → List Ty → Nat → Val → Val
  | t :: _, t' :: _, 0, v => adapt t t' v
  | _ :: ts, _ :: ts', n+1, v => adaptVariant ts ts' n v
  | _, _, _, v => v
end

/-! ### the relation, constructor by constructor -/

theorem evolvesAll_prefix : ∀ (ts ts' : List Ty), EvolvesAll ts ts' → EvolvesPrefix ts ts'
  | [], [], _ => by simp [EvolvesPrefix]
  | [], _ :: _, h => by simp [EvolvesAll] at h
  | _ :: _, [], h => by simp [EvolvesAll] at h
  | t :: ts, t' :: ts', h => by
      simp only [EvolvesAll] at h
      simp only [EvolvesPrefix]
      exact ⟨h.1, evolvesAll_prefix ts ts' h.2⟩

theorem evolves_farr {e : Ty} {c : Nat} {t' : Ty} (h : Evolves (.farr e c) t') :
    ∃ e', t' = .farr e' c ∧ Evolves e e' := by
  cases t' with
  | farr e' c' => simp only [Evolves] at h; obtain ⟨rfl, he⟩ := h; exact ⟨e', rfl, he⟩
  | _ => simp [Evolves] at h

theorem evolves_varr {e : Ty} {c : Nat} {t' : Ty} (h : Evolves (.varr e c) t') :
    ∃ e', t' = .varr e' c ∧ Evolves e e' := by
  cases t' with
  | varr e' c' => simp only [Evolves] at h; obtain ⟨rfl, he⟩ := h; exact ⟨e', rfl, he⟩
  | _ => simp [Evolves] at h

/-- a sealed structure is read field by field to its end; of a delimited one only the common fields count -/
theorem evolves_struct {fs : List Ty} {m : Mode} {t' : Ty} (h : Evolves (.struct fs m) t') :
    ∃ fs' m', t' = .struct fs' m' ∧ m.isSealed = m'.isSealed ∧ EvolvesPrefix fs fs' ∧
      (m = .sealed → EvolvesAll fs fs') := by
  cases t' with
  | struct fs' m' =>
    cases m <;> cases m' <;> simp only [Evolves] at h
    · exact ⟨fs', _, rfl, rfl, evolvesAll_prefix fs fs' h, fun _ => h⟩
    · exact ⟨fs', _, rfl, rfl, h, fun hm => nomatch hm⟩
  | _ => simp [Evolves] at h

theorem evolves_union {fs : List Ty} {m : Mode} {t' : Ty} (h : Evolves (.union fs m) t') :
    ∃ fs' m', t' = .union fs' m' ∧ m.isSealed = m'.isSealed ∧ tagBits fs.length = tagBits fs'.length ∧
      fs.length ≤ fs'.length ∧ EvolvesPrefix fs fs' := by
  cases t' with
  | union fs' m' => simp only [Evolves] at h; exact ⟨fs', m', rfl, h⟩
  | _ => simp [Evolves] at h

theorem evolves_align : ∀ (t t' : Ty), Evolves t t' → t'.align = t.align
  | .bool, t', h | .uint _ _, t', h | .sint _ _, t', h | .float _ _, t', h | .byte, t', h | .utf8, t', h
  | .void _, t', h => by simp only [Evolves] at h; rw [← h]
  | .farr e c, t', h => by
      obtain ⟨e', rfl, he⟩ := evolves_farr h
      simp only [Ty.align]; exact evolves_align e e' he
  | .varr e c, t', h => by
      obtain ⟨e', rfl, he⟩ := evolves_varr h
      simp only [Ty.align]; exact evolves_align e e' he
  | .struct fs m, t', h => by obtain ⟨_, _, rfl, _⟩ := evolves_struct h; rfl
  | .union fs m, t', h => by obtain ⟨_, _, rfl, _⟩ := evolves_union h; rfl

theorem evolves_isUtf8 : ∀ (t t' : Ty), Evolves t t' → t'.isUtf8 = t.isUtf8
  | .bool, t', h | .uint _ _, t', h | .sint _ _, t', h | .float _ _, t', h | .byte, t', h | .utf8, t', h
  | .void _, t', h => by simp only [Evolves] at h; rw [← h]
  | .farr e c, t', h => by obtain ⟨_, rfl, _⟩ := evolves_farr h; rfl
  | .varr e c, t', h => by obtain ⟨_, rfl, _⟩ := evolves_varr h; rfl
  | .struct fs m, t', h => by obtain ⟨_, _, rfl, _⟩ := evolves_struct h; rfl
  | .union fs m, t', h => by obtain ⟨_, _, rfl, _⟩ := evolves_union h; rfl

theorem isSealed_eq {m m' : Mode} (h : m.isSealed = m'.isSealed) :
    (m = .sealed ∧ m' = .sealed) ∨ ∃ x x', m = .delimited x ∧ m' = .delimited x' := by
  cases m <;> cases m' <;> first | exact Or.inl ⟨rfl, rfl⟩ | exact Or.inr ⟨_, _, rfl, rfl⟩ | cases h

/-! ### one container read through another: a lemma for each constructor

The element (field, variant) readers are hypotheses, so that the same lemmas serve every way of relating
the reader's type to the writer's. -/

theorem decRep_rt_map {fd : R → Except Err (Val × R)} {fe : Val → Nat → List Bool} {h : Val → Val} {a : Nat} :
    ∀ (vs : List Val) (o : Nat) (junk : List Bool),
      (∀ v ∈ vs, Rt fd (fe v) (h v) a) → (∀ v ∈ vs, ∀ o, o % a = 0 → (fe v o).length % a = 0) → o % a = 0 →
      decRep fd vs.length ⟨o, encRep fe vs o ++ junk⟩ = .ok (vs.map h, ⟨o + (encRep fe vs o).length, junk⟩)
  | [], o, junk, _, _, _ => by simp [decRep, encRep]
  | v :: vs, o, junk, hrt, hlen, ho => by
      simp only [List.length_cons, decRep, encRep, List.append_assoc, bind_ok]
      have hv := List.mem_cons_self (a := v) (l := vs)
      refine ⟨_, hrt v hv o _ ho, _, decRep_rt_map vs (o + (fe v o).length) junk
        (fun w hw => hrt w (List.mem_cons_of_mem _ hw)) (fun w hw => hlen w (List.mem_cons_of_mem _ hw))
        (add_mod_zero ho (hlen v hv o ho)), ?_⟩
      simp only [List.length_append, List.map_cons, Nat.add_assoc]
      rfl

theorem farr_rt {e e' : Ty} {cap : Nat} {h : Val → Val} {vs : List Val} (hw : e.wf = true)
    (hlen : vs.length = cap) (hv : ∀ w ∈ vs, valid e w = true)
    (hrt : ∀ w ∈ vs, Rt (dec e') (enc e w) (h w) e.align) :
    Rt (dec (.farr e' cap)) (enc (.farr e cap) (.arr vs)) (.arr (vs.map h)) e.align := by
  intro o junk ho
  simp only [dec, enc, bind_ok]
  have := decRep_rt_map (fd := fun q => dec e' q) (fe := fun v o => enc e v o) vs o junk hrt
    (fun w hw' o' => enc_length_mod e w o' hw (hv w hw')) ho
  rw [hlen] at this
  exact ⟨_, this, rfl⟩

/-- `hu`: the reader of a string checks what it has read -/
theorem varr_rt {e e' : Ty} {cap : Nat} {h : Val → Val} {vs : List Val} (hw : e.wf = true) (hcap : cap < 2^64)
    (hlen : vs.length ≤ cap) (hv : ∀ w ∈ vs, valid e w = true)
    (hrt : ∀ w ∈ vs, Rt (dec e') (enc e w) (h w) e.align)
    (hu : e'.isUtf8 = true → validUtf8 ((vs.map h).map Val.byteOf) = true) :
    Rt (dec (.varr e' cap)) (enc (.varr e cap) (.arr vs)) (.arr (vs.map h)) e.align := by
  intro o junk ho
  simp only [dec, enc, List.append_assoc]
  rw [read_append' o (lenBits cap) _ _ (natBits_length _ _)]
  simp only [bitsNat_natBits _ _ (Nat.lt_of_le_of_lt hlen (lt_pow_lenBits cap hcap)), Nat.not_lt.mpr hlen,
    if_false, bind_ok]
  refine ⟨_, decRep_rt_map (fd := fun q => dec e' q) (fe := fun v o => enc e v o) vs _ junk hrt
    (fun w hw' o' => enc_length_mod e w o' hw (hv w hw')) (add_mod_zero ho (mod_align_zero e (lenBits_mod8 cap))), ?_⟩
  have hu' : (e'.isUtf8 && !validUtf8 ((vs.map h).map Val.byteOf)) = false := by
    cases hc : e'.isUtf8
    · rfl
    · simp only [hu hc, Bool.not_true, Bool.and_false]
  simp only [hu', Bool.false_eq_true, if_false, List.length_append, natBits_length, Nat.add_assoc]
  rfl

/-- one field read through another: alignment padding, the field, the remaining fields on what follows -/
theorem decFields_cons_ev {t t' : Ty} {ts ts' : List Ty} {v v' : Val} {vs vs' : List Val} {o : Nat} {q : R}
    (hal : t'.align = t.align) (hrt : Rt (dec t') (enc t v) v' t.align) (junk : List Bool)
    (h2 : decFields ts' ⟨o + padLen o t.align + (enc t v (o + padLen o t.align)).length,
        encFields ts vs (o + padLen o t.align + (enc t v (o + padLen o t.align)).length) ++ junk⟩ = .ok (vs', q)) :
    decFields (t' :: ts') ⟨o, encFields (t :: ts) (v :: vs) o ++ junk⟩ = .ok (v' :: vs', q) := by
  simp only [decFields, encFields, hal, List.append_assoc, bind_ok]
  rw [alignTo_zeros]
  exact ⟨_, hrt (o + padLen o t.align) _ (padLen_dvd o t.align (align_pos t)), _, h2, rfl⟩

/-- A delimited composite read as another one: the reader's sealed twin runs on a window holding the writer's
    sealed layout and nothing else, and only the value counts, because the parent continues behind the announced
    payload. -/
theorem ev_delimited {t t' : Ty} (hd : t.isDelimited = true) (hd' : t'.isDelimited = true) (hw : t.wf = true)
    {v w : Val} (hv : valid t v = true)
    (hs : ∀ o, o % 8 = 0 → ∃ q, dec t'.inner ⟨o, enc t.inner v o⟩ = .ok (w, q)) :
    Rt (dec t') (enc t v) w 8 := by
  obtain ⟨h8, _, hfit⟩ := inner_fits hd hw
    (enc_len t.inner v 0 (wf_inner t hw) ((valid_inner t v).trans hv) (Nat.zero_mod _))
  intro o junk ho
  -- the body was written at offset 0 and is read at `o + 32`: the same modulo 8
  have ho' : (o + headerBits) % 8 = 0 := add_mod_zero ho rfl
  obtain ⟨q, hq⟩ := hs _ ho'
  rw [enc_congr t.inner v _ 0 ho'] at hq
  rw [dec_delimited hd' 0, enc_delimited hd hv 0]
  simp only [wrapDelim, List.append_assoc]
  rw [unwrapDelim_append h8 hfit hq]
  simp only [List.length_append, natBits_length, Nat.add_assoc]

/-- A structure read as another structure of the same sealing.  Sealed: the reader's fields must consume
    exactly the writer's.  Delimited: the reader sees the writer's fields followed by the final padding, and
    where its own fields end does not matter. -/
theorem struct_rt {fs fs' : List Ty} {m m' : Mode} {vs ws : List Val} (hw : (Ty.struct fs m).wf = true)
    (hv : validFields fs vs = true) (hm : m.isSealed = m'.isSealed)
    (hseal : m = .sealed → ∀ o junk,
      decFields fs' ⟨o, encFields fs vs o ++ junk⟩ = .ok (ws, ⟨o + (encFields fs vs o).length, junk⟩))
    (hdel : ∀ o p, ∃ q, decFields fs' ⟨o, encFields fs vs o ++ zeros p⟩ = .ok (ws, q)) :
    Rt (dec (.struct fs' m')) (enc (.struct fs m) (.recd vs)) (.recd ws) 8 := by
  rcases isSealed_eq hm with ⟨rfl, rfl⟩ | ⟨x, x', rfl, rfl⟩
  · intro o junk _
    simp only [dec, enc, unwrapDelim, wrapDelim, padTail_append, bind_ok]
    refine ⟨_, hseal rfl o _, ?_⟩
    simp only [alignTo_zeros, padTail_length, Nat.add_assoc]
    rfl
  · refine ev_delimited rfl rfl hw (v := .recd vs) hv fun o _ => ?_
    obtain ⟨q, hq⟩ := hdel o (padLen (o + (encFields fs vs o).length) 8)
    refine ⟨q.alignTo 8, ?_⟩
    simp only [Ty.inner, dec, enc, unwrapDelim, wrapDelim, padTail, bind_ok]
    exact ⟨_, hq, rfl⟩

/-- A union read as another union with the same tag width: the reader's variant under the writer's tag must
    consume exactly the writer's variant. -/
theorem union_rt {fs fs' : List Ty} {m m' : Mode} {tag : Nat} {w w' : Val} (hw : (Ty.union fs m).wf = true)
    (hv : validVariant fs tag w = true) (hm : m.isSealed = m'.isSealed)
    (htb : tagBits fs.length = tagBits fs'.length)
    (hvar : ∀ o junk, o % 8 = 0 →
      decVariant fs' tag ⟨o, encVariant fs tag w o ++ junk⟩ = .ok (w', ⟨o + (encVariant fs tag w o).length, junk⟩)) :
    Rt (dec (.union fs' m')) (enc (.union fs m) (.var tag w)) (.var tag w') 8 := by
  have hs : Rt (dec (.union fs' .sealed)) (enc (.union fs .sealed) (.var tag w)) (.var tag w') 8 := by
    intro o junk ho
    simp only [dec, enc, unwrapDelim, wrapDelim, padTail_append, List.append_assoc, ← htb]
    rw [read_append' o (tagBits fs.length) _ _ (natBits_length _ _)]
    simp only [bitsNat_natBits _ _ (Nat.lt_of_lt_of_le (validVariant_lt fs tag w hv)
      (le_pow_tagBits _ (wf_union.mp hw).2.2.2.1)), bind_ok]
    refine ⟨_, hvar _ _ (add_mod_zero ho (tagBits_mod8 _)), ?_⟩
    simp only [Nat.add_assoc, alignTo_zeros, padTail_length, List.length_append, natBits_length]
    rfl
  rcases isSealed_eq hm with ⟨rfl, rfl⟩ | ⟨x, x', rfl, rfl⟩
  · exact hs
  · exact ev_delimited rfl rfl hw (v := .var tag w) hv fun o ho =>
      ⟨_, by simpa only [List.append_nil, Ty.inner] using hs o [] ho⟩

/-! ### the general statement

The recursion is structural in the writer's type; `termination_by structural` says so because each theorem has
several arguments to try, and the search ends in well-founded recursion, which is far slower to check. -/

mutual
theorem evolve_rt : ∀ (t t' : Ty) (v : Val), t.wf = true → t'.wf = true → Evolves t t' → valid t v = true →
    Rt (dec t') (enc t v) (adapt t t' v) t.align
  | .bool, t', v, hw, _, h, hv | .uint _ _, t', v, hw, _, h, hv | .sint _ _, t', v, hw, _, h, hv
  | .float _ _, t', v, hw, _, h, hv | .byte, t', v, hw, _, h, hv | .utf8, t', v, hw, _, h, hv
  | .void _, t', v, hw, _, h, hv => by
      simp only [Evolves] at h; subst h; simpa only [adapt] using dec_enc _ v hw hv
  | .farr e cap, t', v, hw, hw', h, hv => by
      obtain ⟨e', rfl, he⟩ := evolves_farr h
      obtain ⟨vs, rfl, hlen, hvs⟩ := valid_farr.mp hv
      simpa only [adapt, Ty.align] using farr_rt (wf_farr.mp hw).1 hlen hvs
        (fun w hw'' => evolve_rt e e' w (wf_farr.mp hw).1 (wf_farr.mp hw').1 he (hvs w hw''))
  | .varr e cap, t', v, hw, hw', h, hv => by
      obtain ⟨e', rfl, he⟩ := evolves_varr h
      obtain ⟨vs, rfl, hlen, hvs, hutf⟩ := valid_varr.mp hv
      obtain ⟨hwe, _, hcap, _⟩ := wf_varr.mp hw
      simp only [adapt, Ty.align]
      refine varr_rt hwe hcap hlen hvs
        (fun w hw'' => evolve_rt e e' w hwe (wf_varr.mp hw').1 he (hvs w hw'')) (fun hu' => ?_)
      -- a string is read as a string, and `adapt` leaves its bytes alone
      have hu := (evolves_isUtf8 e e' he).symm.trans hu'
      obtain rfl := isUtf8_eq e hu
      simp only [Evolves] at he
      subst he
      simpa only [adapt, List.map_id'] using hutf.resolve_left (by rw [hu]; exact Bool.noConfusion)
  | .struct fs m, t', v, hw, hw', h, hv => by
      obtain ⟨fs', m', rfl, hm, hpre, hall⟩ := evolves_struct h
      obtain ⟨vs, rfl, hvs⟩ := valid_struct.mp hv
      have hwf := (wf_struct.mp hw).1
      have hwf' := (wf_struct.mp hw').1
      simpa only [adapt, Ty.align] using struct_rt hw hvs hm
        (fun hs o junk => evolveFieldsA fs fs' vs o junk hwf hwf' (hall hs) hvs)
        (fun o p => evolveFieldsP fs fs' vs o p hwf hwf' hpre hvs)
  | .union fs m, t', v, hw, hw', h, hv => by
      obtain ⟨fs', m', rfl, hm, htb, hle, hpre⟩ := evolves_union h
      obtain ⟨tag, w, rfl, hvw⟩ := valid_union.mp hv
      simpa only [adapt, Ty.align] using union_rt hw hvw hm htb
        (fun o junk ho => evolveVariant fs fs' tag w o junk (wf_union.mp hw).1 (wf_union.mp hw').1 hpre hvw ho hle)
termination_by structural t => t
/-- same number of fields: exact -/
theorem evolveFieldsA : ∀ (ts ts' : List Ty) (vs : List Val) (o : Nat) (junk : List Bool), wfFields ts = true →
    wfFields ts' = true → EvolvesAll ts ts' → validFields ts vs = true →
    decFields ts' ⟨o, encFields ts vs o ++ junk⟩ = .ok (adaptFields ts ts' vs, ⟨o + (encFields ts vs o).length, junk⟩)
  | [], ts', vs, o, junk, _, _, h, hv => by
      cases ts' with
      | nil =>
        cases vs with
        | nil => simp [decFields, encFields, adaptFields, dfltFields]
        | cons _ _ => simp [validFields] at hv
      | cons _ _ => simp [EvolvesAll] at h
  | _ :: _, [], _, _, _, _, _, h, _ => by simp [EvolvesAll] at h
  | _ :: _, _ :: _, [], _, _, _, _, _, hv => by simp [validFields] at hv
  | t :: ts, t' :: ts', v :: vs, o, junk, hw, hw', h, hv => by
      simp only [wfFields, Bool.and_eq_true] at hw hw'
      simp only [EvolvesAll] at h
      simp only [validFields, Bool.and_eq_true] at hv
      refine (decFields_cons_ev (evolves_align t t' h.1) (evolve_rt t t' v hw.1.1 hw'.1.1 h.1 hv.1) junk
        (evolveFieldsA ts ts' vs _ junk hw.2 hw'.2 h.2 hv.2)).trans ?_
      simp only [adaptFields, encFields, List.length_append, zeros_length, Nat.add_assoc]
termination_by structural ts => ts
/-- any number of fields on either side, inside a bounded sub-reader (window = body ++ padding zeros):
    the value is what matters -/
theorem evolveFieldsP : ∀ (ts ts' : List Ty) (vs : List Val) (o p : Nat), wfFields ts = true →
    wfFields ts' = true → EvolvesPrefix ts ts' → validFields ts vs = true →
    ∃ q, decFields ts' ⟨o, encFields ts vs o ++ zeros p⟩ = .ok (adaptFields ts ts' vs, q)
  | [], ts', vs, o, p, _, hw', _, _ => by
      obtain ⟨o', k', hz⟩ := decFields_zeros ts' hw' o p
      exact ⟨_, by simpa [encFields, adaptFields] using hz⟩
  | t :: ts, [], vs, o, p, _, _, _, _ => by
      refine ⟨⟨o, encFields (t :: ts) vs o ++ zeros p⟩, ?_⟩
      simp [decFields, adaptFields]
  | _ :: _, _ :: _, [], _, _, _, _, _, hv => by simp [validFields] at hv
  | t :: ts, t' :: ts', v :: vs, o, p, hw, hw', h, hv => by
      simp only [wfFields, Bool.and_eq_true] at hw hw'
      simp only [EvolvesPrefix] at h
      simp only [validFields, Bool.and_eq_true] at hv
      obtain ⟨q, h2⟩ := evolveFieldsP ts ts' vs
        (o + padLen o t.align + (enc t v (o + padLen o t.align)).length) p hw.2 hw'.2 h.2 hv.2
      exact ⟨q, decFields_cons_ev (evolves_align t t' h.1) (evolve_rt t t' v hw.1.1 hw'.1.1 h.1 hv.1) _ h2⟩
termination_by structural ts => ts
theorem evolveVariant : ∀ (ts ts' : List Ty) (n : Nat) (v : Val) (o : Nat) (junk : List Bool), wfFields ts = true →
    wfFields ts' = true → EvolvesPrefix ts ts' → validVariant ts n v = true → o % 8 = 0 →
    ts.length ≤ ts'.length →
    decVariant ts' n ⟨o, encVariant ts n v o ++ junk⟩
      = .ok (adaptVariant ts ts' n v, ⟨o + (encVariant ts n v o).length, junk⟩)
  | [], _, _, _, _, _, _, _, _, hv, _, _ => by simp [validVariant] at hv
  | _ :: _, [], _, _, _, _, _, _, _, _, _, hl => by simp at hl
  | t :: _, t' :: _, 0, v, o, junk, hw, hw', h, hv, ho, _ => by
      simp only [wfFields, Bool.and_eq_true] at hw hw'
      simp only [EvolvesPrefix] at h
      simp only [validVariant] at hv
      simp only [decVariant, encVariant, adaptVariant]
      exact evolve_rt t t' v hw.1.1 hw'.1.1 h.1 hv o junk (mod_align_zero t ho)
  | _ :: ts, _ :: ts', n+1, v, o, junk, hw, hw', h, hv, ho, hl => by
      simp only [wfFields, Bool.and_eq_true] at hw hw'
      simp only [EvolvesPrefix] at h
      simp only [validVariant] at hv
      simp only [decVariant, encVariant, adaptVariant]
      exact evolveVariant ts ts' n v o junk hw.2 hw'.2 h.2 hv ho (by simpa using hl)
termination_by structural ts => ts
end

/-! ### the relation: reflexivity and the two revision steps -/

mutual
theorem evolves_refl : ∀ t : Ty, Evolves t t
  | .bool | .uint _ _ | .sint _ _ | .float _ _ | .byte | .utf8 | .void _ => by simp only [Evolves]
  | .farr e c => by simp only [Evolves]; exact ⟨trivial, evolves_refl e⟩
  | .varr e c => by simp only [Evolves]; exact ⟨trivial, evolves_refl e⟩
  | .struct fs m => by
      cases m with
      | sealed => simp only [Evolves]; exact evolvesAll_refl fs
      | delimited x => simp only [Evolves]; exact evolvesAll_prefix fs fs (evolvesAll_refl fs)
  | .union fs m => by
      simp only [Evolves]
      exact ⟨trivial, trivial, Nat.le_refl _, evolvesAll_prefix fs fs (evolvesAll_refl fs)⟩
theorem evolvesAll_refl : ∀ ts : List Ty, EvolvesAll ts ts
  | [] => by simp only [EvolvesAll]
  | t :: ts => by simp only [EvolvesAll]; exact ⟨evolves_refl t, evolvesAll_refl ts⟩
end

/-- fields appended at the end (the common fields may themselves be revised) -/
theorem evolvesPrefix_append_right : ∀ (fs fs' gs : List Ty), EvolvesAll fs fs' → EvolvesPrefix fs (fs' ++ gs)
  | [], _, _, _ => by simp [EvolvesPrefix]
  | _ :: _, [], _, h => by simp [EvolvesAll] at h
  | t :: ts, t' :: ts', gs, h => by
      simp only [EvolvesAll] at h
      simp only [List.cons_append, EvolvesPrefix]
      exact ⟨h.1, evolvesPrefix_append_right ts ts' gs h.2⟩

/-- fields removed at the end -/
theorem evolvesPrefix_append_left : ∀ (fs fs' gs : List Ty), EvolvesAll fs fs' → EvolvesPrefix (fs ++ gs) fs'
  | [], [], gs, _ => by cases gs <;> simp [EvolvesPrefix]
  | [], _ :: _, _, h => by simp [EvolvesAll] at h
  | _ :: _, [], _, h => by simp [EvolvesAll] at h
  | t :: ts, t' :: ts', gs, h => by
      simp only [EvolvesAll] at h
      simp only [List.cons_append, EvolvesPrefix]
      exact ⟨h.1, evolvesPrefix_append_left ts ts' gs h.2⟩

/-! ### the adapted value -/

/-- nothing changes when reader and writer agree: both `adapt t t v` and `v` are what `dec t` returns -/
theorem adapt_refl (t : Ty) (v : Val) (hw : t.wf = true) (hv : valid t v = true) : adapt t t v = v := by
  have h1 := evolve_rt t t v hw hw (evolves_refl t) hv 0 [] (Nat.zero_mod _)
  have h2 := dec_enc t v hw hv 0 [] (Nat.zero_mod _)
  rw [h1] at h2
  injection h2 with h2
  exact (Prod.mk.inj h2).1

/-- common leading fields are kept -/
theorem adaptFields_append : ∀ (fs ts ts' : List Ty) (vs ws : List Val), wfFields fs = true →
    validFields fs vs = true → adaptFields (fs ++ ts) (fs ++ ts') (vs ++ ws) = vs ++ adaptFields ts ts' ws
  | [], _, _, vs, _, _, hv => by
      cases vs with
      | nil => rfl
      | cons _ _ => simp [validFields] at hv
  | _ :: _, _, _, [], _, _, hv => by simp [validFields] at hv
  | t :: fs, ts, ts', v :: vs, ws, hw, hv => by
      simp only [wfFields, Bool.and_eq_true] at hw
      simp only [validFields, Bool.and_eq_true] at hv
      simp only [List.cons_append, adaptFields, adapt_refl t v hw.1.1 hv.1,
        adaptFields_append fs ts ts' vs ws hw.2 hv.2]

theorem adaptFields_append_right (fs gs : List Ty) (vs : List Val) (hw : wfFields fs = true)
    (hv : validFields fs vs = true) : adaptFields fs (fs ++ gs) vs = vs ++ dfltFields gs := by
  simpa only [List.append_nil, adaptFields] using adaptFields_append fs [] gs vs [] hw hv

theorem adaptFields_append_left (fs gs : List Ty) (vs ws : List Val) (hw : wfFields fs = true)
    (hv : validFields fs vs = true) : adaptFields (fs ++ gs) fs (vs ++ ws) = vs := by
  have := adaptFields_append fs gs [] vs ws hw hv
  cases gs <;> simpa only [List.append_nil, adaptFields, dfltFields] using this

end Wire
