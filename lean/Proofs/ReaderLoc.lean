import Proofs.Reader
/-! Location lemmas of the reader model (C17): which error a statement and a line can raise, and the bookkeeping of the
    line of the attribute that awaits its doc comment. -/
namespace Reader

/-- the error of a referenced definition of line `l` as it leaves the referring `parse`: exactly as the referenced
    definition reported it (path and line untouched) -/
def DepErr (c : Ctx) (l : Line) (e : Err) : Prop :=
  ∃ w0 j w1, j ∈ l.deps ∧ j < c.ndefs ∧ c.depRead w0 j = (w1, some e)

theorem readDeps_err {c k l s e w'} : ∀ js, (∀ j ∈ js, j ∈ l.deps) → readDeps c k s js = .error (e, w') →
    e = ⟨c.self, some k⟩ ∨ DepErr c l e := by
  intro js
  induction js generalizing s with
  | nil => intro _ h; cases h
  | cons j js ih =>
    intro hm h
    unfold readDeps at h
    split at h
    · cases h; exact Or.inl rfl
    · rename_i hj
      split at h
      · exact ih (fun x hx => hm x (List.mem_cons_of_mem _ hx)) h
      · rename_i w1 e0 hd
        cases h
        exact Or.inr ⟨s.w, j, _, hm j (List.mem_cons_self ..), by omega, hd⟩

/-- whatever the statement raises behind its flush: an own error with this line (in the world the flush left, if nothing
    is referenced), or the untouched error of a referenced definition -/
theorem body_err {c k l st sf e w'} (hp : sf.pending = none) (h : body c k l st sf = .error (e, w')) :
    (e = ⟨c.self, some k⟩ ∧ (l.deps = [] → w' = sf.w)) ∨ DepErr c l e := by
  simp only [body, resolveRefs_eq] at h
  split at h
  · rw [ok_bind, bind_err] at h
    rcases h with h | ⟨s3, h3, h⟩
    · rcases readDeps_err l.deps (fun _ hx => hx) h with he | he
      · refine Or.inl ⟨he, fun hd => ?_⟩
        rw [hd] at h; cases h
      · exact Or.inr he
    · have e3 := readDeps_ok h3
      have hw : l.deps = [] → s3.w = sf.w := fun hd => by rw [hd] at h3; cases h3; simp [markOffs_eq]
      rw [handler_eq c k l st (by rw [e3]; simpa [markOffs_eq] using hp)] at h
      -- a `mid` fault, an `emit` fault, the handler's check: each raises in the state the dependencies left
      have h' : raise c s3 (some k) = (.error (e, w') : M St) := by
        split at h
        · exact h
        · split at h
          · exact h
          · split at h
            · cases h
            · exact h
      cases h'; exact Or.inl ⟨rfl, hw⟩
  · cases h; exact Or.inl ⟨rfl, fun _ => rfl⟩

/-- what can leave the visit of a statement on line `k`: an own error with line `k`, the untouched error of a referenced
    definition, or the error of the first flush: the queued attribute cannot be committed (not even if the statement's
    use of `_offset_` is disregarded), and the error carries that attribute's line -/
theorem visitStmt_err {c k l st s e w'} (hi : s.inv) (h : visitStmt c k l st s = .error (e, w')) :
    (e = ⟨c.self, some k⟩ ∧ (l.deps = [] → w' = s.w)) ∨ DepErr c l e ∨
    ((markOffs l s).flushFails = true ∧ e = ⟨c.self, some (AttrLine s k)⟩ ∧ w' = s.w) := by
  rw [visitStmt_eq c k l st hi] at h
  split at h
  · cases h; exact Or.inl ⟨rfl, fun _ => rfl⟩
  · generalize hs0 : (if l.childrenFlush st then s else markOffs l s) = s0 at h
    have h0 : s0.inv ∧ s0.w = s.w ∧ AttrLine s0 k = AttrLine s k ∧
        (s0.flushFails = true → (markOffs l s).flushFails = true) := by
      subst hs0
      split
      · exact ⟨hi, rfl, rfl, flushFails_markOffs⟩
      · rw [markOffs_eq]; exact ⟨hi, rfl, rfl, id⟩
    obtain ⟨hi0, hw0, ha0, hf0⟩ := h0
    rw [bind_err] at h
    rcases h with h | ⟨sf, hf, h⟩
    · obtain ⟨h1, h2⟩ := flush_err h
      cases h2
      exact Or.inr (Or.inr ⟨hf0 h1, by rw [ha0], hw0⟩)
    · obtain ⟨_, rfl⟩ := flush_ok hf
      rcases body_err (flushed_pending hi0) h with ⟨he, hw⟩ | hd
      · exact Or.inl ⟨he, fun hd => (hw hd).trans hw0⟩
      · exact Or.inr (Or.inl hd)

/-! ### the invariant of the line bookkeeping -/

/-- `P` holds of the line of the attribute statement that awaits its doc comment -/
def LInv (P : Nat → Prop) (s : St) : Prop :=
  (s.pending.isSome → s.header = false) ∧
  (∀ a bad, s.pending = some (a, bad) → s.lastAttrLine = a.line ∧ a.line ≠ 0) ∧
  (s.lastAttrLine = 0 ∨ P s.lastAttrLine)

theorem LInv_mono {P Q : Nat → Prop} {s} (h : LInv P s) (hpq : ∀ n, P n → Q n) : LInv Q s :=
  ⟨h.1, h.2.1, h.2.2.imp id (hpq _)⟩

/-- the line a failing flush reports is the line of the queued attribute's own statement, and `P` holds of it -/
theorem LInv.attrLine {P s} (h : LInv P s) (hp : s.pending.isSome) (k : Nat) :
    P (AttrLine s k) ∧ ∃ a bad, s.pending = some (a, bad) ∧ AttrLine s k = a.line := by
  obtain ⟨⟨a, bad⟩, hp⟩ := Option.isSome_iff_exists.mp hp
  obtain ⟨h1, h2⟩ := h.2.1 a bad hp
  have h0 : s.lastAttrLine ≠ 0 := by rw [h1]; exact h2
  have ha : AttrLine s k = s.lastAttrLine := by simp [AttrLine, h0]
  exact ⟨by rw [ha]; exact h.2.2.resolve_left h0, a, bad, hp, ha.trans h1⟩

/-- the state behind the statement part of line `k` -/
theorem LInv_visited {P c k} {l : Line} {s s1} (hk : 0 < k) (hl : LInv P s)
    (h1 : (match l.stmt with | some st => visitStmt c k l st s | none => .ok s) = .ok s1) :
    LInv (fun n => P n ∨ (n = k ∧ l.stmt.isSome)) s1 := by
  cases hs : l.stmt with
  | none => rw [hs] at h1; cases h1; exact LInv_mono hl fun _ => Or.inl
  | some st =>
    rw [hs] at h1
    obtain ⟨_, w, rfl, _⟩ := visitStmt_ok hl.1 h1
    obtain ⟨hp, hh, _⟩ := ready_flat hl.1 l w
    have h3 : (s.ready l w).lastAttrLine = 0 ∨ P (s.ready l w).lastAttrLine := by
      rw [show (s.ready l w).lastAttrLine = s.lastAttrLine by simp [St.ready, markOffs_eq, St.flushed]]
      exact hl.2.2
    cases st with
    | attr core => exact ⟨fun _ => hh, fun a bad hab => by cases hab; exact ⟨rfl, Nat.ne_of_gt hk⟩, Or.inr (Or.inr ⟨rfl, rfl⟩)⟩
    | directive name e text => exact ⟨fun h => by simp [St.handled, St.directive, hp] at h, fun a bad h => by simp [St.handled, St.directive, hp] at h, h3.imp id Or.inl⟩
    | marker => exact ⟨fun h => by simp [St.handled, hp] at h, fun a bad h => by simp [St.handled, hp] at h, h3.imp id Or.inl⟩

theorem LInv_addLineComment {P s} (l : Line) (h : LInv P s) : LInv P (addLineComment l s) := by
  obtain ⟨t, ht⟩ := addLineComment_eq l s
  rw [ht]; exact h

/-- numbers of the lines that hold a statement or do not match the grammar -/
def culpritLineNos : Nat → List Line → List Nat
  | _, [] => []
  | k, l :: ls => (if l.stmt.isSome || l.fault == some .syn then [k] else []) ++ culpritLineNos (l.next k) ls

/-- every error that leaves the visit of line `k`: the untouched error of a referenced definition, an own error with
    line `k` (which then holds a statement), or an own error with the line of an earlier attribute statement -/
theorem stepLine_err {P c k l s e w'} (hk : 0 < k) (hl : LInv P s) (h : stepLine c k s l = .error (e, w')) :
    DepErr c l e ∨ (e = ⟨c.self, some k⟩ ∧ l.stmt.isSome) ∨ (∃ n, e = ⟨c.self, some n⟩ ∧ P n) := by
  rw [stepLine_eq, bind_err] at h
  rcases h with h | ⟨s1, h1, h⟩
  · cases hs : l.stmt with
    | none => rw [hs] at h; cases h
    | some st =>
      rw [hs] at h
      rcases visitStmt_err hl.1 h with ⟨he, _⟩ | hd | ⟨hf, he, _⟩
      · exact Or.inr (Or.inl ⟨he, rfl⟩)
      · exact Or.inl hd
      · have hp : s.pending.isSome := by have := flushFails_pending hf; rwa [markOffs_eq] at this
        exact Or.inr (Or.inr ⟨_, he, (hl.attrLine hp k).1⟩)
  · have hl1 := LInv_addLineComment l (LInv_visited hk hl h1)
    unfold tail at h
    split at h
    · obtain ⟨hf, he⟩ := flush_err h
      cases he
      rcases (hl1.attrLine (flushFails_pending hf) k).1 with hp | ⟨hn, hs⟩
      · exact Or.inr (Or.inr ⟨_, rfl, hp⟩)
      · exact Or.inr (Or.inl ⟨by rw [hn], hs⟩)
    · cases h

/-- an error raised while the queued attribute is committed carries the line of that attribute's own statement -/
theorem flush_err_attr {P c k s e w'} (hl : LInv P s) (h : flush c k s = .error (e, w')) :
    ∃ a bad, s.pending = some (a, bad) ∧ e = ⟨c.self, some a.line⟩ := by
  obtain ⟨hf, he⟩ := flush_err h
  cases he
  obtain ⟨_, a, bad, hp, ha⟩ := hl.attrLine (flushFails_pending hf) k
  exact ⟨a, bad, hp, by rw [ha]⟩

theorem next_pos (l : Line) (k : Nat) : 0 < l.next k := by unfold Line.next; omega

theorem mem_culprit_cons {n k : Nat} {l : Line} {ls : List Line} :
    n ∈ culpritLineNos k (l :: ls) ↔ (n = k ∧ (l.stmt.isSome || l.fault == some .syn) = true) ∨ n ∈ culpritLineNos (l.next k) ls := by
  simp only [culpritLineNos, List.mem_append]
  split <;> simp [*]

theorem firstSyntaxError_mem {ls : List Line} : ∀ k n, firstSyntaxError k ls = some n → n ∈ culpritLineNos k ls := by
  induction ls with
  | nil => intro k n h; cases h
  | cons l ls ih =>
    intro k n h
    simp only [firstSyntaxError] at h
    split at h
    · rename_i hf; cases h; exact mem_culprit_cons.mpr (Or.inl ⟨rfl, by simp [hf]⟩)
    · exact mem_culprit_cons.mpr (Or.inr (ih _ _ h))

/-- a failed read, spelled out: the text does not match the grammar; or a line fails; or the last flush fails; or finalize
    rejects (and raises without a line) -/
theorem readText_err_cases {c ls w x} (h : readText c ls w = .error x) :
    (∃ k, firstSyntaxError 1 ls = some k ∧ x = (⟨c.self, some k⟩, w)) ∨
    (firstSyntaxError 1 ls = none ∧
      (runLines c 1 (St.init w) ls = .error x ∨
       ∃ s, runLines c 1 (St.init w) ls = .ok s ∧
        (flush c (lastLine 1 ls) s = .error x ∨ (s.flushFails = false ∧ x = (⟨c.self, none⟩, s.w))))) := by
  unfold readText at h
  split at h
  · rename_i k hk; cases h; exact Or.inl ⟨k, hk, rfl⟩
  · rename_i hsyn
    refine Or.inr ⟨hsyn, ?_⟩
    rw [bind_err] at h
    rcases h with h | ⟨s, hs, h⟩
    · exact Or.inl h
    · refine Or.inr ⟨s, hs, ?_⟩
      rw [bind_err] at h
      rcases h with h | ⟨s', hf, h⟩
      · exact Or.inl h
      · obtain ⟨hf1, rfl⟩ := flush_ok hf
        rw [map_err] at h
        simp only [finalize] at h
        split at h
        · cases h; exact Or.inr ⟨hf1, rfl⟩
        · cases h

end Reader
