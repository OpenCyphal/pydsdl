import Proofs.WireComplete
/-! Completeness of the length set on the reader's side, for ALL well-formed types (delimited members at any
    depth included): every element `L` of `HasLen t` is the exact number of bits the decoder of `t` consumes on
    some representation it accepts.  Behind a delimiter header the witness payload is `8k` zero bits — the
    representation written by a revision with a shorter or longer body (implicit zero extension / truncation). -/
namespace Wire

/-- at every offset aligned to `a`, `d` accepts some `L`-bit string, whatever follows, and stops right behind it -/
def Consumes (d : R → Except Err (Val × R)) (a L : Nat) : Prop :=
  ∀ o, o % a = 0 → ∃ (b : List Bool) (v : Val), b.length = L ∧
    ∀ junk, d ⟨o, b ++ junk⟩ = .ok (v, ⟨o + L, junk⟩)

theorem decRep_consumes {f : R → Except Err (Val × R)} {p : Nat → Prop} {al : Nat}
    (hmod : ∀ x, p x → x % al = 0) (hp : ∀ a, p a → Consumes f al a) :
    ∀ (n L o : Nat), RepLen p n L → o % al = 0 → ∃ (b : List Bool) (vs : List Val), b.length = L ∧
      ∀ junk, decRep f n ⟨o, b ++ junk⟩ = .ok (vs, ⟨o + L, junk⟩)
  | 0 => fun L o h _ => by
      cases h
      exact ⟨[], [], rfl, fun junk => rfl⟩
  | n+1 => fun L o h ho => by
      obtain ⟨a, c, ha, hc, rfl⟩ := h
      obtain ⟨b1, v, hl1, h1⟩ := hp a ha o ho
      obtain ⟨b2, vs, hl2, h2⟩ := decRep_consumes hmod hp n c (o + a) hc (add_mod_zero ho (hmod a ha))
      refine ⟨b1 ++ b2, v :: vs, by rw [List.length_append, hl1, hl2], fun junk => ?_⟩
      simp only [decRep, List.append_assoc, bind_ok]
      exact ⟨_, h1 (b2 ++ junk), _, h2 junk, by rw [Nat.add_assoc]; rfl⟩

/-- Behind a header that announces `k` bytes the sealed twin sees `8k` zero bits and, being total on zeros,
    succeeds; the parent continues right behind the payload.  No recursion over the members is involved. -/
theorem consumes_delimited {t : Ty} (hd : t.isDelimited = true) (hw : t.wf = true) {L : Nat} (h : HasLen t L) :
    Consumes (dec t) 8 L := by
  obtain ⟨k, hk, rfl⟩ := (hasLen_delimited hd).mp h
  obtain ⟨x, hx, _, _, h32⟩ := extent_of_delimited hd hw
  have hk32 : k < 2^32 := by
    rw [hx, Nat.mul_comm] at hk
    exact Nat.lt_of_le_of_lt ((Nat.le_div_iff_mul_le (by decide)).mpr (Nat.le_of_add_le_add_left hk)) h32
  have hlen : (zeros (8 * k)).length / 8 = k := by rw [zeros_length, Nat.mul_div_cancel_left k (by decide)]
  intro o _
  obtain ⟨o', k', hz⟩ := dec_zeros t.inner (wf_inner t hw) (o + headerBits) (8 * k)
  refine ⟨natBits headerBits k ++ zeros (8 * k), dflt t.inner, by simp, fun junk => ?_⟩
  have := unwrapDelim_append (B := zeros (8 * k)) (by rw [zeros_length]; exact Nat.mul_mod_right 8 k)
    (hlen.symm ▸ hk32) hz 0 junk
  rw [hlen, zeros_length] at this
  rw [dec_delimited hd 0, List.append_assoc, this, Nat.add_assoc]

theorem consumes_prim {t : Ty} (hp : t.isPrim = true) : Consumes (dec t) t.align t.maxLen := fun o _ =>
  ⟨zeros t.maxLen, t.ofBits (zeros t.maxLen), zeros_length _, fun junk => by
    have := dec_prim_append hp (zeros_length t.maxLen) o junk
    rwa [zeros_length] at this⟩

mutual
theorem dec_consumes : ∀ (t : Ty) (L : Nat), t.wf = true → HasLen t L → Consumes (dec t) t.align L
  | .bool | .uint _ _ | .sint _ _ | .float _ _ | .byte | .utf8 | .void _ => fun L _ h =>
      (hasLen_prim rfl).mp h ▸ consumes_prim rfl
  | .farr e cap => fun L hw h o ho => by
      have hwe := (wf_farr.mp hw).1
      obtain ⟨b, vs, hl, hd⟩ := decRep_consumes (f := fun q => dec e q)
        (fun x => hasLen_mod e x hwe) (fun a => dec_consumes e a hwe) cap L o h ho
      refine ⟨b, .arr vs, hl, fun junk => ?_⟩
      simp only [dec, bind_ok]
      exact ⟨_, hd junk, rfl⟩
  | .varr e cap => fun L hw h o ho => by
      cases hu : e.isUtf8 with
      | true =>
        -- no delimited member: the encoder-side theorem applies
        cases isUtf8_eq e hu
        obtain ⟨v, hv, rfl⟩ := enc_complete (.varr .utf8 cap) L o hw rfl h ho
        exact ⟨_, v, rfl, fun junk => dec_enc (.varr .utf8 cap) v hw hv o junk ho⟩
      | false =>
        obtain ⟨hwe, _, hcap, _⟩ := wf_varr.mp hw
        obtain ⟨k, L', hk, hr, rfl⟩ := h
        obtain ⟨b, vs, hl, hd⟩ := decRep_consumes (f := fun q => dec e q)
          (fun x => hasLen_mod e x hwe) (fun a => dec_consumes e a hwe) k L' (o + lenBits cap) hr
          (add_mod_zero ho (mod_align_zero e (lenBits_mod8 cap)))
        have hlen : (natBits (lenBits cap) k ++ b).length = lenBits cap + L' := by
          rw [List.length_append, natBits_length, hl]
        exact ⟨_, .arr vs, hlen, fun junk => hlen ▸ dec_varr_append hk hcap (Or.inl hu) (hl ▸ hd) junk⟩
  | .struct fs (.delimited x) => fun L hw h => consumes_delimited rfl hw h
  | .union fs (.delimited x) => fun L hw h => consumes_delimited rfl hw h
  | .struct fs .sealed => fun L hw h o ho => by
      obtain ⟨L', hf, rfl⟩ := h
      obtain ⟨b, vs, hl, hd⟩ := decFields_consumes fs L' 0 (wf_struct.mp hw).1 hf o ho
      rw [Nat.zero_add] at hl
      have hlen : (padTail o b).length = L' + padLen L' 8 := by
        rw [padTail_length, hl, padLen_add_of_mod8 _ 8 (Or.inr rfl) ho]
      exact ⟨padTail o b, .recd vs, hlen, fun junk => hlen ▸ dec_struct_append (hl ▸ hd) junk⟩
  | .union fs .sealed => fun L hw h o ho => by
      obtain ⟨L', hf, rfl⟩ := h
      obtain ⟨hwf, _, _, hn, _⟩ := wf_union.mp hw
      obtain ⟨tag, b, v, htag, hl, hd⟩ := decVariant_consumes fs L' hwf hf (o + tagBits fs.length)
        (add_mod_zero ho (tagBits_mod8 _))
      have hlen : (padTail o (natBits (tagBits fs.length) tag ++ b)).length
          = tagBits fs.length + L' + padLen (tagBits fs.length + L') 8 := by
        rw [padTail_length, List.length_append, natBits_length, hl, padLen_add_of_mod8 _ 8 (Or.inr rfl) ho]
      exact ⟨_, .var tag v, hlen, fun junk => hlen ▸ dec_union_append
        (Nat.lt_of_lt_of_le htag (le_pow_tagBits fs.length hn)) (hl ▸ hd) junk⟩
theorem decFields_consumes : ∀ (ts : List Ty) (L acc : Nat), wfFields ts = true → FieldsLen ts acc L →
    ∀ o, o % 8 = 0 → ∃ (b : List Bool) (vs : List Val), acc + b.length = L ∧
      ∀ junk, decFields ts ⟨o + acc, b ++ junk⟩ = .ok (vs, ⟨o + L, junk⟩)
  | [] => fun L acc _ h o _ => by
      cases h
      exact ⟨[], [], rfl, fun junk => rfl⟩
  | t :: ts => fun L acc hw h o ho => by
      obtain ⟨hwt, _, hwts⟩ := wfFields_cons.mp hw
      obtain ⟨a, ha, hf⟩ := h
      have hp : padLen (o + acc) t.align = padLen acc t.align := padLen_add_of_mod8 _ _ (align_cases t) ho
      obtain ⟨b1, v, hl1, h1⟩ := dec_consumes t a hwt ha (o + acc + padLen acc t.align)
        (hp ▸ padLen_dvd (o + acc) t.align (align_pos t))
      obtain ⟨b2, vs, hl2, h2⟩ := decFields_consumes ts L (acc + padLen acc t.align + a) hwts hf o ho
      refine ⟨zeros (padLen acc t.align) ++ (b1 ++ b2), v :: vs, ?_, fun junk => ?_⟩
      · rw [← hl2, List.length_append, List.length_append, zeros_length, hl1]
        simp only [Nat.add_assoc]
      · simp only [decFields, List.append_assoc, bind_ok]
        rw [← hp, alignTo_zeros, hp]
        refine ⟨(v, _), h1 (b2 ++ junk), (vs, _), ?_, rfl⟩
        have := h2 junk
        rwa [← Nat.add_assoc, ← Nat.add_assoc] at this
theorem decVariant_consumes : ∀ (ts : List Ty) (L : Nat), wfFields ts = true → VariantLen ts L →
    ∀ o, o % 8 = 0 → ∃ (tag : Nat) (b : List Bool) (v : Val), tag < ts.length ∧ b.length = L ∧
      ∀ junk, decVariant ts tag ⟨o, b ++ junk⟩ = .ok (v, ⟨o + L, junk⟩)
  | [] => fun _ _ h _ _ => by cases h
  | t :: ts => fun L hw h o ho => by
      obtain ⟨hwt, _, hwts⟩ := wfFields_cons.mp hw
      rcases h with h | h
      · obtain ⟨b, v, hl, hd⟩ := dec_consumes t L hwt h o (mod_align_zero t ho)
        exact ⟨0, b, v, Nat.zero_lt_succ _, hl, hd⟩
      · obtain ⟨tag, b, v, htag, hl, hd⟩ := decVariant_consumes ts L hwts h o ho
        exact ⟨tag + 1, b, v, Nat.succ_lt_succ htag, hl, hd⟩
end

end Wire
