import Proofs.Sumset
/-!
  The mathematically defined bit length set `den` of an operator tree (the specification side of C01),
  an induction principle for the nested inductive `Op`, and the core exactness lemmas relating the model's
  `modulo`, `expand`, `min`, `max` to `den`.
-/
open scoped Pointwise
namespace Bls

mutual
/-- The set an operator tree denotes: leaves are given sets, padding rounds every element up to a multiple of the
    alignment, concatenation is the element-wise sum over the cartesian product, `k`-repetition the `k`-fold
    multiset sum, range repetition the union of the `j`-fold sums for `j ≤ k`, union the union. -/
def den : Op → Finset ℕ
  | .leaf vs => vs.toFinset
  | .pad c a => (den c).image (padTo a)
  | .cat cs => denSum cs
  | .rep c k => k • den c
  | .rrep c k => (Finset.range (k + 1)).biUnion fun j => j • den c
  | .uni cs => denUnion cs
def denSum : List Op → Finset ℕ
  | [] => {0}
  | c :: cs => den c + denSum cs
def denUnion : List Op → Finset ℕ
  | [] => ∅
  | c :: cs => den c ∪ denUnion cs
end

/-- Induction over operator trees (children of n-ary nodes are covered by `∀ c ∈ cs`). -/
theorem Op.induct {P : Op → Prop}
    (leaf : ∀ vs, P (.leaf vs))
    (pad : ∀ c a, P c → P (.pad c a))
    (cat : ∀ cs, (∀ c ∈ cs, P c) → P (.cat cs))
    (rep : ∀ c k, P c → P (.rep c k))
    (rrep : ∀ c k, P c → P (.rrep c k))
    (uni : ∀ cs, (∀ c ∈ cs, P c) → P (.uni cs)) : ∀ o, P o := by
  intro o
  exact Op.rec (motive_1 := P) (motive_2 := fun cs => ∀ c ∈ cs, P c)
    leaf (fun c a ih => pad c a ih) (fun cs ih => cat cs ih) (fun c k ih => rep c k ih)
    (fun c k ih => rrep c k ih) (fun cs ih => uni cs ih)
    (by intro c hc; cases hc)
    (fun c cs ihc ihcs => by
      intro x hx
      rcases List.mem_cons.mp hx with rfl | hx
      · exact ihc
      · exact ihcs x hx) o

/-! The list helpers of the model are maps. -/

theorem wfs_iff (cs : List Op) : wfs cs = true ↔ ∀ c ∈ cs, c.wf = true := by
  induction cs with
  | nil => simp [wfs]
  | cons c cs ih => simp [wfs, ih]

theorem modulos_eq (cs : List Op) (d : ℕ) : modulos cs d = cs.map (fun c => c.modulo d) := by
  induction cs with
  | nil => simp [modulos]
  | cons c cs ih => simp [modulos, ih]

theorem expands_eq (cs : List Op) : expands cs = cs.map (fun c => c.expand) := by
  induction cs with
  | nil => simp [expands]
  | cons c cs ih => simp [expands, ih]

theorem denSum_eq (cs : List Op) : denSum cs = (cs.map den).sum := by
  induction cs with
  | nil => simp [denSum]; rfl
  | cons c cs ih => simp [denSum, ih]

theorem mem_denUnion (cs : List Op) (x : ℕ) : x ∈ denUnion cs ↔ ∃ c ∈ cs, x ∈ den c := by
  induction cs with
  | nil => simp [denUnion]
  | cons c cs ih => simp [denUnion, ih]

theorem assertsOks_iff (cs : List Op) (d : ℕ) : assertsOks cs d = true ↔ ∀ c ∈ cs, c.assertsOk d = true := by
  induction cs with
  | nil => simp [assertsOks]
  | cons c cs ih => simp [assertsOks, ih]

/-- Induction over well-formed trees: every case comes with what `Op.wf` says about its node. -/
theorem Op.wf_induct {P : Op → Prop}
    (leaf : ∀ vs, vs ≠ [] → P (.leaf vs))
    (pad : ∀ c a, c.wf = true → 1 ≤ a → P c → P (.pad c a))
    (cat : ∀ cs, cs ≠ [] → (∀ c ∈ cs, c.wf = true) → (∀ c ∈ cs, P c) → P (.cat cs))
    (rep : ∀ c k, c.wf = true → P c → P (.rep c k))
    (rrep : ∀ c k, c.wf = true → P c → P (.rrep c k))
    (uni : ∀ cs, cs ≠ [] → (∀ c ∈ cs, c.wf = true) → (∀ c ∈ cs, P c) → P (.uni cs)) :
    ∀ o : Op, o.wf = true → P o := by
  intro o
  induction o using Op.induct with
  | leaf vs => intro h; exact leaf vs (by simpa [Op.wf] using h)
  | pad c a ih =>
    intro h
    simp only [Op.wf, Bool.and_eq_true, decide_eq_true_eq] at h
    exact pad c a h.1 h.2 (ih h.1)
  | cat cs ih =>
    intro h
    simp only [Op.wf, Bool.and_eq_true, Bool.not_eq_true', List.isEmpty_eq_false_iff, wfs_iff] at h
    exact cat cs h.1 h.2 fun c hc => ih c hc (h.2 c hc)
  | rep c k ih => intro h; exact rep c k h (ih h)
  | rrep c k ih => intro h; exact rrep c k h (ih h)
  | uni cs ih =>
    intro h
    simp only [Op.wf, Bool.and_eq_true, Bool.not_eq_true', List.isEmpty_eq_false_iff, wfs_iff] at h
    exact uni cs h.1 h.2 fun c hc => ih c hc (h.2 c hc)

/-! ### The denoted set is never empty -/

theorem sum_nonempty (l : List (Finset ℕ)) (h : ∀ s ∈ l, s.Nonempty) : l.sum.Nonempty := by
  induction l with
  | nil => exact ⟨0, by simp⟩
  | cons s l ih =>
    rw [List.sum_cons]
    exact Finset.Nonempty.add (h s (by simp)) (ih fun t ht => h t (by simp [ht]))

theorem den_nonempty : ∀ o : Op, o.wf = true → (den o).Nonempty :=
  Op.wf_induct
    (leaf := fun vs h => by simpa [den] using h)
    (pad := fun c a _ _ ih => by simpa [den] using ih)
    (cat := fun cs _ _ ih => by
      rw [den, denSum_eq]
      exact sum_nonempty _ fun s hs => by
        obtain ⟨c, hc, rfl⟩ := List.mem_map.mp hs
        exact ih c hc)
    (rep := fun c k _ ih => by simpa [den] using ih.nsmul)
    (rrep := fun c k _ _ => ⟨0, by
      simp only [den, Finset.mem_biUnion, Finset.mem_range]
      exact ⟨0, by omega, by simp⟩⟩)
    (uni := fun cs hne _ ih => by
      obtain ⟨c, hc⟩ := List.exists_mem_of_ne_nil cs hne
      obtain ⟨x, hx⟩ := ih c hc
      exact ⟨x, (mem_denUnion cs x).mpr ⟨c, hc, hx⟩⟩)

/-! ### Numerical expansion is exact -/

theorem toFinset_rangeCwr (s : List ℕ) (K : ℕ) :
    ((List.range (K + 1)).flatMap fun k => (cwr s k).map List.sum).toFinset
      = (Finset.range (K + 1)).biUnion fun j => j • s.toFinset := by
  ext y
  simp only [List.mem_toFinset, List.mem_flatMap, List.mem_range, Finset.mem_biUnion, Finset.mem_range,
    ← toFinset_cwr_sums]

theorem flatMap_map_mod (ks : List ℕ) (L : ℕ → List (List ℕ)) (d : ℕ) :
    (ks.flatMap fun k => (L k).map fun el => el.sum % d) = (ks.flatMap fun k => (L k).map List.sum).map (· % d) := by
  simp only [List.map_flatMap, List.map_map, Function.comp_def]

/-- The union of what the children compute is `denUnion`, seen through any map of sets that commutes with unions
    (the identity for `expand`, the image in `ZMod d` for `modulo`). -/
theorem toFinset_flatten_children {β : Type*} [DecidableEq β] (F : Finset ℕ → Finset β)
    (hF : ∀ A B, F (A ∪ B) = F A ∪ F B) (cs : List Op) (f : Op → List ℕ)
    (h : ∀ c ∈ cs, F (f c).toFinset = F (den c)) : F (cs.map f).flatten.toFinset = F (denUnion cs) := by
  induction cs with
  | nil => rfl
  | cons c cs ih =>
    rw [List.map_cons, List.flatten_cons, List.toFinset_append, denUnion, hF, hF, h c List.mem_cons_self,
      ih fun x hx => h x (List.mem_cons_of_mem _ hx)]

theorem expand_exact : ∀ o : Op, (o.expand).toFinset = den o := by
  intro o
  induction o using Op.induct with
  | leaf vs => simp [Op.expand, den]
  | pad c a ih => rw [Op.expand, toFinset_dedup, toFinset_map, ih, den]
  | cat cs ih =>
    rw [Op.expand, toFinset_dedup, toFinset_product_sums, expands_eq, den, denSum_eq, List.map_map]
    exact congrArg List.sum (List.map_congr_left ih)
  | rep c k ih => rw [Op.expand, cwrSums, toFinset_dedup, toFinset_cwr_sums, ih, den]
  | rrep c k ih => rw [Op.expand, rangeCwrSums, toFinset_dedup, toFinset_rangeCwr, ih, den]
  | uni cs ih =>
    rw [Op.expand, toFinset_dedup, expands_eq, den]
    exact toFinset_flatten_children id (fun _ _ => rfl) cs _ ih

theorem expand_nodup : ∀ o : Op, (o.expand).Nodup := by
  intro o
  cases o <;> simp only [Op.expand, cwrSums, rangeCwrSums] <;> exact nodup_dedup _

end Bls
