import PyLib.Expr
import Proofs.Expr
import Mathlib.Data.Rat.Lemmas
import Mathlib.Data.Int.Bitwise
import Mathlib.Tactic.FieldSimp
/-!
  Facts about `PyLib/Expr.lean` (the meaning of the dynamically typed Python fragment) that do not depend on generated code:
  `fractions.Fraction` arithmetic on numerator / denominator pairs against Lean's `Rat`, Python's integer bit operators, and
  the frozenset primitives against duplicate-free lists.
-/
set_option linter.unusedSimpArgs false
set_option linter.unusedVariables false
namespace PyEx
open Py Ex

/-- a rational as a `fractions.Fraction` -/
def ofRat (q : Rat) : Obj := .frac q.num q.den

theorem mkFrac_eq (n : Int) (d : Nat) (hd : d ≠ 0) : mkFrac n d = ofRat (mkRat n d) := by
  simp [mkFrac, ofRat, Rat.mkRat_def, hd, Rat.num_normalize, Rat.den_normalize]

theorem den_mul_ne (a b : Rat) : a.den * b.den ≠ 0 := Nat.mul_ne_zero a.den_nz b.den_nz

theorem frac_add (a b : Rat) : mkFrac (a.num * b.den + b.num * a.den) (a.den * b.den) = ofRat (a + b) := by
  rw [mkFrac_eq _ _ (den_mul_ne a b), Rat.add_def']

theorem frac_sub (a b : Rat) : mkFrac (a.num * b.den - b.num * a.den) (a.den * b.den) = ofRat (a - b) := by
  rw [mkFrac_eq _ _ (den_mul_ne a b), Rat.sub_def']

theorem frac_mul (a b : Rat) : mkFrac (a.num * b.num) (a.den * b.den) = ofRat (a * b) := by
  rw [mkFrac_eq _ _ (den_mul_ne a b), Rat.mul_def']

theorem mkFracI_eq (n d : Int) (hd : d ≠ 0) : mkFracI n d = .ok (ofRat (Rat.divInt n d)) := by
  unfold mkFracI
  rw [if_neg hd]
  by_cases h : d < 0
  · rw [if_pos h]
    have h1 : (-d).toNat ≠ 0 := by omega
    have h2 : ((-d).toNat : Int) = -d := by omega
    rw [mkFrac_eq _ _ h1, ← Rat.divInt_ofNat, h2, Rat.neg_divInt_neg]; rfl
  · rw [if_neg h]
    have h1 : d.toNat ≠ 0 := by omega
    have h2 : (d.toNat : Int) = d := by omega
    rw [mkFrac_eq _ _ h1, ← Rat.divInt_ofNat, h2]; rfl

theorem div_eq_divInt (a b : Rat) : a / b = Rat.divInt (a.num * b.den) (a.den * b.num) := by
  rw [Rat.div_def, Rat.inv_def]
  conv_lhs => rw [← Rat.num_divInt_den a]
  rw [Rat.divInt_mul_divInt]

theorem frac_div (a b : Rat) (hb : b ≠ 0) : mkFracI (a.num * b.den) (a.den * b.num) = .ok (ofRat (a / b)) := by
  have hn : b.num ≠ 0 := fun h => hb (Rat.num_eq_zero.mp h)
  have hd : (a.den : Int) * b.num ≠ 0 := Int.mul_ne_zero (by exact_mod_cast a.den_nz) hn
  rw [mkFracI_eq _ _ hd, div_eq_divInt]

theorem frac_div_zero (a : Rat) (n : Int) : mkFracI n ((a.den : Int) * (0 : Rat).num) = .error .ZeroDivisionError := by
  simp [mkFracI]; rfl

/-! ### `%`: CPython's `Fraction._mod` is the floored modulo of the model -/

theorem floor_div_int (n d : Int) : ((n : ℚ) / d).floor = n.fdiv d := by
  show ⌊(n : ℚ) / d⌋ = n.fdiv d
  have key : ∀ (m : Int) (k : ℕ), ⌊(m : ℚ) / ((k : ℤ) : ℚ)⌋ = m.fdiv k := fun m k => by
    rw [Int.cast_natCast, Rat.floor_intCast_div_natCast, Int.fdiv_eq_ediv_of_nonneg _ (Int.natCast_nonneg k)]
  -- a negative divisor: both sides are unchanged when the signs of dividend and divisor are flipped
  obtain ⟨k, rfl | rfl⟩ : ∃ k : ℕ, d = k ∨ d = -k := ⟨d.natAbs, Int.natAbs_eq d⟩
  · exact key n k
  · rw [← Int.neg_fdiv_neg, neg_neg, Int.cast_neg, div_neg, ← neg_div, ← Int.cast_neg]
    exact key (-n) k

theorem rat_eq_num_div_den (a : Rat) : a = (a.num : ℚ) / (a.den : ℚ) := (Rat.num_div_den a).symm

theorem frac_mod (a b : Rat) (hb : b ≠ 0) :
    mkFrac (Int.fmod (a.num * b.den) (b.num * a.den)) (a.den * b.den) = ofRat (ratMod a b) := by
  rw [mkFrac_eq _ _ (den_mul_ne a b)]
  congr 1
  have hn : b.num ≠ 0 := fun h => hb (Rat.num_eq_zero.mp h)
  have hD : b.num * (a.den : Int) ≠ 0 := Int.mul_ne_zero hn (by exact_mod_cast a.den_nz)
  have had : (a.den : ℚ) ≠ 0 := by exact_mod_cast a.den_nz
  have hbd : (b.den : ℚ) ≠ 0 := by exact_mod_cast b.den_nz
  have hbn : (b.num : ℚ) ≠ 0 := by exact_mod_cast hn
  have hdiv : a / b = ((a.num * b.den : ℤ) : ℚ) / ((b.num * a.den : ℤ) : ℚ) := by
    conv_lhs => rw [rat_eq_num_div_den a, rat_eq_num_div_den b]
    push_cast; field_simp
  unfold ratMod
  rw [hdiv, floor_div_int, Rat.mkRat_eq_div, Int.fmod_def]
  generalize (a.num * ↑b.den).fdiv (b.num * ↑a.den) = q
  have ha := rat_eq_num_div_den a
  have hb' := rat_eq_num_div_den b
  generalize a.num = an at *
  generalize a.den = ad at *
  generalize b.num = bn at *
  generalize b.den = bd at *
  subst ha hb'
  push_cast; field_simp

/-! ### `**` -/

/-- what `Fraction.__pow__` does where the model says … -/
def powRes : R Rat → E Obj
  | .ok v => .ok (ofRat v)
  | .error (.invalid .divZero) => .error .ZeroDivisionError
  | .error (.hazard .powComplex) => .ok .complex
  | .error (.hazard .powFloatOverflow) => .error .OverflowError
  | .error .inexact => .error (.unmodelled "float")
  | .error _ => .error (.unmodelled "?")

theorem ofRat_div_coprime (q : Rat) (N D : Int) (hD : 0 < D) (hcop : Nat.Coprime N.natAbs D.natAbs) (heq : q = (N : ℚ) / D) :
    ofRat q = .frac N D.toNat := by
  unfold ofRat
  have h2 := Rat.den_div_eq_of_coprime hD hcop
  rw [heq, Rat.num_div_eq_of_coprime hD hcop]
  congr 1
  omega

theorem coprime_pow_natAbs (a : Rat) (k : Nat) (s t : Int) (hs : s.natAbs = 1) (ht : t.natAbs = 1) :
    Nat.Coprime ((s * (a.den : Int)) ^ k).natAbs ((t * a.num) ^ k).natAbs := by
  rw [Int.natAbs_pow, Int.natAbs_pow, Int.natAbs_mul, Int.natAbs_mul, hs, ht, Nat.one_mul, Nat.one_mul, Int.natAbs_natCast]
  exact (a.reduced.symm).pow k k

/-- `(a ^ k)⁻¹` in lowest terms; the sign `s = ±1` of `a` goes to the numerator, `s * a.num` is the base of the positive denominator -/
theorem ofRat_inv_pow (a : Rat) (k : Nat) (s : Int) (hs : s.natAbs = 1) (h : 0 < s * a.num) :
    ofRat ((a ^ k)⁻¹) = .frac ((s * (a.den : Int)) ^ k) ((s * a.num).toNat ^ k) := by
  have hD : (0 : Int) < (s * a.num) ^ k := Int.pow_pos h
  have hs0 : (s : ℚ) ≠ 0 := by
    have : s ≠ 0 := fun h0 => by rw [h0] at hs; exact absurd hs (by decide)
    exact_mod_cast this
  have hq : (a ^ k)⁻¹ = (((s * (a.den : Int)) ^ k : ℤ) : ℚ) / (((s * a.num) ^ k : ℤ) : ℚ) := by
    conv_lhs => rw [rat_eq_num_div_den a]
    push_cast; rw [div_pow, inv_div, ← div_pow, ← div_pow, mul_div_mul_left _ _ hs0]
  rw [ofRat_div_coprime _ _ _ hD (coprime_pow_natAbs a k s s hs hs) hq]
  congr 1
  apply Int.ofNat.inj
  show (((s * a.num) ^ k).toNat : Int) = (((s * a.num).toNat ^ k : Nat) : Int)
  rw [Int.toNat_of_nonneg (le_of_lt hD)]; push_cast; rw [Int.toNat_of_nonneg (le_of_lt h)]

theorem frac_pow_neg (a : Rat) (k : Nat) :
    (0 < a.num → ofRat ((a ^ k)⁻¹) = .frac ((a.den : Int) ^ k) (a.num.toNat ^ k)) ∧
    (a.num < 0 → ofRat ((a ^ k)⁻¹) = .frac ((-(a.den : Int)) ^ k) ((-a.num).toNat ^ k)) :=
  ⟨fun h => by simpa using ofRat_inv_pow a k 1 rfl (by simpa using h),
   fun h => by simpa using ofRat_inv_pow a k (-1) rfl (by simpa using h)⟩

theorem pow2_num : (Ex.pow2_1024).num = Py.pow2_1024 ∧ (Ex.pow2_1024).den = 1 := by
  unfold Ex.pow2_1024 Py.pow2_1024
  constructor
  · rw [Rat.num_pow]; rfl
  · rw [Rat.den_pow]; simp

theorem fracHuge_iff (x : Rat) : fracHuge (x.num, x.den) = true ↔ (Ex.pow2_1024 ≤ x ∨ x ≤ -Ex.pow2_1024) := by
  unfold fracHuge
  simp only [Bool.or_eq_true, decide_eq_true_eq]
  rw [Rat.le_iff, Rat.le_iff, Rat.neg_num, Rat.neg_den, pow2_num.1, pow2_num.2]
  simp only [Nat.cast_one, Int.mul_one]
  constructor <;> (rintro (h | h) <;> [left; right] <;> linarith)

theorem fracPow_eq (a b : Rat) : fracPow (a.num, a.den) (b.num, b.den) = powRes (scPow a b) := by
  unfold fracPow scPow
  by_cases hb : b.den = 1
  · simp only [hb, ↓reduceIte, Rat.isInt', beq_self_eq_true]
    unfold ratPowInt
    by_cases hn : 0 ≤ b.num
    · simp only [hn, ↓reduceIte, powRes, ofRat, Rat.num_pow, Rat.den_pow]; rfl
    · simp only [hn, ↓reduceIte]
      rcases lt_trichotomy a.num 0 with h | h | h
      · have ha : a ≠ 0 := fun h0 => by rw [h0] at h; exact absurd h (by decide)
        have h' : ¬ 0 < a.num := by omega
        have h'' : a.num ≠ 0 := by omega
        simp only [h', h'', ha, ↓reduceIte, powRes, (frac_pow_neg a _).2 h]; rfl
      · have ha : a = 0 := Rat.num_eq_zero.mp h
        simp only [h, ha, Int.lt_irrefl, ↓reduceIte, inval, powRes]; rfl
      · have ha : a ≠ 0 := fun h0 => by rw [h0] at h; exact absurd h (by decide)
        simp only [h, ha, ↓reduceIte, powRes, (frac_pow_neg a _).1 h]; rfl
  · have hb' : Rat.isInt' b = false := by simp [Rat.isInt', hb]
    simp only [hb, hb', ↓reduceIte, Bool.false_eq_true]
    by_cases ha : a < 0
    · have : a.num < 0 := Rat.num_neg.mpr ha
      simp only [this, ha, ↓reduceIte, powRes]; rfl
    · have h1 : ¬ a.num < 0 := fun h => ha (Rat.num_neg.mp h)
      simp only [h1, ha, ↓reduceIte]
      have hP : (0:ℚ) < Ex.pow2_1024 := pow_pos (by norm_num) 1024
      have e1 := fracHuge_iff a
      have e2 := fracHuge_iff b
      generalize Ex.pow2_1024 = P at *
      have hnn : ¬ a ≤ -P := fun h => ha (by linarith)
      by_cases hh : P ≤ a ∨ P ≤ b ∨ b ≤ -P
      · have : (fracHuge (a.num, a.den) || fracHuge (b.num, b.den)) = true := by
          rw [Bool.or_eq_true, e1, e2]
          rcases hh with h | h | h
          · exact Or.inl (Or.inl h)
          · exact Or.inr (Or.inl h)
          · exact Or.inr (Or.inr h)
        simp only [this, hh, ↓reduceIte, powRes]; rfl
      · have : (fracHuge (a.num, a.den) || fracHuge (b.num, b.den)) = false := by
          rw [Bool.eq_false_iff]; intro h
          rw [Bool.or_eq_true, e1, e2] at h
          rcases h with (h | h) | (h | h)
          · exact hh (Or.inl h)
          · exact hnn h
          · exact hh (Or.inr (Or.inl h))
          · exact hh (Or.inr (Or.inr h))
        simp only [this, hh, ↓reduceIte, powRes, Bool.false_eq_true]; rfl

/-! ### comparisons -/

theorem cmp_lt (a b : Rat) : decide (a.num * b.den < b.num * a.den) = decide (a < b) := by
  rw [decide_eq_decide]; exact (Rat.lt_iff a b).symm

theorem cmp_le (a b : Rat) : decide (a.num * b.den ≤ b.num * a.den) = decide (a ≤ b) := by
  rw [decide_eq_decide]; exact (Rat.le_iff a b).symm

theorem cmp_eq (a b : Rat) : (a.num == b.num && a.den == b.den) = (a == b) := by
  rw [Bool.eq_iff_iff]
  simp only [Bool.and_eq_true, beq_iff_eq]
  exact ⟨fun h => Rat.ext h.1 h.2, fun h => by subst h; exact ⟨rfl, rfl⟩⟩

/-! ### `|`, `^`, `&` -/

theorem intOr_eq (a b : Int) : Py.intOr a b = Ex.ior a b := by cases a <;> cases b <;> rfl
theorem intXor_eq (a b : Int) : Py.intXor a b = Ex.ixor a b := by cases a <;> cases b <;> rfl
theorem intAnd_eq (a b : Int) : Py.intAnd a b = Ex.iand a b := by cases a <;> cases b <;> rfl

theorem natAndNot_eq_ldiff (a b : Nat) : Py.natAndNot a b = Nat.ldiff a b := by
  apply Nat.eq_of_testBit_eq
  intro i
  rw [Nat.testBit_ldiff]
  unfold Py.natAndNot
  rw [Nat.testBit_xor, Nat.testBit_and]
  cases a.testBit i <;> cases b.testBit i <;> rfl

theorem intAnd_eq_land (a b : Int) : Py.intAnd a b = Int.land a b := by
  cases a <;> cases b <;> simp [Py.intAnd, Int.land, natAndNot_eq_ldiff]

theorem intOr_eq_lor (a b : Int) : Py.intOr a b = Int.lor a b := by
  cases a <;> cases b <;> simp [Py.intOr, Int.lor, natAndNot_eq_ldiff]

theorem intXor_eq_xor (a b : Int) : Py.intXor a b = Int.xor a b := by
  cases a <;> cases b <;> simp [Py.intXor, Int.xor]

/-- Python's `&`, `|`, `^` on integers act bit by bit on the two's complement representation with an infinite sign
    extension (`Int.testBit`) -/
theorem testBit_int_ops (a b : Int) (k : Nat) :
    (Py.intAnd a b).testBit k = (a.testBit k && b.testBit k) ∧
    (Py.intOr a b).testBit k = (a.testBit k || b.testBit k) ∧
    (Py.intXor a b).testBit k = xor (a.testBit k) (b.testBit k) := by
  rw [intAnd_eq_land, intOr_eq_lor, intXor_eq_xor]
  exact ⟨Int.testBit_land a b k, Int.testBit_lor a b k, Int.testBit_lxor a b k⟩

/-! ### frozensets against duplicate-free lists

  `g` embeds some type of element descriptions into `Obj`, `k` is the key under which two elements are one
  (`SameSpec`: that is what `__hash__` / `__eq__` of the embedded objects decide). -/

theorem ok_bind' {ε α β : Type} (a : α) (f : α → Except ε β) : (Except.ok a >>= f) = f a := rfl
theorem pure_ok' {ε α : Type} (a : α) : (pure a : Except ε α) = Except.ok a := rfl

section containers
variable {α β : Type} [DecidableEq β]

/-- `frozenset(l)` on descriptions: of several elements with one key the last stays, in its place -/
def dedupK (k : α → β) : List α → List α
  | [] => []
  | x :: xs => if k x ∈ (dedupK k xs).map k then dedupK k xs else x :: dedupK k xs

def SameSpec (env : Py.Env) (g : α → Obj) (k : α → β) : Prop :=
  ∀ x y, sameElem env (g x) (g y) = .ok (decide (k x = k y))

variable {env : Py.Env} {g : α → Obj} {k : α → β}

theorem fsContains_ok (h : SameSpec env g k) (l : List α) (x : α) :
    fsContains env (l.map g) (g x) = .ok (decide (k x ∈ l.map k)) := by
  induction l with
  | nil => rfl
  | cons y ys ih =>
    simp only [List.map_cons, fsContains, h y x, ok_bind', ih, List.mem_cons]
    by_cases e : k y = k x
    · simp [e, pure_ok']
    · have e' : ¬ k x = k y := fun h => e h.symm
      simp [e, e']

theorem fsSubset_ok (h : SameSpec env g k) (a b : List α) :
    fsSubset env (a.map g) (b.map g) = .ok (a.all fun x => decide (k x ∈ b.map k)) := by
  induction a with
  | nil => rfl
  | cons x xs ih =>
    simp only [List.map_cons, fsSubset, fsContains_ok h, ok_bind', ih, List.all_cons]
    by_cases e : k x ∈ b.map k <;> simp [e, pure_ok']

theorem mem_dedupK (k : α → β) (l : List α) : ∀ b : β, b ∈ (dedupK k l).map k ↔ b ∈ l.map k := by
  induction l with
  | nil => simp [dedupK]
  | cons x xs ih =>
    intro b
    simp only [dedupK]
    split
    · rename_i hm
      rw [ih] at hm
      rw [ih]
      simp only [List.map_cons, List.mem_cons]
      constructor
      · exact Or.inr
      · rintro (rfl | h) <;> assumption
    · simp only [List.map_cons, List.mem_cons, ih]

theorem nodup_dedupK (k : α → β) (l : List α) : ((dedupK k l).map k).Nodup := by
  induction l with
  | nil => simp [dedupK]
  | cons x xs ih =>
    simp only [dedupK]
    split
    · exact ih
    · rename_i hm
      simp only [List.map_cons, List.nodup_cons]
      exact ⟨hm, ih⟩

theorem dedupK_ne_nil (k : α → β) (l : List α) (h : l ≠ []) : dedupK k l ≠ [] := by
  obtain ⟨x, hx⟩ := List.exists_mem_of_ne_nil l h
  have : k x ∈ (dedupK k l).map k := (mem_dedupK k l (k x)).mpr (List.mem_map_of_mem hx)
  intro h0; rw [h0] at this; simp at this

theorem mem_of_mem_dedupK (k : α → β) (l : List α) : ∀ x, x ∈ dedupK k l → x ∈ l := by
  induction l with
  | nil => simp [dedupK]
  | cons y ys ih =>
    intro x hx
    simp only [dedupK] at hx
    split at hx
    · exact List.mem_cons_of_mem _ (ih x hx)
    · rcases List.mem_cons.mp hx with rfl | h
      · exact List.mem_cons_self
      · exact List.mem_cons_of_mem _ (ih x h)

/-- all keys equal: the duplicate-free list has exactly one element -/
theorem dedupK_const (k : α → β) (l : List α) (h : l ≠ []) (c : β) (hc : ∀ x ∈ l, k x = c) :
    ∃ x, dedupK k l = [x] ∧ x ∈ l := by
  have hn := nodup_dedupK k l
  have hne := dedupK_ne_nil k l h
  match hd : dedupK k l with
  | [] => exact absurd hd hne
  | [x] => exact ⟨x, rfl, mem_of_mem_dedupK k l x (by rw [hd]; simp)⟩
  | x :: y :: r =>
    rw [hd] at hn
    have hx : k x = c := hc x (mem_of_mem_dedupK k l x (by rw [hd]; simp))
    have hy : k y = c := hc y (mem_of_mem_dedupK k l y (by rw [hd]; simp))
    simp [hx, hy] at hn

theorem dedupK_length_one (k : α → β) (l : List α) (h : (dedupK k l).length = 1) : ∀ x ∈ l, ∀ y ∈ l, k x = k y := by
  match hd : dedupK k l with
  | [] => rw [hd] at h; simp at h
  | [z] =>
    intro x hx y hy
    have hx' := (mem_dedupK k l (k x)).mpr (List.mem_map_of_mem hx)
    have hy' := (mem_dedupK k l (k y)).mpr (List.mem_map_of_mem hy)
    rw [hd] at hx' hy'
    simp at hx' hy'
    rw [hx', hy']
  | _ :: _ :: _ => rw [hd] at h; simp at h

theorem fsOfList_ok (h : SameSpec env g k) (l : List α) :
    fsOfList env (l.map g) = .ok ((dedupK k l).map g) := by
  induction l with
  | nil => rfl
  | cons x xs ih =>
    simp only [List.map_cons, fsOfList, ih, ok_bind', fsContains_ok h, dedupK]
    by_cases e : k x ∈ (dedupK k xs).map k <;> simp [e, pure_ok']

theorem filterE_map_ok (p : Obj → E Bool) (q : α → Bool) (a : List α) (h : ∀ x ∈ a, p (g x) = .ok (q x)) :
    filterE p (a.map g) = .ok ((a.filter q).map g) := by
  induction a with
  | nil => rfl
  | cons x xs ih =>
    simp only [List.map_cons, filterE, h x (by simp), ok_bind', ih fun y hy => h y (by simp [hy]), pure_ok', List.filter_cons]
    cases q x <;> rfl

theorem filterE_contains_ok (h : SameSpec env g k) (a b : List α) :
    filterE (fun e => fsContains env (b.map g) e) (a.map g) = .ok ((a.filter fun x => decide (k x ∈ b.map k)).map g) :=
  filterE_map_ok _ _ a fun x _ => fsContains_ok h b x

theorem filterE_not_contains_ok (h : SameSpec env g k) (a b : List α) :
    filterE (fun e => do pure (!(← fsContains env (b.map g) e))) (a.map g) =
      .ok ((a.filter fun x => !decide (k x ∈ b.map k)).map g) :=
  filterE_map_ok _ _ a fun x _ => by simp only [fsContains_ok h b x, ok_bind', pure_ok']

/-- class objects are native values: one element exactly when they are the same class -/
theorem sameElem_cls (env : Py.Env) (a b : Cls) : sameElem env (.cls a) (.cls b) = .ok (decide (a = b)) := by
  show (if (a == b) = true then (Except.ok (a == b) : E Bool) else .ok false) = _
  by_cases h : a = b <;> simp [h]

end containers

end PyEx
