import Model.Expr
/-! Integer literals as written (any base, digit separators, either letter case) denote the intended number. -/
namespace Ex

/-- one digit as written: its value, whether an underscore precedes it, and the letter case of a hex digit -/
structure DigitW where
  d : Nat
  us : Bool
  upper : Bool

def digitChar (d : Nat) (upper : Bool) : Char :=
  if d < 10 then Char.ofNat (48 + d) else if upper then Char.ofNat (55 + d) else Char.ofNat (87 + d)

/-- the characters of a digit string `(_?digit)+` -/
def writeDigits : List DigitW → List Char
  | [] => []
  | w :: ws => (if w.us then ['_'] else []) ++ [digitChar w.d w.upper] ++ writeDigits ws

/-- the number a digit sequence denotes in a positional system -/
def numeral (radix : Nat) (ds : List Nat) : Nat := ds.foldl (fun acc d => acc * radix + d) 0

theorem digitVal_digitChar (d : Nat) (u : Bool) (h : d < 16) : digitVal (digitChar d u) = some d := by
  revert u; revert d; decide +kernel

theorem digitChar_ne_us (d : Nat) (u : Bool) (h : d < 16) : (digitChar d u != '_') = true := by
  revert u; revert d; decide +kernel

theorem strip_writeDigits (ws : List DigitW) (h : ∀ w ∈ ws, w.d < 16) :
    stripUnderscores (writeDigits ws) = ws.map (fun w => digitChar w.d w.upper) := by
  induction ws with
  | nil => rfl
  | cons w ws ih =>
    have hw := digitChar_ne_us w.d w.upper (h w (by simp))
    have ih' := ih (fun x hx => h x (by simp [hx]))
    simp only [stripUnderscores] at ih' ⊢
    cases hus : w.us <;> simp [writeDigits, hus, hw, ih']

theorem foldl_digits (radix : Nat) (ws : List DigitW) (acc : Nat) (h : ∀ w ∈ ws, w.d < radix) (hr : radix ≤ 16) :
    (ws.map (fun w => digitChar w.d w.upper)).foldl (fun acc c => match acc, digitVal c with
      | some a, some d => if d < radix then some (a * radix + d) else none
      | _, _ => none) (some acc) = some ((ws.map (·.d)).foldl (fun acc d => acc * radix + d) acc) := by
  induction ws generalizing acc with
  | nil => rfl
  | cons w ws ih =>
    have hw : w.d < radix := h w (by simp)
    simp only [List.map_cons, List.foldl_cons, digitVal_digitChar w.d w.upper (by omega), hw, ↓reduceIte]
    exact ih _ (fun x hx => h x (by simp [hx]))

theorem digitsVal_written (radix : Nat) (ws : List DigitW) (hne : ws ≠ []) (h : ∀ w ∈ ws, w.d < radix) (hr : radix ≤ 16) :
    digitsVal radix (ws.map (fun w => digitChar w.d w.upper)) = some (numeral radix (ws.map (·.d))) := by
  unfold digitsVal numeral
  have : (ws.map (fun w => digitChar w.d w.upper)).isEmpty = false := by
    cases ws <;> simp_all
  simp only [this, Bool.false_eq_true, ↓reduceIte]
  exact foldl_digits radix ws 0 h hr

/-- `0b…`, `0o…`, `0x…` (either case of the prefix letter): the digits in base 2 / 8 / 16 -/
theorem decodeInt_prefixed (radix : Nat) (p : Char) (ws : List DigitW) (hne : ws ≠ [])
    (hp : (radix = 2 ∧ (p = 'b' ∨ p = 'B')) ∨ (radix = 8 ∧ (p = 'o' ∨ p = 'O')) ∨ (radix = 16 ∧ (p = 'x' ∨ p = 'X')))
    (h : ∀ w ∈ ws, w.d < radix) :
    decodeInt ('0' :: p :: writeDigits ws) = .ok (numeral radix (ws.map (·.d))) := by
  have h16 : ∀ w ∈ ws, w.d < 16 := fun w hw => by
    have := h w hw
    rcases hp with ⟨rfl, _⟩ | ⟨rfl, _⟩ | ⟨rfl, _⟩ <;> omega
  have hs := strip_writeDigits ws h16
  simp only [stripUnderscores] at hs
  rcases hp with ⟨rfl, rfl | rfl⟩ | ⟨rfl, rfl | rfl⟩ | ⟨rfl, rfl | rfl⟩ <;>
    simp [decodeInt, stripUnderscores, hs, digitsVal_written _ ws hne h (by decide), optSyntax]

/-- a decimal digit is none of the base letters -/
theorem digitChar_dec (d : Nat) (u : Bool) (h : d < 10) : digitChar d u ∉ ['b', 'B', 'o', 'O', 'x', 'X'] := by
  revert u; revert d; decide +kernel

/-- a text without base letters is read in base ten -/
theorem decodeInt_base10 (cs : List Char) (h : ∀ c ∈ stripUnderscores cs, c ∉ ['b', 'B', 'o', 'O', 'x', 'X']) :
    decodeInt cs = if (stripUnderscores cs).length > pyIntMaxDigits then .error (.hazard .intDigitLimit)
      else optSyntax (digitsVal 10 (stripUnderscores cs)) := by
  unfold decodeInt
  split
  case h_7 => rfl
  all_goals
    rename_i heq
    exact absurd (h _ (by rw [heq]; exact List.mem_cons_of_mem _ List.mem_cons_self)) (by decide)

/-- a decimal literal within CPython's conversion limit: the digits in base 10 -/
theorem decodeInt_decimal (ws : List DigitW) (hne : ws ≠ []) (h : ∀ w ∈ ws, w.d < 10) (hlen : ws.length ≤ pyIntMaxDigits) :
    decodeInt (writeDigits ws) = .ok (numeral 10 (ws.map (·.d))) := by
  have hs := strip_writeDigits ws fun w hw => Nat.lt_trans (h w hw) (by decide)
  rw [decodeInt_base10, hs, if_neg (by simpa using hlen), digitsVal_written 10 ws hne h (by decide)]
  · rfl
  · rw [hs]
    intro c hc
    obtain ⟨w, hw, rfl⟩ := List.mem_map.mp hc
    exact digitChar_dec w.d w.upper (h w hw)

end Ex
