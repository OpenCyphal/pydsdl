import Proofs.WireRt
/-! Whatever `dec` returns is a valid value of the type. -/
namespace Wire

theorem decRep_valid {f : R → Except Err (Val × R)} {P : Val → Prop}
    (hf : ∀ r v q, f r = .ok (v, q) → P v) :
    ∀ (n : Nat) (r : R) (vs : List Val) (q : R), decRep f n r = .ok (vs, q) →
      vs.length = n ∧ ∀ v ∈ vs, P v
  | 0 => fun r vs q h => by
      simp only [decRep] at h; cases h; simp
  | n+1 => fun r vs q h => by
      simp only [decRep, bind_ok] at h
      obtain ⟨⟨v1, r1⟩, hx, ⟨vs2, r2⟩, hy, hd⟩ := h
      cases hd
      obtain ⟨hl, hvs⟩ := decRep_valid hf n r1 vs2 r2 hy
      exact ⟨congrArg (· + 1) hl, List.forall_mem_cons.mpr ⟨hf _ _ _ hx, hvs⟩⟩

theorem unwrapDelim_valid {body : R → Except Err (Val × R)} {P : Val → Prop}
    (hb : ∀ r v q, body r = .ok (v, q) → P v) (m : Mode) (r : R) (v : Val) (q : R)
    (h : unwrapDelim m r body = .ok (v, q)) : P v := by
  cases m with
  | sealed => exact hb r v q h
  | delimited x =>
    simp only [unwrapDelim] at h
    split at h
    · cases h
    · simp only [bind_ok] at h
      obtain ⟨⟨v1, r1⟩, hx, hd⟩ := h
      cases hd
      exact hb _ _ _ hx

mutual
theorem dec_valid : ∀ (t : Ty) (r : R) (v : Val) (q : R), t.wf = true → dec t r = .ok (v, q) → valid t v = true
  | .bool | .uint _ _ | .sint _ _ | .float _ _ | .byte | .utf8 | .void _ => fun r v q hw h => by
      rw [dec_prim rfl] at h
      cases h
      exact valid_ofBits rfl hw (takeZ_length _ _)
  | .farr e cap => fun r v q hw h => by
      simp only [dec, bind_ok] at h
      obtain ⟨⟨vs, r1⟩, hx, hd⟩ := h
      cases hd
      exact valid_farr.mpr ⟨vs, rfl, decRep_valid (fun r v q => dec_valid e r v q (wf_farr.mp hw).1) cap r vs r1 hx⟩
  | .varr e cap => fun r v q hw h => by
      simp only [dec] at h
      split at h
      · cases h
      · simp only [bind_ok] at h
        obtain ⟨⟨vs, r1⟩, hx, hd⟩ := h
        split at hd
        · cases hd
        · rename_i hc hu
          cases hd
          obtain ⟨hl, hvs⟩ := decRep_valid (fun r v q => dec_valid e r v q (wf_varr.mp hw).1) _ _ vs r1 hx
          refine valid_varr.mpr ⟨vs, rfl, hl ▸ Nat.not_lt.mp hc, hvs, ?_⟩
          rw [Bool.not_eq_true, Bool.and_eq_false_iff] at hu
          simpa using hu
  | .struct fs m => fun r v q hw h => by
      rw [dec_struct] at h
      refine unwrapDelim_valid (P := fun v => valid (.struct fs m) v = true) (fun r v q h => ?_) m r v q h
      simp only [dec, unwrapDelim, bind_ok] at h
      obtain ⟨⟨vs, r1⟩, hx, hd⟩ := h
      cases hd
      exact valid_struct.mpr ⟨vs, rfl, decFields_valid fs r vs r1 (wf_struct.mp hw).1 hx⟩
  | .union fs m => fun r v q hw h => by
      rw [dec_union] at h
      refine unwrapDelim_valid (P := fun v => valid (.union fs m) v = true) (fun r v q h => ?_) m r v q h
      simp only [dec, unwrapDelim, bind_ok] at h
      obtain ⟨⟨w, r1⟩, hx, hd⟩ := h
      cases hd
      exact valid_union.mpr ⟨_, w, rfl, decVariant_valid fs _ _ w r1 (wf_union.mp hw).1 hx⟩
theorem decFields_valid : ∀ (ts : List Ty) (r : R) (vs : List Val) (q : R), wfFields ts = true →
    decFields ts r = .ok (vs, q) → validFields ts vs = true
  | [] => fun r vs q _ h => by simp only [decFields] at h; cases h; rfl
  | t :: ts => fun r vs q hw h => by
      obtain ⟨hwt, _, hwts⟩ := wfFields_cons.mp hw
      simp only [decFields, bind_ok] at h
      obtain ⟨⟨v1, r1⟩, hx, ⟨vs2, r2⟩, hy, hd⟩ := h
      cases hd
      exact validFields_cons.mpr ⟨v1, vs2, rfl, dec_valid t _ v1 r1 hwt hx, decFields_valid ts r1 vs2 r2 hwts hy⟩
theorem decVariant_valid : ∀ (ts : List Ty) (n : Nat) (r : R) (v : Val) (q : R), wfFields ts = true →
    decVariant ts n r = .ok (v, q) → validVariant ts n v = true
  | [], _ => fun _ _ _ _ h => by cases h
  | t :: _, 0 => fun r v q hw h => dec_valid t r v q (wfFields_cons.mp hw).1 h
  | _ :: ts, n+1 => fun r v q hw h => decVariant_valid ts n r v q (wfFields_cons.mp hw).2.2 h
end

end Wire
