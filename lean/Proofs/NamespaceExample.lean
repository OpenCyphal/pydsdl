import Proofs.NamespaceBook
import Proofs.NamespaceC19
/-! A worked instance of the namespace model, evaluated step by step (the recursive reader and `List.mergeSort` are
    well-founded recursions, `decide` cannot unfold them): `ns/A.1.0` has a field of type `ns.B.1.0`, `other/C.1.0` is
    unrelated.  Used by the non-vacuity examples of Props/C09, C10, C19. -/
namespace Ns.Example

def S : Text := ⟨false, ⟨[.prim 8], .sealed⟩, none⟩
def G : Text := ⟨true, ⟨[], .none⟩, none⟩
def eA : FileEntry := ⟨["w", "ns"], [], "A.1.0.dsdl", ⟨false, ⟨[.ref ⟨"ns.B", 1, 0⟩], .sealed⟩, none⟩⟩
def eB : FileEntry := ⟨["w", "ns"], [], "B.1.0.dsdl", S⟩
def eC : FileEntry := ⟨["w", "other"], [], "C.1.0.dsdl", S⟩
def fs : List FileEntry := [eA, eB, eC]
def dA (t : Bool) : Def := ⟨t, ["w", "ns", "A.1.0.dsdl"], ["w", "ns"], ["ns", "A"], "ns.A", 1, 0, none, eA.text⟩
def dB (t : Bool) : Def := ⟨t, ["w", "ns", "B.1.0.dsdl"], ["w", "ns"], ["ns", "B"], "ns.B", 1, 0, none, S⟩
def dC (t : Bool) : Def := ⟨t, ["w", "other", "C.1.0.dsdl"], ["w", "other"], ["other", "C"], "other.C", 1, 0, none, S⟩
def L3 : List Def := [dA false, dB false, dC false]
def dirs : List Path := [["w", "other"], ["w", "ns"]]

def TB : Ty := .mk ⟨"ns.B", 1, 0, none, false, ⟨true, 8, [some 8]⟩, ⟨true, 8, [some 8]⟩, ["w", "ns", "B.1.0.dsdl"], ["w", "ns"]⟩ []
def TA : Ty := .mk ⟨"ns.A", 1, 0, none, false, ⟨true, 8, [none]⟩, ⟨true, 8, [none]⟩, ["w", "ns", "A.1.0.dsdl"], ["w", "ns"]⟩ [TB]

theorem mkA (t : Bool) : mkDef t eA = .ok (dA t) := by cases t <;> decide +kernel
theorem mkB (t : Bool) : mkDef t eB = .ok (dB t) := by cases t <;> decide +kernel
theorem mkC (t : Bool) : mkDef t eC = .ok (dC t) := by cases t <;> decide +kernel

theorem distinct : DistinctFileKeys fs := by unfold DistinctFileKeys; decide +kernel

theorem collectL : collect false fs dirs = .ok L3 := by
  rw [collect]
  have : (fs.filter fun e => dirs.contains e.dir && isDefinitionFile e.fname) = [eA, eB, eC] := by decide +kernel
  rw [this]
  simp only [mapMDefs, mkA, mkB, mkC]
  have : sortDefs [dA false, dB false, dC false] = [dA false, dB false, dC false] := by
    unfold sortDefs
    exact List.mergeSort_of_pairwise (by decide +kernel)
  rw [this]; rfl

theorem collectT : collect true fs [["w", "ns"]] = .ok [dA true, dB true] := by
  rw [collect]
  have : (fs.filter fun e => [["w", "ns"]].contains e.dir && isDefinitionFile e.fname) = [eA, eB] := by decide +kernel
  rw [this]
  simp only [mapMDefs, mkA, mkB]
  have : sortDefs [dA true, dB true] = [dA true, dB true] := by
    unfold sortDefs
    exact List.mergeSort_of_pairwise (by decide +kernel)
  rw [this]

/-- reading the leaf `B` -/
theorem evalB' (f : Bool) (L : List Def) (st : St) (h : st.cache.lookup (dB f) = none) :
    readObj false L (dB f) st = (.ok TB, { st with cache := (dB f, TB) :: st.cache }) := by
  rw [readObj]
  simp only [h]
  have hb : ∀ M rd, readBody false M (dB f) rd st = (.ok TB, st) := by
    intro M rd
    unfold readBody
    have hg : (dB f).text.garbage = false := rfl
    have hs : (dB f).text.req.stmts = [.prim 8] := rfl
    have hr : (dB f).text.resp = none := rfl
    simp only [hg, hs, hr, runStmts]
    have : assemble false (dB f) [some 8] [] none = .ok TB := by cases f <;> decide +kernel
    simp [this]
  rw [hb]

theorem evalB (L : List Def) (st : St) (h : st.cache.lookup (dB false) = none) :
    readObj false L (dB false) st = (.ok TB, { st with cache := (dB false, TB) :: st.cache }) := evalB' false L st h

/-- reading `A` reads `B` through the reference, caches both and records the visit -/
theorem evalA (st : St) (h : st.cache.lookup (dA true) = none) (hB : st.cache.lookup (dB false) = none) :
    readObj false L3 (dA true) st =
      (.ok TA, { st with cache := (dA true, TA) :: (dB false, TB) :: st.cache, visited := st.visited ++ [dB false] }) := by
  rw [readObj]
  simp only [h]
  have hdk : dropKey L3 (dA true) = [dB false, dC false] := by decide +kernel
  rw [hdk]
  unfold readBody
  have hg : (dA true).text.garbage = false := rfl
  have hs : (dA true).text.req.stmts = [.ref ⟨"ns.B", 1, 0⟩] := rfl
  have hr : (dA true).text.resp = none := rfl
  simp only [hg, hs, hr]
  have hres : resolve [dB false, dC false] (dA true) ⟨"ns.B", 1, 0⟩ = .ok (dB false) := by decide +kernel
  rw [runStmts_ref_ok hres]
  rw [evalB _ { st with visited := st.visited ++ [dB false] } hB]
  unfold afterRef
  have hsv : TB.info.isService = false := rfl
  simp only [hsv, runStmts]
  have : assemble false (dA true) [none] [TB] none = .ok TA := by decide +kernel
  simp [this]

/-- the book-keeping after the target `A` -/
def bookA : Book :=
  { pool := [((dB false).path, dB false), ((dA true).path, dA true)], direct := [TA], transitive := [TB],
    st := { cache := [(dA true, TA), (dB false, TB)], prints := [], visited := [dB false] } }

theorem level0_A (rest : List Def) : level0 false L3 (dA true :: rest) {} = level0 false L3 rest bookA := by
  rw [level0]
  have hsd : setDefault ({} : Book).pool (dA true) = (dA true, [((dA true).path, dA true)]) := by decide +kernel
  simp only [hsd]
  have hl : List.lookup (dA true) ({} : Book).st.cache = none := rfl
  simp only [hl]
  rw [evalA _ rfl rfl]
  simp only
  have hp : sortDefs (dedupKeys (List.filter (fun x => (List.lookup x.path [((dA true).path, dA true)]).isNone)
      (({} : St).visited ++ [dB false]))) = [dB false] := by
    have : dedupKeys (List.filter (fun x => (List.lookup x.path [((dA true).path, dA true)]).isNone)
      (({} : St).visited ++ [dB false])) = [dB false] := by decide +kernel
    rw [this]; simp [sortDefs]
  rw [hp]
  simp only [level1]
  have hsd2 : setDefault [((dA true).path, dA true)] (dB false) =
      (dB false, [((dB false).path, dB false), ((dA true).path, dA true)]) := by decide +kernel
  simp only [hsd2]
  have hl2 : List.lookup (dB false) ((dA true, TA) :: (dB false, TB) :: ({} : St).cache) = some TB := by decide +kernel
  simp only [hl2]
  have ha : addTy [] TA = [TA] := by decide +kernel
  have hr : removeTy [] TA = [] := rfl
  simp only [ha, hr]
  have hc1 : ([TA].contains TB || ([] : List Ty).contains TB) = false := by decide +kernel
  simp only [hc1]
  have ha2 : addTy [] TB = [TB] := by decide +kernel
  simp only [ha2]
  rfl

/-- `read_files` of `A` with the lookup directory `other`: `direct = [A]`, `transitive = [B]` -/
theorem evalFiles : readFiles fs [eA] [] [["w", "other"]] false = ⟨.ok ([TA], [TB]), []⟩ := by
  rw [readFiles]
  simp only [mapMDefs, mkA]
  have hd : dedupPaths ([["w", "other"]] ++ List.map Def.root [dA true] ++ []) = dirs := by decide +kernel
  rw [hd]
  have hc : dirsCheck dirs true = .ok () := by decide +kernel
  simp only [hc]
  rw [completeRead]
  simp only [collectL]
  have hk : keysDistinct (sortDefs [dA true]) = true := by simp [sortDefs]; decide +kernel
  simp only [hk]
  simp only [sortDefs, List.mergeSort_singleton]
  rw [level0_A]
  simp only [level0, bookA, sortTys, List.mergeSort_singleton]
  have hcc : crossCheck [TA.info] [TB.info, TA.info] = .ok () := by decide +kernel
  simp [hcc]

/-- `read_namespace` of `ns` with the lookup directory `other`: both files, `B` promoted from transitive to direct -/
theorem evalNs : readNamespace fs ["w", "ns"] [["w", "other"]] true false = ⟨.ok ([TA, TB], []), []⟩ := by
  rw [readNamespace]
  have hd : dedupPaths ([["w", "other"]] ++ [["w", "ns"]]) = dirs := by decide +kernel
  simp only [hd]
  have hc : dirsCheck dirs true = .ok () := by decide +kernel
  simp only [hc, collectT]
  rw [completeRead]
  simp only [collectL]
  have hk : keysDistinct [dA true, dB true] = true := by decide +kernel
  simp only [hk]
  rw [level0_A]
  rw [level0]
  have hsd : setDefault bookA.pool (dB true) = (dB false, bookA.pool) := by decide +kernel
  simp only [hsd]
  have hl : List.lookup (dB false) bookA.st.cache = some TB := by decide +kernel
  simp only [hl]
  have h1 : bookA.direct.contains TB = false := by decide +kernel
  have h2 : bookA.transitive.contains TB = true := by decide +kernel
  simp only [h1, h2, Bool.false_eq_true, if_false, if_true]
  simp only [level0]
  have h3 : addTy bookA.direct TB = [TA, TB] := by decide +kernel
  have h4 : removeTy bookA.transitive TB = [] := by decide +kernel
  simp only [h3, h4]
  have h5 : sortTys [TA, TB] = [TA, TB] := by
    unfold sortTys
    exact List.mergeSort_of_pairwise (by decide +kernel)
  have h6 : sortTys [] = [] := by simp [sortTys]
  simp only [h5, h6]
  have hcc : crossCheck [TA.info, TB.info] [TA.info, TB.info] = .ok () := by decide +kernel
  simp [hcc, bookA]

theorem sortTys_swap (a b : Ty) (h1 : keyLe a.key b.key = false) : sortTys [a, b] = [b, a] := by
  unfold sortTys
  rw [List.mergeSort]
  simp [List.MergeSort.Internal.splitInTwo, h1]

/-- the targets in the other order, `B` first: `B` is read as a target, then once more as the lookup object that `A`'s
    reference resolves to (a distinct object, as in the library); the result is the same -/
theorem evalRev : completeRead false fs [dB true, dA true] dirs = ⟨.ok ([TA, TB], []), []⟩ := by
  rw [completeRead]
  simp only [collectL]
  have hk : keysDistinct [dB true, dA true] = true := by decide +kernel
  simp only [hk]
  rw [level0]
  have hsd : setDefault ({} : Book).pool (dB true) = (dB true, [((dB true).path, dB true)]) := by decide +kernel
  simp only [hsd]
  have hl : List.lookup (dB true) ({} : Book).st.cache = none := rfl
  simp only [hl]
  rw [evalB' true _ _ rfl]
  simp only
  have hp : sortDefs (dedupKeys (List.filter (fun x => (List.lookup x.path [((dB true).path, dB true)]).isNone)
      ({} : St).visited)) = [] := by
    have : dedupKeys (List.filter (fun x => (List.lookup x.path [((dB true).path, dB true)]).isNone)
      ({} : St).visited) = [] := by decide +kernel
    rw [this]; simp [sortDefs]
  rw [hp]
  simp only [level1]
  rw [level0]
  have hsd2 : setDefault [((dB true).path, dB true)] (dA true) =
      (dA true, [((dA true).path, dA true), ((dB true).path, dB true)]) := by decide +kernel
  simp only [hsd2]
  have hl2 : List.lookup (dA true) ((dB true, TB) :: ({} : St).cache) = none := by decide +kernel
  simp only [hl2]
  rw [evalA _ (by decide +kernel) (by decide +kernel)]
  simp only
  have ha : addTy [] TB = [TB] := by decide +kernel
  have hr : removeTy [] TB = [] := rfl
  simp only [ha, hr]
  have ha2 : addTy [TB] TA = [TB, TA] := by decide +kernel
  have hr2 : removeTy [] TA = [] := rfl
  simp only [ha2, hr2]
  have hp2 : sortDefs (dedupKeys (List.filter
      (fun x => (List.lookup x.path [((dA true).path, dA true), ((dB true).path, dB true)]).isNone)
      ([] ++ [dB false]))) = [] := by
    have : dedupKeys (List.filter
      (fun x => (List.lookup x.path [((dA true).path, dA true), ((dB true).path, dB true)]).isNone)
      ([] ++ [dB false])) = [] := by decide +kernel
    rw [this]; simp [sortDefs]
  rw [hp2]
  simp only [level1, level0]
  have h5 : sortTys [TB, TA] = [TA, TB] := sortTys_swap TB TA (by decide +kernel)
  have h6 : sortTys [] = [] := by simp [sortTys]
  simp only [h5, h6]
  have hcc : crossCheck [TA.info, TB.info] [TA.info, TB.info] = .ok () := by decide +kernel
  simp [hcc]

theorem evalFwd : completeRead false fs [dA true, dB true] dirs = ⟨.ok ([TA, TB], []), []⟩ := by
  have := evalNs
  unfold readNamespace at this
  have hd : dedupPaths ([["w", "other"]] ++ [["w", "ns"]]) = dirs := by decide +kernel
  have hc : dirsCheck dirs true = .ok () := by decide +kernel
  simp only [hd, hc, collectT] at this
  exact this

theorem hypAB : Hyp L3 ([dA true, dB true] ++ [dB true, dA true]) := by
  apply hyp_of_files (files := fs) (dirs := dirs) (ac := true) distinct (by decide +kernel)
  intro x hx
  have : x = dA false ∨ x = dB false ∨ x = dC false ∨ x = dA true ∨ x = dB true := by
    rcases hx with hx | hx
    · simp only [L3, List.mem_cons, List.not_mem_nil, or_false] at hx
      rcases hx with h | h | h <;> simp [h]
    · simp only [List.cons_append, List.nil_append, List.mem_cons, List.not_mem_nil, or_false] at hx
      rcases hx with h | h | h | h <;> simp [h]
  rcases this with rfl | rfl | rfl | rfl | rfl
  · exact ⟨eA, by decide +kernel, false, by decide +kernel, mkA false⟩
  · exact ⟨eB, by decide +kernel, false, by decide +kernel, mkB false⟩
  · exact ⟨eC, by decide +kernel, false, by decide +kernel, mkC false⟩
  · exact ⟨eA, by decide +kernel, true, by decide +kernel, mkA true⟩
  · exact ⟨eB, by decide +kernel, true, by decide +kernel, mkB true⟩

/-- the dependency closure of targets among `A`, `B` stays within `{A, B}` -/
theorem closureAB {ts : List Def} (hts : ∀ t ∈ ts, t = dA true ∨ t = dB true) {d : Def} (h : DepClosure L3 ts d) :
    d = dA true ∨ d = dB true ∨ d = dB false := by
  induction h with
  | target h => rcases hts _ h with e | e
                · exact Or.inl e
                · exact Or.inr (Or.inl e)
  | @dep d x r _ hg hr hx hk ih =>
    rcases ih with rfl | rfl | rfl
    · have hr' : r = ⟨"ns.B", 1, 0⟩ := by
        have : (dA true).text.refs = [⟨"ns.B", 1, 0⟩] := by decide +kernel
        rw [this] at hr; simpa using hr
      subst hr'
      have hck : (completeName (dA true) "ns.B", 1, 0) = (("ns.B", 1, 0) : Key) := by decide +kernel
      rw [show (Ref.mk "ns.B" 1 0).name = "ns.B" from rfl, show (Ref.mk "ns.B" 1 0).major = 1 from rfl,
        show (Ref.mk "ns.B" 1 0).minor = 0 from rfl, hck] at hk
      simp only [L3, List.mem_cons, List.not_mem_nil, or_false] at hx
      rcases hx with rfl | rfl | rfl
      · exact absurd hk (by decide +kernel)
      · exact Or.inr (Or.inr rfl)
      · exact absurd hk (by decide +kernel)
    · have : (dB true).text.refs = [] := by decide +kernel
      rw [this] at hr; cases hr
    · have : (dB false).text.refs = [] := by decide +kernel
      rw [this] at hr; cases hr

/-- replace the text of `other/C.1.0` by garbage -/
def garbleC (p : Path) (t : Text) : Text := if p = ["w", "other", "C.1.0.dsdl"] then G else t

theorem garbleC_changes : fs.map (retextE garbleC) ≠ fs := by decide +kernel

theorem garbleC_outside {ts : List Def} (hts : ∀ t ∈ ts, t = dA true ∨ t = dB true) {d : Def} (h : DepClosure L3 ts d) :
    garbleC d.path d.text = d.text := by
  rcases closureAB hts h with rfl | rfl | rfl <;> decide +kernel

/-- `B` replaced by garbage: reading `A` fails in the dependency -/
def dBg : Def := { dB false with text := G }

theorem evalErr : (readObj false [dBg] (dA true) {}).1 = .error .localInvalid := by
  rw [readObj]
  have hl : List.lookup (dA true) ({} : St).cache = none := rfl
  simp only [hl]
  have hdk : dropKey [dBg] (dA true) = [dBg] := by decide +kernel
  rw [hdk]
  unfold readBody
  have hg : (dA true).text.garbage = false := rfl
  have hs : (dA true).text.req.stmts = [.ref ⟨"ns.B", 1, 0⟩] := rfl
  simp only [hg, hs]
  have hres : resolve [dBg] (dA true) ⟨"ns.B", 1, 0⟩ = .ok dBg := by decide +kernel
  rw [runStmts_ref_ok hres]
  have hin : ∀ st : St, st.cache = [] → readObj false [dBg] dBg st = (.error .localInvalid, st) := by
    intro st hc
    rw [readObj]
    have : List.lookup dBg st.cache = none := by rw [hc]; rfl
    simp only [this]
    unfold readBody
    have hg' : dBg.text.garbage = true := rfl
    simp [hg']
  rw [hin _ rfl]
  simp [afterRef]

end Ns.Example
