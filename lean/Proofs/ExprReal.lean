import Proofs.ExprLit
import Mathlib.Algebra.Field.Rat
import Mathlib.Algebra.Order.Field.Power
/-! Real literals as written (point notation and exponent notation, digit separators, either case of the exponent
    letter, optional exponent sign) denote mantissa × 10^exponent exactly. -/
namespace Ex

/-- the digit characters of a written digit string, separators removed -/
abbrev digitChars (ws : List DigitW) : List Char := ws.map (fun w => digitChar w.d w.upper)

/-- a decimal digit character is none of the other characters a real literal is made of -/
theorem digitChar_real (d : Nat) (u : Bool) (h : d < 10) :
    digitChar d u ≠ '.' ∧ digitChar d u ≠ 'e' ∧ digitChar d u ≠ 'E' ∧ digitChar d u ≠ '+' ∧ digitChar d u ≠ '-' := by
  revert u; revert d; decide +kernel

/-- the exponent-letter test of `decodeReal` -/
abbrev isExpChar : Char → Bool := fun c => c == 'e' || c == 'E'
/-- the decimal-point test of `decodeReal` -/
abbrev isDotChar : Char → Bool := fun c => c == '.'

theorem splitAt1_none (p : Char → Bool) (xs : List Char) (h : ∀ x ∈ xs, p x = false) :
    splitAt1 p xs = (xs, none) := by
  induction xs with
  | nil => rfl
  | cons x xs ih =>
    have hx : p x = false := h x (by simp)
    have ih' := ih (fun y hy => h y (by simp [hy]))
    simp only [splitAt1, hx, Bool.false_eq_true, ↓reduceIte, ih']

theorem splitAt1_some (p : Char → Bool) (xs : List Char) (c : Char) (ys : List Char)
    (h : ∀ x ∈ xs, p x = false) (hc : p c = true) :
    splitAt1 p (xs ++ c :: ys) = (xs, some ys) := by
  induction xs with
  | nil => simp only [List.nil_append, splitAt1, hc, ↓reduceIte]
  | cons x xs ih =>
    have hx : p x = false := h x (by simp)
    have ih' := ih (fun y hy => h y (by simp [hy]))
    simp only [List.cons_append, splitAt1, hx, Bool.false_eq_true, ↓reduceIte, ih']

theorem digitChars_not_exp (ws : List DigitW) (h : ∀ w ∈ ws, w.d < 10) : ∀ c ∈ digitChars ws, isExpChar c = false := by
  intro c hc
  obtain ⟨w, hw, rfl⟩ := List.mem_map.1 hc
  obtain ⟨_, h2, h3, _, _⟩ := digitChar_real w.d w.upper (h w hw)
  simp [isExpChar, h2, h3]

theorem digitChars_not_dot (ws : List DigitW) (h : ∀ w ∈ ws, w.d < 10) : ∀ c ∈ digitChars ws, isDotChar c = false := by
  intro c hc
  obtain ⟨w, hw, rfl⟩ := List.mem_map.1 hc
  obtain ⟨h1, _⟩ := digitChar_real w.d w.upper (h w hw)
  simp [isDotChar, h1]

theorem stripUnderscores_append (xs ys : List Char) :
    stripUnderscores (xs ++ ys) = stripUnderscores xs ++ stripUnderscores ys := by
  simp only [stripUnderscores, List.filter_append]

theorem stripUnderscores_cons_ne (c : Char) (xs : List Char) (h : c ≠ '_') :
    stripUnderscores (c :: xs) = c :: stripUnderscores xs := by
  have : (c != '_') = true := by simp [h]
  simp only [stripUnderscores, List.filter_cons, this, ↓reduceIte]

theorem strip_writeDigits10 (ws : List DigitW) (h : ∀ w ∈ ws, w.d < 10) :
    stripUnderscores (writeDigits ws) = digitChars ws :=
  strip_writeDigits ws (fun w hw => by have := h w hw; omega)

/-- `decodeReal` once the two splits of the separator-free text are known -/
theorem decodeReal_of_splits (cs mant ipc : List Char) (ex fpo : Option (List Char))
    (h1 : splitAt1 isExpChar (stripUnderscores cs) = (mant, ex))
    (h2 : splitAt1 isDotChar mant = (ipc, fpo)) :
    decodeReal cs =
      if (ipc ++ fpo.getD []).length > pyIntMaxDigits then .error (.hazard .intDigitLimit) else
      match digitsVal 10 (ipc ++ fpo.getD []) with
      | none => inval .syntax
      | some m =>
        match (generalizing := false) ex with
        | none => .ok ((m : Rat) / pow10 (fpo.getD []).length)
        | some ('-' :: ed) => (optSyntax (digitsVal 10 ed)).map fun e => (m : Rat) / pow10 (fpo.getD []).length / pow10 e
        | some ('+' :: ed) => (optSyntax (digitsVal 10 ed)).map fun e => (m : Rat) / pow10 (fpo.getD []).length * pow10 e
        | some ed => (optSyntax (digitsVal 10 ed)).map fun e => (m : Rat) / pow10 (fpo.getD []).length * pow10 e := by
  unfold decodeReal
  simp only [h1, h2]
  rfl

/-- the mantissa digits of a literal, integer part then fraction part, evaluate to the numeral they spell -/
theorem mantissa_val (ip fp : List DigitW) (hne : ip ≠ [] ∨ fp ≠ [])
    (hi : ∀ w ∈ ip, w.d < 10) (hf : ∀ w ∈ fp, w.d < 10) :
    digitsVal 10 (digitChars ip ++ digitChars fp) = some (numeral 10 ((ip ++ fp).map (·.d))) := by
  have hne' : ip ++ fp ≠ [] := by
    intro h
    rcases List.append_eq_nil_iff.1 h with ⟨h1, h2⟩
    rcases hne with h | h <;> contradiction
  have hall : ∀ w ∈ ip ++ fp, w.d < 10 := by
    intro w hw
    rcases List.mem_append.1 hw with h | h
    · exact hi w h
    · exact hf w h
  have := digitsVal_written 10 (ip ++ fp) hne' hall (by decide)
  simpa only [digitChars, List.map_append] using this

/-- The separator-free mantissa `digits? ("." digits?)?` holds no exponent letter, and splitting it at the point gives
    the digits of the integer part and those of the fraction part. -/
theorem mantissa_splits (ip fp : List DigitW) (dot : Bool) (hdot : dot = false → fp = [])
    (hi : ∀ w ∈ ip, w.d < 10) (hf : ∀ w ∈ fp, w.d < 10) :
    ∃ m fpo, stripUnderscores (writeDigits ip ++ (if dot then '.' :: writeDigits fp else [])) = m ∧
      (∀ c ∈ m, isExpChar c = false) ∧ splitAt1 isDotChar m = (digitChars ip, fpo) ∧ fpo.getD [] = digitChars fp := by
  cases dot with
  | false =>
    refine ⟨digitChars ip, none, ?_, digitChars_not_exp ip hi, splitAt1_none _ _ (digitChars_not_dot ip hi), ?_⟩
    · rw [if_neg (by decide), List.append_nil, strip_writeDigits10 ip hi]
    · rw [hdot rfl]; rfl
  | true =>
    refine ⟨digitChars ip ++ '.' :: digitChars fp, some (digitChars fp), ?_, fun c hc => ?_,
      splitAt1_some _ _ _ _ (digitChars_not_dot ip hi) (by decide), rfl⟩
    · rw [if_pos rfl, stripUnderscores_append, stripUnderscores_cons_ne _ _ (by decide), strip_writeDigits10 ip hi,
        strip_writeDigits10 fp hf]
    · rcases List.mem_append.1 hc with h | h
      · exact digitChars_not_exp ip hi c h
      · rcases List.mem_cons.1 h with rfl | h
        · decide
        · exact digitChars_not_exp fp hf c h

/-- point notation `digits? "." digits` / `digits "."` (at most `pyIntMaxDigits` digits in all): the digits of the
    integer and fraction parts read as one decimal numeral, divided by ten to the number of fraction digits -/
theorem decodeReal_point (ip fp : List DigitW) (hne : ip ≠ [] ∨ fp ≠ [])
    (hi : ∀ w ∈ ip, w.d < 10) (hf : ∀ w ∈ fp, w.d < 10)
    (hlen : ip.length + fp.length ≤ pyIntMaxDigits) :
    decodeReal (writeDigits ip ++ '.' :: writeDigits fp)
      = .ok ((numeral 10 ((ip ++ fp).map (·.d)) : Nat) / ((10 ^ fp.length : Nat) : Rat)) := by
  obtain ⟨m, fpo, hm, hmexp, h2, hfpo⟩ := mantissa_splits ip fp true (fun h => nomatch h) hi hf
  have hm : stripUnderscores (writeDigits ip ++ '.' :: writeDigits fp) = m := hm
  have h1 : splitAt1 isExpChar (stripUnderscores (writeDigits ip ++ '.' :: writeDigits fp)) = (m, none) := by
    rw [hm]; exact splitAt1_none _ _ hmexp
  rw [decodeReal_of_splits _ _ _ _ _ h1 h2, hfpo]
  have hl : ¬ ((digitChars ip ++ digitChars fp).length > pyIntMaxDigits) := by
    simp only [digitChars, List.length_append, List.length_map]; omega
  simp only [hl, ↓reduceIte, mantissa_val ip fp hne hi hf, pow10, digitChars, List.length_map]

example : decodeReal "1.5".toList = .ok (3/2) := by decide +kernel
example : decodeReal "1.".toList = .ok 1 := by decide +kernel
example : decodeReal ".5".toList = .ok (1/2) := by decide +kernel
example : decodeReal "1_0.2_5".toList = .ok (41/4) := by decide +kernel
/-- the theorem's hypotheses are satisfiable and its left-hand side is a literal of the grammar: `1_0.2_5` -/
example : decodeReal "1_0.2_5".toList = .ok ((1025 : Nat) / ((10 ^ 2 : Nat) : Rat)) :=
  decodeReal_point [⟨1, false, false⟩, ⟨0, true, false⟩] [⟨2, false, false⟩, ⟨5, true, false⟩]
    (by decide) (by decide) (by decide) (by decide)

/-- the characters of the optional exponent sign: none, `+` (`some false`), `-` (`some true`) -/
def signChars : Option Bool → List Char
  | none => []
  | some false => ['+']
  | some true => ['-']

/-- the text of an exponent-notation literal: `digits? ("." digits?)? [eE] [+-]? digits` -/
def writeExpReal (ip fp : List DigitW) (dot : Bool) (E : Char) (sign : Option Bool) (ed : List DigitW) : List Char :=
  writeDigits ip ++ (if dot then '.' :: writeDigits fp else []) ++ E :: signChars sign ++ writeDigits ed

theorem exponent_val (ed : List DigitW) (hne : ed ≠ []) (he : ∀ w ∈ ed, w.d < 10) :
    digitsVal 10 (digitChars ed) = some (numeral 10 (ed.map (·.d))) :=
  digitsVal_written 10 ed hne he (by decide)

/-- exponent notation `(point notation | digits) [eE] [+-]? digits` (at most `pyIntMaxDigits` mantissa digits):
    mantissa times (no sign or `+`) or divided by (`-`) ten to the exponent numeral, exactly -/
theorem decodeReal_exp (ip fp : List DigitW) (dot : Bool) (E : Char) (sign : Option Bool) (ed : List DigitW)
    (hE : E = 'e' ∨ E = 'E')
    (hne : ip ≠ [] ∨ (dot = true ∧ fp ≠ []))
    (hdot : dot = false → fp = [])
    (hed : ed ≠ [])
    (hi : ∀ w ∈ ip, w.d < 10) (hf : ∀ w ∈ fp, w.d < 10) (he : ∀ w ∈ ed, w.d < 10)
    (hlen : ip.length + fp.length ≤ pyIntMaxDigits) :
    decodeReal (writeDigits ip ++ (if dot then '.' :: writeDigits fp else []) ++ E :: signChars sign ++ writeDigits ed)
      = .ok (if sign = some true
          then (numeral 10 ((ip ++ fp).map (·.d)) : Nat) / ((10 ^ fp.length : Nat) : Rat)
                / ((10 ^ numeral 10 (ed.map (·.d)) : Nat) : Rat)
          else (numeral 10 ((ip ++ fp).map (·.d)) : Nat) / ((10 ^ fp.length : Nat) : Rat)
                * ((10 ^ numeral 10 (ed.map (·.d)) : Nat) : Rat)) := by
  obtain ⟨m, fpo, hm, hmexp, h2, hfpo⟩ := mantissa_splits ip fp dot hdot hi hf
  -- the separator-free text, split at the exponent letter
  have hsign : stripUnderscores (signChars sign) = signChars sign := by
    rcases sign with _ | _ | _ <;> decide
  have h1 : splitAt1 isExpChar (stripUnderscores (writeDigits ip ++ (if dot then '.' :: writeDigits fp else []) ++ E :: signChars sign
        ++ writeDigits ed)) = (m, some (signChars sign ++ digitChars ed)) := by
    rw [List.append_assoc, stripUnderscores_append, hm, List.cons_append, stripUnderscores_cons_ne _ _ (by rcases hE with rfl | rfl <;> decide),
      stripUnderscores_append, hsign, strip_writeDigits10 ed he]
    exact splitAt1_some isExpChar _ E _ hmexp (by rcases hE with rfl | rfl <;> decide)
  have hne' : ip ≠ [] ∨ fp ≠ [] := hne.imp id And.right
  rw [decodeReal_of_splits _ _ _ _ _ h1 h2, hfpo]
  have hl : ¬ ((digitChars ip ++ digitChars fp).length > pyIntMaxDigits) := by
    simp only [digitChars, List.length_append, List.length_map]; omega
  simp only [hl, ↓reduceIte, mantissa_val ip fp hne' hi hf]
  have hev := exponent_val ed hed he
  rcases sign with _ | _ | _
  · -- no sign: the first exponent digit is neither '-' nor '+'
    cases ed with
    | nil => exact absurd rfl hed
    | cons w ws =>
      obtain ⟨_, _, _, hp, hm⟩ := digitChar_real w.d w.upper (he w (by simp))
      simp only [signChars, List.nil_append, digitChars, List.map_cons] at hev ⊢
      split
      · rename_i heq; simp at heq
      · rename_i heq; simp only [Option.some.injEq, List.cons.injEq] at heq; exact absurd heq.1 hm
      · rename_i heq; simp only [Option.some.injEq, List.cons.injEq] at heq; exact absurd heq.1 hp
      · rename_i heq
        simp only [Option.some.injEq] at heq
        subst heq
        simp [hev, optSyntax, Except.map, pow10]
  · simp [signChars, hev, optSyntax, Except.map, pow10]
  · simp [signChars, hev, optSyntax, Except.map, pow10]

example : decodeReal ".5e-3".toList = .ok (1/2000) := by decide +kernel
example : decodeReal "1e10".toList = .ok 10000000000 := by decide +kernel
example : decodeReal "1.e+1".toList = .ok 10 := by decide +kernel
example : decodeReal "1_0.2_5E+0_3".toList = .ok 10250 := by decide +kernel
/-- the theorem's hypotheses are satisfiable and its left-hand side is a literal of the grammar: `1_0.2_5E+0_3` -/
example : decodeReal "1_0.2_5E+0_3".toList
    = .ok ((1025 : Nat) / ((10 ^ 2 : Nat) : Rat) * ((10 ^ 3 : Nat) : Rat)) :=
  decodeReal_exp [⟨1, false, false⟩, ⟨0, true, false⟩] [⟨2, false, false⟩, ⟨5, true, false⟩] true 'E' (some false)
    [⟨0, false, false⟩, ⟨3, true, false⟩]
    (by decide) (by decide) (by decide) (by decide) (by decide) (by decide) (by decide) (by decide)
/-- `.5e-3` -/
example : decodeReal ".5e-3".toList = .ok ((5 : Nat) / ((10 ^ 1 : Nat) : Rat) / ((10 ^ 3 : Nat) : Rat)) :=
  decodeReal_exp [] [⟨5, false, false⟩] true 'e' (some true) [⟨3, false, false⟩]
    (by decide) (by decide) (by decide) (by decide) (by decide) (by decide) (by decide) (by decide)
/-- `1e10` -/
example : decodeReal "1e10".toList = .ok ((1 : Nat) / ((10 ^ 0 : Nat) : Rat) * ((10 ^ 10 : Nat) : Rat)) :=
  decodeReal_exp [⟨1, false, false⟩] [] false 'e' none [⟨1, false, false⟩, ⟨0, false, false⟩]
    (by decide) (by decide) (by decide) (by decide) (by decide) (by decide) (by decide) (by decide)

/-- the same value in scientific form: mantissa × 10^(±exponent − number of fraction digits), an integer power of ten -/
theorem decodeReal_exp_zpow (ip fp : List DigitW) (dot : Bool) (E : Char) (sign : Option Bool) (ed : List DigitW)
    (hE : E = 'e' ∨ E = 'E')
    (hne : ip ≠ [] ∨ (dot = true ∧ fp ≠ []))
    (hdot : dot = false → fp = [])
    (hed : ed ≠ [])
    (hi : ∀ w ∈ ip, w.d < 10) (hf : ∀ w ∈ fp, w.d < 10) (he : ∀ w ∈ ed, w.d < 10)
    (hlen : ip.length + fp.length ≤ pyIntMaxDigits) :
    decodeReal (writeDigits ip ++ (if dot then '.' :: writeDigits fp else []) ++ E :: signChars sign ++ writeDigits ed)
      = .ok ((numeral 10 ((ip ++ fp).map (·.d)) : Rat)
          * (10 : Rat) ^ ((if sign = some true then - (numeral 10 (ed.map (·.d)) : Int) else (numeral 10 (ed.map (·.d)) : Int))
                - (fp.length : Int))) := by
  rw [decodeReal_exp ip fp dot E sign ed hE hne hdot hed hi hf he hlen]
  congr 1
  have h10 : (10 : Rat) ≠ 0 := by norm_num
  split
  · rw [sub_eq_add_neg, zpow_add₀ h10, zpow_neg, zpow_neg, zpow_natCast, zpow_natCast]
    push_cast
    rw [div_eq_mul_inv, div_eq_mul_inv, mul_assoc, mul_comm ((10:Rat) ^ fp.length)⁻¹]
  · rw [sub_eq_add_neg, zpow_add₀ h10, zpow_neg, zpow_natCast, zpow_natCast]
    push_cast
    rw [div_eq_mul_inv, mul_assoc, mul_comm ((10:Rat) ^ fp.length)⁻¹]

/-- point notation in the same form -/
theorem decodeReal_point_zpow (ip fp : List DigitW) (hne : ip ≠ [] ∨ fp ≠ [])
    (hi : ∀ w ∈ ip, w.d < 10) (hf : ∀ w ∈ fp, w.d < 10)
    (hlen : ip.length + fp.length ≤ pyIntMaxDigits) :
    decodeReal (writeDigits ip ++ '.' :: writeDigits fp)
      = .ok ((numeral 10 ((ip ++ fp).map (·.d)) : Rat) * (10 : Rat) ^ (- (fp.length : Int))) := by
  rw [decodeReal_point ip fp hne hi hf hlen]
  congr 1
  rw [zpow_neg, zpow_natCast]
  push_cast
  rw [div_eq_mul_inv]

end Ex
