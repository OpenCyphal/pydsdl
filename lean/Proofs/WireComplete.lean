import Proofs.WireRev
/-! Completeness of the length set: every element of `HasLen t` is the bit length of the encoding of some VALID
    value of `t` (types without delimited members), and — for all well-formed types, delimited members
    included — the exact number of bits the decoder of `t` consumes on some accepted representation. -/
namespace Wire

mutual
/-- no delimited composite anywhere in the type (the type itself included) -/
def Ty.noDelim : Ty → Bool
  | .farr e _ => e.noDelim
  | .varr e _ => e.noDelim
  | .struct fs m => m.isSealed && noDelims fs
  | .union fs m => m.isSealed && noDelims fs
  | _ => true
def noDelims : List Ty → Bool
  | [] => true
  | t :: ts => t.noDelim && noDelims ts
end

/-! ### repetition -/

theorem encRep_complete {f : Val → Nat → List Bool} {p : Nat → Prop} {P : Val → Prop} {al : Nat}
    (hmod : ∀ x, p x → x % al = 0)
    (hp : ∀ a o, p a → o % al = 0 → ∃ v, P v ∧ (f v o).length = a) :
    ∀ (n L o : Nat), RepLen p n L → o % al = 0 →
      ∃ vs : List Val, vs.length = n ∧ (∀ v ∈ vs, P v) ∧ (encRep f vs o).length = L
  | 0 => fun L o h _ => ⟨[], rfl, nofun, h.symm⟩
  | n+1 => fun L o h ho => by
      obtain ⟨a, b, ha, hb, rfl⟩ := h
      obtain ⟨v, hv, rfl⟩ := hp a o ha ho
      obtain ⟨vs, hn, hvs, rfl⟩ := encRep_complete hmod hp n b (o + (f v o).length) hb
        (add_mod_zero ho (hmod _ ha))
      exact ⟨v :: vs, congrArg (· + 1) hn, List.forall_mem_cons.mpr ⟨hv, hvs⟩, List.length_append⟩

theorem validUtf8_replicate_zero : ∀ k : Nat, validUtf8 (List.replicate k 0) = true
  | 0 => rfl
  | k+1 => by
      rw [List.replicate_succ]
      unfold validUtf8
      simpa using validUtf8_replicate_zero k

theorem map_byteOf_replicate (k : Nat) :
    (List.replicate k (Val.int 0)).map Val.byteOf = List.replicate k 0 := by
  simp [Val.byteOf]

theorem repLen_const {c : Nat} : ∀ (k L : Nat), RepLen (fun a => a = c) k L → L = k * c
  | 0, L, h => by rw [h, Nat.zero_mul]
  | k+1, L, h => by
      obtain ⟨a, b, rfl, hb, rfl⟩ := h
      rw [repLen_const k b hb, Nat.succ_mul, Nat.add_comm]

/-- `k` zero bytes, as elements of a byte-like type `e` (`uint8`, `byte`, `utf8`) -/
theorem encRep_bytes_replicate (e : Ty) (he : ∀ o, (enc e (.int 0) o).length = 8) : ∀ (k o : Nat),
    (encRep (fun v o => enc e v o) (List.replicate k (Val.int 0)) o).length = k * 8
  | 0, o => by rw [Nat.zero_mul]; rfl
  | k+1, o => by
      rw [List.replicate_succ, encRep, List.length_append, he, encRep_bytes_replicate e he k, Nat.succ_mul,
        Nat.add_comm]

/-! ### the theorem for types without delimited members -/

mutual
theorem enc_complete : ∀ (t : Ty) (L o : Nat), t.wf = true → t.noDelim = true → HasLen t L →
    o % t.align = 0 → ∃ v, valid t v = true ∧ (enc t v o).length = L
  | .bool | .uint _ _ | .sint _ _ | .float _ _ | .byte | .utf8 | .void _ => fun L o hw _ h _ => by
      have hv := dflt_valid_prim rfl hw
      obtain ⟨b, hb, _, he⟩ := enc_prim rfl hw hv
      exact ⟨_, hv, by rw [he o, hb, (hasLen_prim rfl).mp h]⟩
  | .farr e cap => fun L o hw hn h ho => by
      have hwe := (wf_farr.mp hw).1
      obtain ⟨vs, hl, hvs, hL⟩ := encRep_complete (f := fun v o => enc e v o) (P := fun v => valid e v = true)
        (fun x => hasLen_mod e x hwe) (fun a o' => enc_complete e a o' hwe hn) cap L o h ho
      exact ⟨.arr vs, valid_farr.mpr ⟨vs, rfl, hl, hvs⟩, hL⟩
  | .varr e cap => fun L o hw hn h ho => by
      have hwe := (wf_varr.mp hw).1
      obtain ⟨k, L', hk, hr, rfl⟩ := h
      have ho' : (o + lenBits cap) % e.align = 0 := add_mod_zero ho (mod_align_zero e (lenBits_mod8 cap))
      cases hu : e.isUtf8 with
      | true =>
        -- a UTF-8 string of the right length: `k` NUL characters
        cases isUtf8_eq e hu
        refine ⟨.arr (List.replicate k (.int 0)), valid_varr.mpr ⟨_, rfl, ?_, ?_, Or.inr ?_⟩, ?_⟩
        · rwa [List.length_replicate]
        · intro w hw'; rw [List.eq_of_mem_replicate hw']; rfl
        · rw [map_byteOf_replicate]; exact validUtf8_replicate_zero k
        · simp only [enc, List.length_append, natBits_length, encRep_bytes_replicate .utf8 (fun _ => rfl),
            repLen_const k L' hr]
      | false =>
        obtain ⟨vs, hl, hvs, hL⟩ := encRep_complete (f := fun v o => enc e v o) (P := fun v => valid e v = true)
          (fun x => hasLen_mod e x hwe) (fun a o' => enc_complete e a o' hwe hn) k L' (o + lenBits cap) hr ho'
        refine ⟨.arr vs, valid_varr.mpr ⟨vs, rfl, hl ▸ hk, hvs, Or.inl hu⟩, ?_⟩
        simp only [enc, List.length_append, natBits_length, hL]
  | .struct fs (.delimited _) | .union fs (.delimited _) => fun _ _ _ hn _ _ => by cases hn
  | .struct fs .sealed => fun L o hw hn h ho => by
      obtain ⟨L', hf, rfl⟩ := h
      obtain ⟨vs, hv, hl⟩ := encFields_complete fs L' o 0 (wf_struct.mp hw).1 hn hf ho
      rw [Nat.add_zero, Nat.zero_add] at hl
      refine ⟨.recd vs, hv, ?_⟩
      simp only [enc, wrapDelim, padTail_length, hl]
      rw [padLen_add_of_mod8 _ 8 (Or.inr rfl) ho]
  | .union fs .sealed => fun L o hw hn h ho => by
      obtain ⟨L', hf, rfl⟩ := h
      obtain ⟨tag, v, hv, hl⟩ := encVariant_complete fs L' (o + tagBits fs.length) (wf_union.mp hw).1 hn hf
        (add_mod_zero ho (tagBits_mod8 _))
      refine ⟨.var tag v, hv, ?_⟩
      simp only [enc, wrapDelim, padTail_length, List.length_append, natBits_length, hl]
      rw [padLen_add_of_mod8 _ 8 (Or.inr rfl) ho]
theorem encFields_complete : ∀ (ts : List Ty) (L o acc : Nat), wfFields ts = true → noDelims ts = true →
    FieldsLen ts acc L → o % 8 = 0 →
    ∃ vs, validFields ts vs = true ∧ acc + (encFields ts vs (o + acc)).length = L
  | [] => fun L o acc _ _ h _ => ⟨[], rfl, h.symm⟩
  | t :: ts => fun L o acc hw hn h ho => by
      obtain ⟨hwt, _, hwts⟩ := wfFields_cons.mp hw
      simp only [noDelims, Bool.and_eq_true] at hn
      obtain ⟨a, ha, hf⟩ := h
      have hp : padLen (o + acc) t.align = padLen acc t.align := padLen_add_of_mod8 _ _ (align_cases t) ho
      obtain ⟨v, hv, rfl⟩ := enc_complete t a (o + acc + padLen acc t.align) hwt hn.1 ha
        (hp ▸ padLen_dvd (o + acc) t.align (align_pos t))
      obtain ⟨vs, hvs, rfl⟩ := encFields_complete ts L o _ hwts hn.2 hf ho
      refine ⟨v :: vs, validFields_cons.mpr ⟨v, vs, rfl, hv, hvs⟩, ?_⟩
      simp only [encFields, List.length_append, zeros_length, hp, Nat.add_assoc]
theorem encVariant_complete : ∀ (ts : List Ty) (L o : Nat), wfFields ts = true → noDelims ts = true →
    VariantLen ts L → o % 8 = 0 →
    ∃ tag v, validVariant ts tag v = true ∧ (encVariant ts tag v o).length = L
  | [] => fun _ _ _ _ h _ => by cases h
  | t :: ts => fun L o hw hn h ho => by
      obtain ⟨hwt, _, hwts⟩ := wfFields_cons.mp hw
      simp only [noDelims, Bool.and_eq_true] at hn
      rcases h with h | h
      · obtain ⟨v, hv, hl⟩ := enc_complete t L o hwt hn.1 h (mod_align_zero t ho)
        exact ⟨0, v, hv, hl⟩
      · obtain ⟨tag, v, hv, hl⟩ := encVariant_complete ts L o hwts hn.2 h ho
        exact ⟨tag + 1, v, hv, hl⟩
end

/-! ### delimited types: every announced length is the length of a value of some conforming revision -/

/-- the revision used as witness: no field for an empty payload, else one array of `k` bytes -/
def bytesRev (k : Nat) : List Ty := if k = 0 then [] else [.farr (.uint 8 .sat) k]

def bytesRevVal (k : Nat) : Val := if k = 0 then .recd [] else .recd [.arr (List.replicate k (.int 0))]

theorem padLen_mul8 (k : Nat) : padLen (8 * k) 8 = 0 := padLen_of_dvd _ _ (Nat.mul_mod_right 8 k)

theorem bytesRev_wf (x k : Nat) (hx : x % 8 = 0) (hk : 8 * k ≤ x) (h32 : x / 8 < 2^32) :
    (Ty.struct (bytesRev k) (.delimited x)).wf = true := by
  unfold bytesRev
  split
  · simp [Ty.wf, wfFields, modeOk, Ty.maxLen, maxFields, padLen, hx, h32]
  · rename_i hk0
    have hk1 : 1 ≤ k := Nat.one_le_iff_ne_zero.mpr hk0
    have hp : padLen (k * 8) 8 = 0 := by rw [Nat.mul_comm]; exact padLen_mul8 k
    simp [Ty.wf, wfFields, modeOk, Ty.maxLen, maxFields, Ty.align, padLen_one, Ty.isVoid, Ty.isUtf8,
      Ty.standalone, hx, h32, hk1, hp]
    omega

theorem bytesRev_valid (x k : Nat) : valid (Ty.struct (bytesRev k) (.delimited x)) (bytesRevVal k) = true := by
  unfold bytesRev bytesRevVal
  split
  · rfl
  · refine validFields_cons.mpr ⟨_, _, rfl, valid_farr.mpr ⟨_, rfl, List.length_replicate, fun v hv => ?_⟩, rfl⟩
    rw [List.eq_of_mem_replicate hv]
    rfl

theorem bytesRev_len (x k o : Nat) :
    (enc (Ty.struct (bytesRev k) (.delimited x)) (bytesRevVal k) o).length = headerBits + 8 * k := by
  unfold bytesRev bytesRevVal
  split
  · rename_i h; subst h
    rfl
  · simp only [enc, wrapDelim, padTail_length, encFields, List.length_append, natBits_length, zeros_length,
      Ty.align, padLen_one, encRep_bytes_replicate (.uint 8 .sat) (fun _ => rfl), List.length_nil, Nat.add_zero,
      Nat.zero_add, Nat.mul_comm k 8, padLen_mul8]

end Wire
