import Proofs.NamespaceBasic
/-! Lemmas for C15: `parseFileName` inverts `renderFileName`, and accepts only names of the required shape. -/
namespace Ns

theorem splitDots_ne_nil (s : List Char) : splitDots s ≠ [] := by
  induction s with
  | nil => simp [splitDots]
  | cons c cs ih =>
    unfold splitDots
    split
    · simp
    · split <;> simp

theorem splitDots_nodot {a : List Char} (h : '.' ∉ a) : splitDots a = [a] := by
  induction a with
  | nil => rfl
  | cons c cs ih =>
    have hc : c ≠ '.' := fun e => h (by simp [e])
    have hcs : '.' ∉ cs := fun e => h (by simp [e])
    simp [splitDots, hc, ih hcs]

theorem splitDots_append {a b : List Char} (h : '.' ∉ a) : splitDots (a ++ '.' :: b) = a :: splitDots b := by
  induction a with
  | nil => simp [splitDots]
  | cons c cs ih =>
    have hc : c ≠ '.' := fun e => h (by simp [e])
    have hcs : '.' ∉ cs := fun e => h (by simp [e])
    simp [splitDots, hc, ih hcs]

/-- `".".join(parts)` -/
def joinChars : List (List Char) → List Char
  | [] => []
  | [a] => a
  | a :: b :: r => a ++ '.' :: joinChars (b :: r)

theorem joinChars_splitDots (s : List Char) : joinChars (splitDots s) = s := by
  induction s with
  | nil => rfl
  | cons c cs ih =>
    unfold splitDots
    split
    · rename_i hc
      subst hc
      cases hsp : splitDots cs with
      | nil => exact absurd hsp (splitDots_ne_nil cs)
      | cons p ps => rw [hsp] at ih; simp [joinChars, ih]
    · split
      · rename_i p ps hsp
        rw [hsp] at ih
        cases ps with
        | nil => simp [joinChars] at ih ⊢; exact ih
        | cons q qs => simp [joinChars] at ih ⊢; exact ih
      · rename_i hsp; exact absurd hsp (splitDots_ne_nil cs)

theorem nodot_of_mem_splitDots {s p : List Char} (h : p ∈ splitDots s) : '.' ∉ p := by
  induction s generalizing p with
  | nil => simp [splitDots] at h; subst h; simp
  | cons c cs ih =>
    unfold splitDots at h
    split at h
    · cases List.mem_cons.mp h with
      | inl e => subst e; simp
      | inr e => exact ih e
    · rename_i hc
      split at h
      · rename_i q qs hsp
        cases List.mem_cons.mp h with
        | inl e =>
          subst e
          have : '.' ∉ q := ih (by rw [hsp]; simp)
          intro hm
          cases List.mem_cons.mp hm with
          | inl e => exact hc e.symm
          | inr e => exact this e
        | inr e => exact ih (by rw [hsp]; simp [e])
      · rename_i hsp; exact absurd hsp (splitDots_ne_nil cs)

theorem isDigits_toDigits (n : Nat) : isDigits (Nat.toDigits 10 n) = true := by
  unfold isDigits
  simp only [Bool.and_eq_true, Bool.not_eq_true', List.isEmpty_eq_false_iff, List.all_eq_true]
  exact ⟨Nat.toDigits_ne_nil, fun c hc => Nat.isDigit_of_mem_toDigits (by decide) (by decide) hc⟩

theorem parseNat_toDigits (n : Nat) : parseNat (Nat.toDigits 10 n) = some n := by
  simp [parseNat, isDigits_toDigits, Nat.ofDigitChars_ten_toDigits]

theorem nodot_of_isDigits {s : List Char} (h : isDigits s = true) : '.' ∉ s := by
  unfold isDigits at h
  simp only [Bool.and_eq_true, List.all_eq_true] at h
  intro hm
  have := h.2 _ hm
  revert this; decide

theorem nodot_toDigits (n : Nat) : '.' ∉ Nat.toDigits 10 n := nodot_of_isDigits (isDigits_toDigits n)

theorem parseNat_isDigits {s : List Char} {n : Nat} (h : parseNat s = some n) :
    isDigits s = true ∧ n = Nat.ofDigitChars 10 s 0 := by
  unfold parseNat at h
  split at h
  · rename_i hd; cases h; exact ⟨hd, rfl⟩
  · cases h

/-- a rejected file name is a `FileNameFormatError` -/
theorem parseFileName_error {s : List Char} {e : Err} (h : parseFileName s = .error e) : e = .fileName := by
  unfold parseFileName at h
  repeat' split at h
  all_goals first | (cases h; rfl) | cases h

end Ns
