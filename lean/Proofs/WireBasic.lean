import Model.Wire
/-! Basic facts about the bit-level helpers of `Model/Wire.lean`. -/
namespace Wire

theorem bind_ok {ε α β} (x : Except ε α) (f : α → Except ε β) (b : β) :
    (x >>= f) = .ok b ↔ ∃ a, x = .ok a ∧ f a = .ok b := by
  cases x <;> simp [bind, Except.bind]

theorem bind_err {ε α β} (x : Except ε α) (f : α → Except ε β) (e : ε) :
    (x >>= f) = .error e ↔ x = .error e ∨ ∃ a, x = .ok a ∧ f a = .error e := by
  cases x <;> simp [bind, Except.bind]

@[simp] theorem zeros_length (n : Nat) : (zeros n).length = n := by simp [zeros]

@[simp] theorem natBits_length (n v : Nat) : (natBits n v).length = n := by
  induction n generalizing v <;> simp [natBits, *]

theorem bitsNat_natBits (n v : Nat) (h : v < 2^n) : bitsNat (natBits n v) = v := by
  induction n generalizing v with
  | zero => cases Nat.lt_one_iff.mp h; rfl
  | succ n ih =>
    have hbit : (if (v % 2 == 1) = true then 1 else 0) = v % 2 := by
      rcases Nat.mod_two_eq_zero_or_one v with h | h <;> rw [h] <;> rfl
    simp only [natBits, bitsNat]
    rw [ih (v/2) (Nat.div_lt_of_lt_mul (Nat.pow_succ' ▸ h)), hbit]
    exact Nat.mod_add_div v 2

theorem bitsNat_lt (bs : List Bool) : bitsNat bs < 2^bs.length := by
  induction bs with
  | nil => simp [bitsNat]
  | cons b bs ih =>
    simp only [bitsNat, List.length_cons, Nat.pow_succ]
    split <;> omega

@[simp] theorem bitsNat_zeros (n : Nat) : bitsNat (zeros n) = 0 := by
  induction n with
  | zero => simp [zeros, bitsNat]
  | succ n ih => simp_all [zeros, List.replicate_succ, bitsNat]

theorem natBits_zero (n : Nat) : natBits n 0 = zeros n := by
  induction n with
  | zero => simp [natBits, zeros]
  | succ n ih => simp_all [natBits, zeros, List.replicate_succ]

@[simp] theorem takeZ_length (n : Nat) (s : List Bool) : (takeZ n s).length = n := by
  induction n generalizing s with
  | zero => simp [takeZ]
  | succ n ih => cases s <;> simp [takeZ, ih]

@[simp] theorem takeZ_nil (n : Nat) : takeZ n [] = zeros n := by
  induction n with
  | zero => simp [takeZ, zeros]
  | succ n ih => simp_all [takeZ, zeros, List.replicate_succ]

/-- reading exactly the bits that are there -/
theorem takeZ_append_left (a b : List Bool) : takeZ a.length (a ++ b) = a := by
  induction a with
  | nil => simp [takeZ]
  | cons x a ih => simp [takeZ, ih]

theorem takeZ_zeros (n k : Nat) : takeZ n (zeros k) = zeros n := by
  induction n generalizing k with
  | zero => simp [takeZ, zeros]
  | succ n ih =>
    cases k with
    | zero => simp [zeros]
    | succ k =>
      have := ih k
      simp only [zeros, List.replicate_succ, takeZ] at this ⊢
      rw [this]

theorem takeZ_ext (n k : Nat) (s : List Bool) : takeZ n (s ++ zeros k) = takeZ n s := by
  induction n generalizing s with
  | zero => simp [takeZ]
  | succ n ih =>
    cases s with
    | nil => simp [takeZ_zeros]
    | cons b s => simp [takeZ, ih]

theorem takeZ_eq_take (n : Nat) (s : List Bool) (h : n ≤ s.length) : takeZ n s = s.take n := by
  induction n generalizing s with
  | zero => simp [takeZ]
  | succ n ih =>
    cases s with
    | nil => simp at h
    | cons b s => simp [takeZ, ih s (by simpa using h)]

theorem shorter_iff (s : List Bool) (n : Nat) : shorter s n = decide (s.length < n) := by
  induction s generalizing n with
  | nil => cases n <;> simp [shorter]
  | cons b s ih => cases n <;> simp [shorter, ih]

theorem padLen_lt (off a : Nat) (h : 0 < a) : padLen off a < a := by
  unfold padLen; exact Nat.mod_lt _ h

theorem padLen_one (off : Nat) : padLen off 1 = 0 := by simp [padLen, Nat.mod_one]

theorem padLen_dvd (off a : Nat) (h : 0 < a) : (off + padLen off a) % a = 0 := by
  have hr := Nat.mod_lt off h
  rw [padLen, Nat.add_mod, Nat.mod_mod]
  by_cases h0 : off % a = 0
  · rw [h0, Nat.sub_zero, Nat.mod_self]
    rfl
  · rw [Nat.mod_eq_of_lt (Nat.sub_lt h (Nat.pos_of_ne_zero h0)), Nat.add_sub_cancel' (Nat.le_of_lt hr), Nat.mod_self]

/-- `off + padLen off a` is the least multiple of `a` from `off` on -/
theorem padLen_least {off a m : Nat} (h : 0 < a) (hm : m % a = 0) (hx : off ≤ m) : off + padLen off a ≤ m := by
  obtain ⟨q, rfl⟩ := Nat.dvd_of_mod_eq_zero hm
  obtain ⟨r, hr⟩ := Nat.dvd_of_mod_eq_zero (padLen_dvd off a h)
  have hp := padLen_lt off a h
  rw [hr]
  refine Nat.mul_le_mul_left a (Nat.le_of_not_lt fun hlt => ?_)
  -- otherwise `a * (q + 1) ≤ a * r = off + padLen off a < a * q + a`
  have := Nat.mul_le_mul_left a hlt
  rw [Nat.mul_succ, ← hr] at this
  omega

theorem roundUp_mono {x y a : Nat} (ha : 0 < a) (h : x ≤ y) : x + padLen x a ≤ y + padLen y a :=
  padLen_least ha (padLen_dvd y a ha) (Nat.le_trans h (Nat.le_add_right _ _))

theorem padLen_of_dvd (off a : Nat) (h : off % a = 0) : padLen off a = 0 := by
  simp [padLen, h]

theorem padLen_mod (off a : Nat) : padLen (off % a) a = padLen off a := by
  simp [padLen]

theorem padLen_congr (off off' a : Nat) (h : off % a = off' % a) : padLen off a = padLen off' a := by
  simp [padLen, h]

/-- alignments are 1 or 8 -/
theorem align_cases : ∀ t : Ty, t.align = 1 ∨ t.align = 8
  | .bool | .uint _ _ | .sint _ _ | .float _ _ | .byte | .utf8 | .void _ => Or.inl rfl
  | .farr e _ | .varr e _ => align_cases e
  | .struct _ _ | .union _ _ => Or.inr rfl

theorem align_pos (t : Ty) : 0 < t.align := by
  rcases align_cases t with h | h <;> rw [h] <;> decide

theorem add_mod_zero {a b m : Nat} (ha : a % m = 0) (hb : b % m = 0) : (a + b) % m = 0 := by
  rw [Nat.add_mod, ha, hb]; rfl

theorem add_mod_congr {a a' m : Nat} (b : Nat) (h : a % m = a' % m) : (a + b) % m = (a' + b) % m := by
  rw [Nat.add_mod, h, ← Nat.add_mod]

theorem mod_align_of_mod8 (t : Ty) {o o' : Nat} (h : o % 8 = o' % 8) : o % t.align = o' % t.align := by
  rcases align_cases t with ha | ha <;> rw [ha]
  · simp [Nat.mod_one]
  · exact h

theorem mod_align_zero (t : Ty) {o : Nat} (h : o % 8 = 0) : o % t.align = 0 := by
  rcases align_cases t with ha | ha <;> rw [ha]
  · simp [Nat.mod_one]
  · exact h

theorem lenBits_cases (cap : Nat) : lenBits cap = 8 ∨ lenBits cap = 16 ∨ lenBits cap = 32 ∨ lenBits cap = 64 := by
  unfold lenBits
  repeat' split
  all_goals simp

theorem lenBits_mod8 (cap : Nat) : lenBits cap % 8 = 0 := by
  unfold lenBits
  repeat' split
  all_goals rfl

theorem le_lenBits (cap : Nat) : 8 ≤ lenBits cap := by
  unfold lenBits
  repeat' split
  all_goals decide

theorem lt_pow_lenBits (cap : Nat) (h : cap < 2^64) : cap < 2^(lenBits cap) := by
  unfold lenBits
  repeat' split
  all_goals assumption

theorem align_le (t : Ty) : t.align ≤ 8 := by
  rcases align_cases t with h | h <;> rw [h] <;> decide

/-- the tag of `n` variants is the length prefix of capacity `n - 1` (`(n-1).bit_length()` in both) -/
theorem tagBits_eq_lenBits (n : Nat) : tagBits n = lenBits (n - 1) := by
  have e : ∀ k, 0 < k → (n - 1 < k ↔ n ≤ k) := fun k _ => by omega
  simp only [tagBits, lenBits, e _ (Nat.two_pow_pos _)]

theorem tagBits_cases (n : Nat) : tagBits n = 8 ∨ tagBits n = 16 ∨ tagBits n = 32 ∨ tagBits n = 64 :=
  tagBits_eq_lenBits n ▸ lenBits_cases (n - 1)

theorem tagBits_mod8 (n : Nat) : tagBits n % 8 = 0 :=
  tagBits_eq_lenBits n ▸ lenBits_mod8 (n - 1)

theorem le_pow_tagBits (n : Nat) (h : n ≤ 2^64) : n ≤ 2^(tagBits n) :=
  tagBits_eq_lenBits n ▸ Nat.le_of_pred_lt (lt_pow_lenBits (n - 1) (by omega))

end Wire
