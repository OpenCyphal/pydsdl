import Model.Reader
/-! The reader model (`Model/Reader.lean`), operation by operation.  Every operation of the builder is a check followed by
    an update of the state and fails only as `raise`: `commitAttr_eq`, `flush_eq`, `resolveRefs_eq`, `handler_eq`.  The visit
    of a statement is a flush followed by the rest of the statement on the flushed state (`visitStmt_eq`), so a successful
    visit, line and text can be spelled out (`visitStmt_ok`, `stepLine_ok`, `readText_ok`).  On top of that: the declarative
    reading `Spec.of` of a statement list with the proof that an accepted text yields it (`readText_mirror`, C03.mirror), and
    the facts about the last line and the line terminator. -/
namespace Reader

theorem bind_ok {ε α β : Type} (x : Except ε α) (f : α → Except ε β) (b : β) :
    (x >>= f) = .ok b ↔ ∃ a, x = .ok a ∧ f a = .ok b := by
  cases x <;> simp [bind, Except.bind]

theorem bind_err {ε α β : Type} (x : Except ε α) (f : α → Except ε β) (e : ε) :
    (x >>= f) = .error e ↔ x = .error e ∨ ∃ a, x = .ok a ∧ f a = .error e := by
  cases x <;> simp [bind, Except.bind]

theorem ok_bind {ε α β : Type} (a : α) (f : α → Except ε β) : (Except.ok a >>= f) = f a := rfl

theorem err_bind {ε α β : Type} (e : ε) (f : α → Except ε β) : ((Except.error e : Except ε α) >>= f) = .error e := rfl

theorem map_ok {ε α β : Type} (x : Except ε α) (f : α → β) (b : β) :
    (x.map f) = .ok b ↔ ∃ a, x = .ok a ∧ f a = b := by
  cases x <;> simp [Except.map]

theorem map_err {ε α β : Type} (x : Except ε α) (f : α → β) (e : ε) :
    (x.map f) = .error e ↔ x = .error e := by
  cases x <;> simp [Except.map]

/-- what holds of the outcome of `x`: `Q` of its result, `R` of its error -/
abbrev Outcome {α : Type} (x : M α) (Q : α → Prop) (R : Err × W → Prop) : Prop :=
  match x with
  | .ok a => Q a
  | .error e => R e

theorem Outcome.bind {α β : Type} {x : M α} {f : α → M β} {Q : α → Prop} {Q' : β → Prop} {R : Err × W → Prop}
    (hx : Outcome x Q R) (hf : ∀ a, x = .ok a → Q a → Outcome (f a) Q' R) : Outcome (x >>= f) Q' R := by
  cases x with
  | ok a => exact hf a rfl hx
  | error e => exact hx

def okPart {α : Type} : M α → Option α
  | .ok a => some a
  | .error _ => none

def errPart {α : Type} : M α → Option (Err × W)
  | .ok _ => none
  | .error e => some e

/-! ### The declarative reading of a statement list (what the source says) -/

/-- what the source says about one schema -/
structure SegSpec where
  fields : List Core
  consts : List Core
  union : Bool
  mode : Option Mode
  deriving Repr, DecidableEq

def SegSpec.empty : SegSpec := ⟨[], [], false, none⟩

structure Spec where
  done : List SegSpec
  cur : SegSpec
  deprecated : Bool
  deriving Repr, DecidableEq

def Spec.init : Spec := ⟨[], SegSpec.empty, false⟩

def SegSpec.addAttr (g : SegSpec) (c : Core) : SegSpec :=
  match c.kind with
  | .const => { g with consts := g.consts ++ [c] }
  | _ => { g with fields := g.fields ++ [c] }

def Spec.stepS (a : Spec) (st : Stmt) : Spec :=
  match st with
  | .attr c => { a with cur := a.cur.addAttr c }
  | .marker => { a with done := a.done ++ [a.cur], cur := SegSpec.empty }
  | .directive name e _ =>
    if name = "union" then { a with cur := { a.cur with union := true } }
    else if name = "deprecated" then { a with deprecated := true }
    else if name = "sealed" then { a with cur := { a.cur with mode := a.cur.mode <|> some .sealed } }
    else if name = "extent" then
      match e with
      | some (.rational n) => { a with cur := { a.cur with mode := a.cur.mode <|> some (.extent n) } }
      | _ => a
    else a

/-- the effect of one line on the declarative reading: attribute statements are appended in source order (fields and
    paddings to one list, constants to the other), `@union` / `@deprecated` / `@sealed` / `@extent n` set the flag,
    `---` starts the next schema; nothing else matters (comments, blank lines, `@print`, `@assert`) -/
def Spec.step (a : Spec) (l : Line) : Spec :=
  match l.stmt with
  | some (.attr c) => { a with cur := a.cur.addAttr c }
  | some .marker => { a with done := a.done ++ [a.cur], cur := SegSpec.empty }
  | some (.directive name e _) =>
    if name = "union" then { a with cur := { a.cur with union := true } }
    else if name = "deprecated" then { a with deprecated := true }
    else if name = "sealed" then { a with cur := { a.cur with mode := a.cur.mode <|> some .sealed } }
    else if name = "extent" then
      match e with
      | some (.rational n) => { a with cur := { a.cur with mode := a.cur.mode <|> some (.extent n) } }
      | _ => a
    else a
  | none => a

theorem Spec.step_eq (a : Spec) (l : Line) :
    a.step l = match l.stmt with | some st => a.stepS st | none => a := by
  unfold Spec.step Spec.stepS
  cases l.stmt with
  | none => rfl
  | some st => cases st <;> rfl

def Spec.of (ls : List Line) : Spec := ls.foldl Spec.step Spec.init

def Spec.schemas (a : Spec) : List SegSpec := a.done ++ [a.cur]

/-- the same view of a built schema -/
def Schema.view (s : Schema) : SegSpec := ⟨s.fields.map (·.core), s.consts.map (·.core), s.union, s.mode⟩

def SegSpec.hasAttrs (g : SegSpec) : Bool := !(g.fields.isEmpty && g.consts.isEmpty)

theorem hasAttrs_view (sc : Schema) : sc.view.hasAttrs = sc.hasAttrs := by
  simp [SegSpec.hasAttrs, Schema.hasAttrs, Schema.view]

/-- may the directive stand here, given what the statements in front say? -/
def dirOk (a : Spec) (name : String) (e : Option EVal) : Bool :=
  if name = "print" then true
  else if name = "assert" then
    match e with
    | some (.boolean true) => true
    | _ => false
  else if name = "extent" then
    if a.cur.mode.isSome then false
    else match e with
      | some (.rational _) => true
      | _ => false
  else if name = "sealed" then !(a.cur.mode.isSome || e.isSome)
  else if name = "union" then !(e.isSome || a.cur.union || a.cur.hasAttrs)
  else if name = "deprecated" then !(e.isSome || a.deprecated || !a.done.isEmpty || a.cur.hasAttrs)
  else false

/-- may the statement stand here, given what the statements in front say? -/
def Spec.accepts (a : Spec) : Stmt → Bool
  | .attr _ => !Mode.isExtent a.cur.mode
  | .directive name e _ => dirOk a name e
  | .marker => a.done.isEmpty

/-- the view of the current schema with the queued attribute counted in -/
def St.curView (s : St) : SegSpec :=
  match s.pending with
  | some (a, _) => s.cur.view.addAttr a.core
  | none => s.cur.view

/-- the declarative reading of what has been read up to the state `s` -/
def St.spec (s : St) : Spec := ⟨s.done.map Schema.view, s.curView, s.deprecated⟩

/-- an attribute is queued only behind the header comment -/
def St.inv (s : St) : Prop := s.pending.isSome → s.header = false

theorem inv_init (w : W) : (St.init w).inv := by simp [St.inv, St.init]

/-! ### the queued attribute and its flush -/

theorem raise_bind {α β : Type} (c : Ctx) (s : St) (ln : Option Nat) (f : α → M β) : (raise c s ln >>= f) = raise c s ln := rfl

theorem markOffs_eq (l : Line) (s : St) :
    markOffs l s = { s with cur := { s.cur with offsetUsed := s.cur.offsetUsed || l.offs } } := by
  unfold markOffs
  cases l.offs <;> simp

theorem markOffs_idem (l : Line) (s : St) : markOffs l (markOffs l s) = markOffs l s := by
  simp [markOffs_eq]

theorem addLineComment_eq (l : Line) (s : St) : ∃ t, addLineComment l s = { s with comment := t } := by
  unfold addLineComment St.addComment
  cases l.comment <;> exact ⟨_, rfl⟩

/-- committing the queued attribute `a` raises: its constructor does (`bad`), or it is a field / padding of a union whose
    `_offset_` has been used -/
def commitFails (s : St) (a : Attr) (bad : Bool) : Bool :=
  bad || (a.core.kind != .const && (s.cur.union && s.cur.offsetUsed))

/-- `add_field` / `add_constant` -/
def Schema.add (sc : Schema) (a : Attr) : Schema :=
  match a.core.kind with
  | .const => { sc with consts := sc.consts ++ [a] }
  | _ => { sc with fields := sc.fields ++ [a] }

theorem commitAttr_eq (c : Ctx) (el : Nat) (s : St) (a : Attr) (bad : Bool) (doc : String) :
    commitAttr c el s a bad doc =
      if commitFails s a bad then raise c s (some el)
      else .ok { s with cur := s.cur.add { a with doc := doc }, pending := none } := by
  unfold commitAttr commitFails Schema.add
  cases bad <;> cases a.core.kind <;> simp
  all_goals split <;> rfl

/-- the line an error of the flush on line `k` carries: `_last_attribute_line_number or` the current line -/
def AttrLine (s : St) (k : Nat) : Nat := if s.lastAttrLine = 0 then k else s.lastAttrLine

/-- the flush raises: this is not the header comment, and the commit of the queued attribute raises -/
def St.flushFails (s : St) : Bool :=
  !s.header && match s.pending with
    | some (a, bad) => commitFails s a bad
    | none => false

/-- the state a successful flush leaves: the comment has become the doc of the schema (header) or of the queued attribute,
    which is now part of the schema -/
def St.flushed (s : St) : St :=
  { s with
    cur := if s.header then { s.cur with doc := s.comment }
           else match s.pending with
             | some (a, _) => s.cur.add { a with doc := s.comment }
             | none => s.cur
    pending := if s.header then s.pending else none
    header := false
    comment := "" }

theorem flushFails_pending {s : St} (h : s.flushFails = true) : s.pending.isSome := by
  unfold St.flushFails at h
  cases hp : s.pending <;> simp [hp] at h ⊢

theorem flushFails_iff (s : St) :
    s.flushFails = true ↔ s.header = false ∧ ∃ a bad, s.pending = some (a, bad) ∧ commitFails s a bad = true := by
  unfold St.flushFails
  cases s.header
  · rcases s.pending with _ | ⟨a, bad⟩
    · simp
    · simp only [Bool.not_false, Bool.true_and, true_and]
      exact ⟨fun h => ⟨a, bad, rfl, h⟩, fun ⟨_, _, h1, h2⟩ => by cases h1; exact h2⟩
  · simp

theorem flush_eq (c : Ctx) (k : Nat) (s : St) :
    flush c k s = if s.flushFails then raise c s (some (AttrLine s k)) else .ok s.flushed := by
  unfold flush St.flushFails St.flushed flushAttr AttrLine
  cases hh : s.header
  · cases hp : s.pending with
    | none => simp [Except.map, hp]
    | some p =>
      simp only [commitAttr_eq]
      cases commitFails s p.1 p.2 <;> simp [Except.map, raise]
  · simp

theorem flush_ok {c k s s'} (h : flush c k s = .ok s') : s.flushFails = false ∧ s' = s.flushed := by
  rw [flush_eq] at h
  split at h
  · cases h
  · rename_i hf; cases h; exact ⟨by simpa using hf, rfl⟩

theorem flush_err {c k s x} (h : flush c k s = .error x) :
    s.flushFails = true ∧ x = (⟨c.self, some (AttrLine s k)⟩, s.w) := by
  rw [flush_eq] at h
  split at h
  · cases h; exact ⟨‹_›, rfl⟩
  · cases h

theorem flushed_pending {s : St} (hi : s.inv) : s.flushed.pending = none := by
  unfold St.flushed
  cases hh : s.header
  · rfl
  · cases hp : s.pending with
    | none => simp
    | some p => simp [St.inv, hp, hh] at hi

theorem flushed_of_flat {s : St} (hp : s.pending = none) (hh : s.header = false) (hc : s.comment = "") : s.flushed = s := by
  cases s
  simp_all [St.flushed]

/-- nothing queued, no header, no comment: there is nothing to flush -/
theorem flush_flat (c : Ctx) (k : Nat) {s : St} (hp : s.pending = none) (hh : s.header = false) (hc : s.comment = "") :
    flush c k s = .ok s := by
  rw [flush_eq, flushed_of_flat hp hh hc]
  simp [St.flushFails, hp]

/-- a second flush does nothing -/
theorem flush_flush {c k k' s s'} (h : flush c k s = .ok s') (hi : s.pending.isSome → s.header = false) :
    flush c k' s' = .ok s' := by
  obtain ⟨_, rfl⟩ := flush_ok h
  exact flush_flat c k' (flushed_pending hi) rfl rfl

theorem flushed_markOffs (l : Line) (s : St) : (markOffs l s).flushed = markOffs l s.flushed := by
  simp only [markOffs_eq, St.flushed]
  cases s.header
  · cases hp : s.pending with
    | none => rfl
    | some p => simp only [Schema.add]; cases p.1.core.kind <;> rfl
  · rfl

/-- using `_offset_` in the meantime does not rescue the queued attribute -/
theorem flushFails_markOffs {l : Line} {s : St} (h : s.flushFails = true) : (markOffs l s).flushFails = true := by
  revert h
  simp only [markOffs_eq, St.flushFails, commitFails]
  cases s.header <;> rcases s.pending with _ | ⟨a, bad⟩ <;> simp
  cases bad <;> cases s.cur.offsetUsed <;> simp_all

/-! ### references, dependencies, handlers -/

theorem resolveRefs_eq (c : Ctx) (k : Nat) (s : St) (rs : List String) :
    resolveRefs c k s rs =
      if (rs.all fun r => s.cur.consts.any fun a => a.core.name == r) then .ok s else raise c s (some k) := by
  induction rs with
  | nil => rfl
  | cons r rs ih =>
    unfold resolveRefs
    by_cases h : (s.cur.consts.any fun a => a.core.name == r) = true
    · rw [if_pos h, ih]; simp only [List.all_cons, h, Bool.true_and]
    · rw [if_neg h]; simp only [List.all_cons, Bool.not_eq_true] at h ⊢; simp [h]

theorem readDeps_ok {c k s js s'} (h : readDeps c k s js = .ok s') : s' = { s with w := s'.w } := by
  induction js generalizing s with
  | nil => cases h; rfl
  | cons j js ih =>
    unfold readDeps at h
    split at h
    · cases h
    · split at h
      · have := ih h; exact this
      · cases h

/-- the serialization mode a directive asks for -/
def dirMode (name : String) (e : Option EVal) : Option Mode :=
  if name = "sealed" then some .sealed
  else if name = "extent" then
    match e with
    | some (.rational n) => some (.extent n)
    | _ => none
  else none

/-- what an accepted directive does: a delivery, or a flag of the schema or of the definition -/
def St.directive (s : St) (c : Ctx) (k : Nat) (name : String) (e : Option EVal) (text : String) : St :=
  { s with
    w := if name = "print" then { s.w with prints := s.w.prints ++ [⟨c.printFile, k, text⟩] } else s.w
    deprecated := s.deprecated || name = "deprecated"
    cur := { s.cur with union := s.cur.union || name = "union", mode := s.cur.mode <|> dirMode name e } }

theorem Spec.stepS_directive (a : Spec) (name : String) (e : Option EVal) (text : String) :
    a.stepS (.directive name e text) =
      { a with deprecated := a.deprecated || name = "deprecated",
               cur := { a.cur with union := a.cur.union || name = "union", mode := a.cur.mode <|> dirMode name e } } := by
  unfold Spec.stepS dirMode
  by_cases h1 : name = "union"
  · subst h1; simp
  by_cases h2 : name = "deprecated"
  · subst h2; simp
  by_cases h3 : name = "sealed"
  · subst h3; simp
  by_cases h4 : name = "extent"
  · subst h4; rcases e with _ | (b | n | _) <;> simp
  simp [h1, h2, h3, h4]

/-- the directive handler checks the directive against what has been read (`dirOk`), then sets its flag -/
theorem onDirective_eq (c : Ctx) (k : Nat) (s : St) (name : String) (e : Option EVal) (text : String) :
    onDirective c k s name e text =
      if dirOk ⟨s.done.map Schema.view, s.cur.view, s.deprecated⟩ name e then .ok (s.directive c k name e text)
      else raise c s (some k) := by
  unfold onDirective dirOk
  simp only [hasAttrs_view, List.isEmpty_map]
  by_cases h1 : name = "print"
  · subst h1; simp [St.directive, dirMode]
  by_cases h2 : name = "assert"
  · subst h2
    rcases e with _ | (b | n | _) <;> (try cases b) <;> simp [St.directive, dirMode]
  by_cases h3 : name = "extent"
  · subst h3
    cases hm : s.cur.mode <;> rcases e with _ | (b | n | _) <;> simp [St.directive, dirMode, Schema.view, hm]
  by_cases h4 : name = "sealed"
  · subst h4
    cases hm : s.cur.mode <;> cases e <;> simp [St.directive, dirMode, Schema.view, hm]
  by_cases h5 : name = "union"
  · subst h5
    cases e <;> cases hu : s.cur.union <;> cases s.cur.hasAttrs <;> simp [St.directive, dirMode, Schema.view, hu]
  by_cases h6 : name = "deprecated"
  · subst h6
    cases e <;> cases hd : s.deprecated <;> cases s.done.isEmpty <;> cases s.cur.hasAttrs <;>
      simp [St.directive, dirMode, hd]
  simp [h1, h2, h3, h4, h5, h6]

theorem onAttr_eq (c : Ctx) (k : Nat) {s : St} (core : Core) (bad : Bool) (hp : s.pending = none) :
    onAttr c k s core bad =
      if Mode.isExtent s.cur.mode then raise c s (some k)
      else .ok { s with pending := some (⟨core, "", k⟩, bad), lastAttrLine := k } := by
  simp [onAttr, flushAttr, hp, Except.map]

/-- the builder's handler of a statement -/
def handler (c : Ctx) (k : Nat) (l : Line) (st : Stmt) (s : St) : M St :=
  match st with
  | .attr core => onAttr c k s core (l.fault == some .commit)
  | .directive name e text => onDirective c k s name e text
  | .marker => onMarker c k s

/-- what the handler of an accepted statement does -/
def St.handled (s : St) (c : Ctx) (k : Nat) (l : Line) : Stmt → St
  | .attr core => { s with pending := some (⟨core, "", k⟩, l.fault == some .commit), lastAttrLine := k }
  | .directive name e text => s.directive c k name e text
  | .marker => { s with done := s.done ++ [s.cur], cur := Schema.empty, header := true }

theorem handler_eq (c : Ctx) (k : Nat) (l : Line) (st : Stmt) {s : St} (hp : s.pending = none) :
    handler c k l st s = if s.spec.accepts st then .ok (s.handled c k l st) else raise c s (some k) := by
  have hs : s.spec = ⟨s.done.map Schema.view, s.cur.view, s.deprecated⟩ := by simp [St.spec, St.curView, hp]
  cases st with
  | attr core =>
    simp only [handler, onAttr_eq c k core _ hp, hs, Spec.accepts, St.handled, Schema.view]
    cases Mode.isExtent s.cur.mode <;> rfl
  | directive name e text => simp only [handler, onDirective_eq, hs, Spec.accepts, St.handled]
  | marker =>
    simp only [handler, onMarker, hs, Spec.accepts, St.handled, List.isEmpty_map]
    cases s.done.isEmpty <;> rfl

theorem handler_ok {c k l st s s'} (hp : s.pending = none) (h : handler c k l st s = .ok s') :
    s.spec.accepts st = true ∧ s' = s.handled c k l st := by
  rw [handler_eq c k l st hp] at h
  split at h
  · cases h; exact ⟨‹_›, rfl⟩
  · cases h

/-! ### a statement, a line, a text -/

/-- a statement on a flushed state: references, dependencies, its own faults, its handler -/
def body (c : Ctx) (k : Nat) (l : Line) (st : Stmt) (sf : St) : M St :=
  resolveRefs c k sf l.refs >>= fun s2 =>
  readDeps c k (markOffs l s2) l.deps >>= fun s3 =>
  if l.fault = some .mid then raise c s3 (some k)
  else if l.fault = some .emit then raise c s3 (some k)
  else handler c k l st s3

/-- visiting the children of the statement flushes: an identifier, a reference or a dependency is among them -/
def Line.childrenFlush (l : Line) (st : Stmt) : Bool := st.hasIdent || !l.refs.isEmpty || !l.deps.isEmpty

/-- The visit of a statement: a `pre` fault (or a `mid` fault of a statement none of whose children flushes) is raised
    before anything happens; otherwise the first thing to happen is a flush, the rest happens on the flushed state. -/
theorem visitStmt_eq (c : Ctx) (k : Nat) (l : Line) (st : Stmt) {s : St} (hi : s.inv) :
    visitStmt c k l st s =
      if l.fault = some .pre ∨ (l.fault = some .mid ∧ l.childrenFlush st = false) then raise c s (some k)
      else flush c k (if l.childrenFlush st then s else markOffs l s) >>= body c k l st := by
  unfold visitStmt visitChildren
  by_cases hpre : l.fault = some .pre
  · simp [hpre, raise_bind]
  · by_cases hc : l.childrenFlush st = true
    · have hc' : (st.hasIdent || !l.refs.isEmpty || !l.deps.isEmpty) = true := hc
      simp only [hpre, hc, hc', if_true, if_false, false_or, and_false, Bool.true_eq_false]
      rw [flush_eq]
      split
      · rfl
      · -- the statement visitor flushes again and finds nothing to flush
        simp only [body, resolveRefs_eq, ok_bind]
        by_cases hr : (l.refs.all fun r => s.flushed.cur.consts.any fun a => a.core.name == r) = true
        · simp only [hr, if_true, ok_bind]
          cases h3 : readDeps c k (markOffs l s.flushed) l.deps with
          | error e => rfl
          | ok s3 =>
            have e3 := readDeps_ok h3
            have hf : flush c k s3 = .ok s3 := by
              apply flush_flat <;> rw [e3]
              · simpa [markOffs_eq] using flushed_pending hi
              · simp [markOffs_eq, St.flushed]
              · simp [markOffs_eq, St.flushed]
            by_cases hm : l.fault = some .mid
            · simp only [hm, if_true, ok_bind, raise_bind]
            · simp only [hm, if_false, emitStmt, hf, ok_bind]
              cases st <;> rfl
        · simp only [hr]; rfl
    · have hc' : ¬ (st.hasIdent || !l.refs.isEmpty || !l.deps.isEmpty) = true := hc
      have hcf : l.childrenFlush st = false := by simpa using hc
      have hc2 := hcf
      simp only [Line.childrenFlush, Bool.or_eq_false_iff, Bool.not_eq_false', List.isEmpty_iff] at hc2
      obtain ⟨⟨_, hr⟩, hd⟩ := hc2
      rw [if_neg hpre, if_neg hc']
      simp only [hpre, hcf, hr, hd, resolveRefs, readDeps, ok_bind, false_or, Bool.false_eq_true, if_false, and_true]
      by_cases hm : l.fault = some .mid
      · simp [hm, raise, markOffs_eq, err_bind]
      · simp only [hm, if_false, emitStmt, ok_bind]
        rw [flush_eq]
        split
        · rfl
        · simp only [ok_bind, body, hr, hd, resolveRefs, readDeps, hm, if_false, flushed_markOffs, markOffs_idem]
          cases st <;> rfl

/-- the state the handler of the statement of line `l` runs in: flushed, `_offset_` noted, the world as the referenced
    definitions left it -/
def St.ready (s : St) (l : Line) (w : W) : St := { markOffs l s.flushed with w := w }

theorem ready_flat {s : St} (hi : s.inv) (l : Line) (w : W) :
    (s.ready l w).pending = none ∧ (s.ready l w).header = false ∧ (s.ready l w).comment = "" :=
  ⟨by simpa [St.ready, markOffs_eq] using flushed_pending hi, by simp [St.ready, markOffs_eq, St.flushed],
    by simp [St.ready, markOffs_eq, St.flushed]⟩

theorem body_ok {c k l st sf s'} (h : body c k l st sf = .ok s') :
    ∃ w, handler c k l st { markOffs l sf with w := w } = .ok s' ∧ (l.deps = [] → w = sf.w) := by
  simp only [body, resolveRefs_eq] at h
  split at h
  · simp only [ok_bind, bind_ok] at h
    obtain ⟨s3, h3, h⟩ := h
    have e3 := readDeps_ok h3
    split at h
    · cases h
    · split at h
      · cases h
      · refine ⟨s3.w, by rw [← e3]; exact h, fun hd => ?_⟩
        rw [hd] at h3; cases h3; simp [markOffs_eq]
  · cases h

/-- a successful visit of a statement: the flush succeeded, and the handler ran on the flushed state (with `_offset_`
    noted and the referenced definitions read) -/
theorem visitStmt_ok {c k l st s s'} (hi : s.inv) (h : visitStmt c k l st s = .ok s') :
    s.flushFails = false ∧
      ∃ w, s' = (s.ready l w).handled c k l st ∧ (l.deps = [] → w = s.w) := by
  rw [visitStmt_eq c k l st hi] at h
  split at h
  · cases h
  · rw [bind_ok] at h
    obtain ⟨sf, hf, hb⟩ := h
    obtain ⟨w, hh, hw⟩ := body_ok hb
    have key : s.flushFails = false ∧ ({ markOffs l sf with w := w } : St) = { markOffs l s.flushed with w := w } ∧ sf.w = s.w := by
      split at hf
      · obtain ⟨h1, rfl⟩ := flush_ok hf
        exact ⟨h1, rfl, rfl⟩
      · obtain ⟨h1, rfl⟩ := flush_ok hf
        refine ⟨?_, by rw [flushed_markOffs, markOffs_idem], by simp [markOffs_eq, St.flushed]⟩
        cases h2 : s.flushFails
        · rfl
        · rw [flushFails_markOffs h2] at h1; cases h1
    obtain ⟨k1, k2, k3⟩ := key
    rw [k2] at hh
    exact ⟨k1, w, (handler_ok (ready_flat hi l w).1 hh).2, fun hd => (hw hd).trans k3⟩

def tail (c : Ctx) (k : Nat) (l : Line) (s1 : St) : M St :=
  if l.textEmpty then flush c k (addLineComment l s1) else .ok (addLineComment l s1)

theorem stepLine_eq (c : Ctx) (k : Nat) (s : St) (l : Line) :
    stepLine c k s l = (match l.stmt with | some st => visitStmt c k l st s | none => .ok s) >>= tail c k l := rfl

/-- a successfully read line, spelled out -/
theorem stepLine_ok {c k l s s'} (hi : s.inv) (h : stepLine c k s l = .ok s') :
    ∃ s1, (l.stmt = none ∧ s1 = s ∨
        ∃ st w, l.stmt = some st ∧ s1 = (s.ready l w).handled c k l st ∧ (l.deps = [] → w = s.w)) ∧
      s' = if l.textEmpty then (addLineComment l s1).flushed else addLineComment l s1 := by
  rw [stepLine_eq, bind_ok] at h
  obtain ⟨s1, h1, h2⟩ := h
  refine ⟨s1, ?_, ?_⟩
  · cases hl : l.stmt with
    | none => rw [hl] at h1; cases h1; exact Or.inl ⟨rfl, rfl⟩
    | some st =>
      rw [hl] at h1
      obtain ⟨_, w, e, hw⟩ := visitStmt_ok hi h1
      exact Or.inr ⟨st, w, rfl, e, hw⟩
  · unfold tail at h2
    by_cases he : l.textEmpty = true
    · rw [if_pos he] at h2 ⊢; exact (flush_ok h2).2
    · rw [if_neg he] at h2 ⊢; cases h2; rfl

/-- an accepted text: no line violates the grammar, the lines are read, the last flush succeeds, and finalize accepts -/
theorem readText_ok {c ls w comp w'} (h : readText c ls w = .ok (comp, w')) :
    ∃ s, firstSyntaxError 1 ls = none ∧ runLines c 1 (St.init w) ls = .ok s ∧ s.flushFails = false ∧
      (c.finalFault || !((s.flushed.done ++ [s.flushed.cur]).all Schema.ok)) = false ∧
      comp = ⟨s.flushed.deprecated, s.flushed.done ++ [s.flushed.cur]⟩ ∧ w' = s.w := by
  unfold readText at h
  split at h
  · cases h
  · simp only [bind_ok, map_ok] at h
    obtain ⟨s, hs, s', hf, comp', hfin, he⟩ := h
    obtain ⟨hf1, rfl⟩ := flush_ok hf
    cases he
    simp only [finalize] at hfin
    split at hfin
    · cases hfin
    · cases hfin
      exact ⟨s, ‹_›, hs, hf1, Bool.eq_false_iff.mpr ‹_›, rfl, rfl⟩

/-! ### an accepted text yields its statements -/

theorem spec_markOffs (l : Line) (s : St) (w : W) : ({ markOffs l s with w := w } : St).spec = s.spec := by
  simp only [markOffs_eq, St.spec, St.curView]
  cases s.pending <;> rfl

theorem view_add (sc : Schema) (a : Attr) : (sc.add a).view = sc.view.addAttr a.core := by
  unfold Schema.add SegSpec.addAttr
  cases a.core.kind <;> simp [Schema.view]

theorem flushed_spec {s : St} (hi : s.inv) : s.flushed.spec = s.spec := by
  unfold St.flushed St.spec St.curView
  cases hh : s.header
  · cases hp : s.pending with
    | none => rfl
    | some p => simp [view_add]
  · cases hp : s.pending with
    | none => rfl
    | some p => simp [St.inv, hp, hh] at hi

theorem ready_spec {s : St} (hi : s.inv) (l : Line) (w : W) : (s.ready l w).spec = s.spec := by
  rw [St.ready, spec_markOffs, flushed_spec hi]

theorem handled_spec (c : Ctx) (k : Nat) (l : Line) (st : Stmt) {s : St} (hp : s.pending = none) :
    (s.handled c k l st).spec = s.spec.stepS st := by
  cases st with
  | attr core => simp [St.handled, St.spec, St.curView, hp, Spec.stepS]
  | directive name e text => simp [St.handled, Spec.stepS_directive, St.directive, St.spec, St.curView, hp, Schema.view]
  | marker => simp [St.handled, St.spec, St.curView, hp, Spec.stepS, Schema.view, Schema.empty, SegSpec.empty]

theorem handled_inv (c : Ctx) (k : Nat) (l : Line) (st : Stmt) {s : St} (hp : s.pending = none) (hh : s.header = false) :
    (s.handled c k l st).inv := by
  cases st <;> simp [St.handled, St.directive, St.inv, hp, hh]

theorem stepLine_spec {c k l s s'} (hi : s.inv) (h : stepLine c k s l = .ok s') : s'.inv ∧ s'.spec = s.spec.step l := by
  obtain ⟨s1, hs1, rfl⟩ := stepLine_ok hi h
  have h1 : s1.inv ∧ s1.spec = s.spec.step l := by
    rw [Spec.step_eq]
    rcases hs1 with ⟨hl, rfl⟩ | ⟨st, w, hl, rfl, _⟩
    · rw [hl]; exact ⟨hi, rfl⟩
    · obtain ⟨hp, hh, _⟩ := ready_flat hi l w
      rw [hl, handled_spec c k l st hp, ready_spec hi]
      exact ⟨handled_inv c k l st hp hh, rfl⟩
  obtain ⟨t, ht⟩ := addLineComment_eq l s1
  rw [ht]
  split
  · exact ⟨fun _ => rfl, (flushed_spec (s := { s1 with comment := t }) h1.1).trans h1.2⟩
  · exact h1

theorem runLines_spec {c} (ls : List Line) : ∀ {k s s'}, s.inv → runLines c k s ls = .ok s' →
    s'.inv ∧ s'.spec = ls.foldl Spec.step s.spec := by
  induction ls with
  | nil => intro k s s' hi h; cases h; exact ⟨hi, rfl⟩
  | cons l ls ih =>
    intro k s s' hi h
    simp only [runLines, bind_ok] at h
    obtain ⟨s1, h1, h2⟩ := h
    obtain ⟨hi1, e1⟩ := stepLine_spec hi h1
    rw [List.foldl_cons, ← e1]
    exact ih hi1 h2

/-- an accepted text: the built schemas, viewed without docs, are what the statement list says -/
theorem readText_mirror {c ls w comp w'} (h : readText c ls w = .ok (comp, w')) :
    comp.schemas.map Schema.view = (Spec.of ls).schemas ∧ comp.deprecated = (Spec.of ls).deprecated := by
  obtain ⟨s, _, hs, _, _, rfl, _⟩ := readText_ok h
  obtain ⟨hi, e⟩ := runLines_spec ls (inv_init w) hs
  have e' : s.flushed.spec = Spec.of ls := (flushed_spec hi).trans e
  rw [← e']
  simp [Spec.schemas, St.spec, St.curView, flushed_pending hi]

/-! ### formatting: final empty line, line endings, statement-less lines -/

/-- the number of the line that follows the lines `ls`, the first of which has number `k` -/
def lineAfter (k : Nat) (ls : List Line) : Nat := ls.foldl (fun k l => l.next k) k

theorem firstSyntaxError_append {k ls e} (he : e.fault = none) :
    firstSyntaxError k (ls ++ [e]) = firstSyntaxError k ls := by
  induction ls generalizing k with
  | nil => simp [firstSyntaxError, he]
  | cons l ls ih =>
    simp only [List.cons_append, firstSyntaxError]
    split
    · rfl
    · exact ih

theorem runLines_append {c} (ls ms : List Line) : ∀ k s,
    runLines c k s (ls ++ ms) = (runLines c k s ls >>= fun s' => runLines c (lineAfter k ls) s' ms) := by
  induction ls with
  | nil => intro k s; rfl
  | cons l ls ih =>
    intro k s
    simp only [List.cons_append, runLines]
    cases stepLine c k s l with
    | error e => rfl
    | ok s1 => exact ih (l.next k) s1

/-- the line an editor adds at the very end: nothing on it, not even blanks -/
def emptyLine (crlf : Bool) : Line :=
  { stmt := none, refs := [], deps := [], offs := false, fault := none, comment := none, textEmpty := true, crlf := crlf,
    inner := 0 }

theorem readText_final_newline (c : Ctx) (ls : List Line) (w : W) (b : Bool) :
    okPart (readText c (ls ++ [emptyLine b]) w) = okPart (readText c ls w) := by
  unfold readText
  rw [firstSyntaxError_append (by rfl)]
  cases firstSyntaxError 1 ls with
  | some k => rfl
  | none =>
    simp only
    rw [runLines_append]
    cases hr : runLines c 1 (St.init w) ls with
    | error e => rfl
    | ok s1 =>
      -- the empty line flushes; the flush at the end of the text then finds nothing to flush
      have hi := (runLines_spec ls (inv_init w) hr).1
      simp only [ok_bind, runLines, stepLine, emptyLine, addLineComment, if_true, flush_eq c _ s1]
      cases s1.flushFails
      · simp only [ok_bind, Bool.false_eq_true, if_false, flush_flat c _ (flushed_pending hi) rfl rfl]
      · rfl

theorem stepLine_crlf (c : Ctx) (k : Nat) (s : St) (l : Line) (b : Bool) :
    stepLine c k s { l with crlf := b } = stepLine c k s l := rfl

theorem next_crlf (k : Nat) (l : Line) (b : Bool) : ({ l with crlf := b } : Line).next k = l.next k := rfl

theorem runLines_crlf (c : Ctx) (b : Bool) (ls : List Line) : ∀ k s,
    runLines c k s (ls.map fun l => { l with crlf := b }) = runLines c k s ls := by
  induction ls with
  | nil => intro k s; rfl
  | cons l ls ih =>
    intro k s
    simp only [List.map_cons, runLines, stepLine_crlf, next_crlf]
    cases stepLine c k s l with
    | error e => rfl
    | ok s1 => exact ih _ _

theorem firstSyntaxError_crlf (b : Bool) (ls : List Line) : ∀ k,
    firstSyntaxError k (ls.map fun l => { l with crlf := b }) = firstSyntaxError k ls := by
  induction ls with
  | nil => intro k; rfl
  | cons l ls ih => intro k; simp only [List.map_cons, firstSyntaxError, next_crlf]; rw [ih]

theorem lastLine_crlf (b : Bool) (ls : List Line) : ∀ k,
    lastLine k (ls.map fun l => { l with crlf := b }) = lastLine k ls := by
  induction ls with
  | nil => intro k; rfl
  | cons l ls ih =>
    intro k
    cases ls with
    | nil => rfl
    | cons l' ls' =>
      simp only [List.map_cons, lastLine, next_crlf]
      exact ih _

theorem readText_crlf (c : Ctx) (ls : List Line) (w : W) (b : Bool) :
    readText c (ls.map fun l => { l with crlf := b }) w = readText c ls w := by
  unfold readText
  rw [firstSyntaxError_crlf, runLines_crlf, lastLine_crlf]

theorem Spec.of_insert (ls₁ ls₂ : List Line) (l : Line) (h : l.stmt = none) :
    Spec.of (ls₁ ++ l :: ls₂) = Spec.of (ls₁ ++ ls₂) := by
  simp [Spec.of, List.foldl_append, Spec.step, h]

end Reader
