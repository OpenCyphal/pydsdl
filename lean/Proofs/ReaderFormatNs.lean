import Proofs.ReaderFormat
/-! Formatting independence, consequences of `readText_abs` (C03): two documents with the same statement sequence; the
    concrete indistinguishability relation on worlds (`W.sim`); whole namespaces (`readDef`, `readTargets`); insertion of
    statement-less lines. -/
namespace Reader

/-- two outcomes of `readText` that agree up to doc strings (and up to `E` on the worlds) -/
def FmtSim (E : W → W → Prop) : Option (Composite × W) → Option (Composite × W) → Prop
  | none, none => True
  | some (a, wa), some (b, wb) =>
      a.schemas.map Schema.view = b.schemas.map Schema.view ∧ a.deprecated = b.deprecated ∧ E wa wb
  | _, _ => False

theorem FmtSim.cases {E : W → W → Prop} {x y : M (Composite × W)} (h : FmtSim E (okPart x) (okPart y)) :
    (∃ e₁ e₂, x = .error e₁ ∧ y = .error e₂) ∨
    ∃ a wa b wb, x = .ok (a, wa) ∧ y = .ok (b, wb) ∧ a.schemas.map Schema.view = b.schemas.map Schema.view ∧
      a.deprecated = b.deprecated ∧ E wa wb := by
  match x, y, h with
  | .error e₁, .error e₂, _ => exact Or.inl ⟨e₁, e₂, rfl, rfl⟩
  | .ok (a, wa), .ok (b, wb), h => exact Or.inr ⟨a, wa, b, wb, rfl, rfl, h⟩

theorem DepSim_right {E : W → W → Prop} (hsymm : ∀ a b, E a b → E b a) (htrans : ∀ a b c, E a b → E b c → E a c)
    {c₁ c₂ : Ctx} (h : DepSim E c₁ c₂) : DepSim E c₂ c₂ := by
  obtain ⟨_, _, _, hd⟩ := h
  refine ⟨rfl, rfl, rfl, ?_⟩
  intro wa wb j hab
  have haa : E wa wa := htrans _ _ _ hab (hsymm _ _ hab)
  obtain ⟨p1, p2⟩ := hd wa wa j haa
  obtain ⟨q1, q2⟩ := hd wa wb j hab
  refine ⟨⟨fun h => q1.mp (p1.mpr h), fun h => p1.mp (q1.mpr h)⟩, ?_⟩
  intro h
  have h1 := p1.mpr h
  exact htrans _ _ _ (hsymm _ _ (p2 h1)) (q2 h1)

/-- Two documents with the same statement sequence — whatever their line structure — are both rejected, or both accepted
    with the same model up to doc strings. -/
theorem readText_format {E : W → W → Prop} (hE : PrintCompat E) (hsymm : ∀ a b, E a b → E b a)
    (htrans : ∀ a b c, E a b → E b c → E a c) {c₁ c₂ : Ctx} (hdep : DepSim E c₁ c₂) {ls₁ ls₂ : List Line}
    (hwf₁ : ∀ l ∈ ls₁, l.offsWf) (hwf₂ : ∀ l ∈ ls₂, l.offsWf) (hit : items ls₁ = items ls₂) {w₁ w₂ : W} (hw : E w₁ w₂) :
    FmtSim E (okPart (readText c₁ ls₁ w₁)) (okPart (readText c₂ ls₂ w₂)) := by
  have A := readText_abs hE hdep ls₁ hwf₁ hw
  have hw22 : E w₂ w₂ := htrans _ _ _ (hsymm _ _ hw) hw
  have B := readText_abs hE (DepSim_right hsymm htrans hdep) ls₂ hwf₂ hw22
  rw [hit] at A
  generalize okPart (readText c₁ ls₁ w₁) = x at A
  generalize okPart (readText c₂ ls₂ w₂) = y at B
  generalize aRead c₂ (items ls₂) w₂ = z at A B
  match x, y, z, A, B with
  | none, none, none, _, _ => trivial
  | some (a, wa), some (b, wb), some (segs, d, wz), A, B =>
    obtain ⟨a1, a2, a3⟩ := A
    obtain ⟨b1, b2, b3⟩ := B
    exact ⟨a1.trans b1.symm, a2.trans b2.symm, htrans _ _ _ a3 (hsymm _ _ b3)⟩

/-! ### the concrete relation: same cache up to doc strings, same `@print` deliveries up to their line numbers -/

def Composite.view (comp : Composite) : List SegSpec × Bool := (comp.schemas.map Schema.view, comp.deprecated)

def W.erase (w : W) : List (Nat × (List SegSpec × Bool)) × List (Nat × String) :=
  (w.cached.map fun p => (p.1, p.2.view), w.prints.map fun p => (p.file, p.text))

def W.sim (w₁ w₂ : W) : Prop := w₁.erase = w₂.erase

theorem W.sim_refl (w : W) : W.sim w w := rfl
theorem W.sim_symm (a b : W) (h : W.sim a b) : W.sim b a := Eq.symm h
theorem W.sim_trans (a b c : W) (h₁ : W.sim a b) (h₂ : W.sim b c) : W.sim a c := Eq.trans h₁ h₂

theorem W.sim_print : PrintCompat W.sim := by
  intro w₁ w₂ f k₁ k₂ t h
  simp only [W.sim, W.erase, Prod.mk.injEq] at h ⊢
  simp [h.1, h.2]

theorem W.sim_cache {w₁ w₂ : W} (h : W.sim w₁ w₂) (i : Nat) {a b : Composite} (hv : a.view = b.view) :
    W.sim { w₁ with cached := (i, a) :: w₁.cached } { w₂ with cached := (i, b) :: w₂.cached } := by
  simp only [W.sim, W.erase, Prod.mk.injEq] at h ⊢
  simp [h.1, h.2, hv]

theorem W.sim_any {w₁ w₂ : W} (h : W.sim w₁ w₂) (i : Nat) :
    (w₁.cached.any fun p => p.1 == i) = (w₂.cached.any fun p => p.1 == i) := by
  simp only [W.sim, W.erase, Prod.mk.injEq] at h
  have := congrArg (fun l => l.any fun (x : Nat × (List SegSpec × Bool)) => x.1 == i) h.1
  simpa [List.any_map, Function.comp_def] using this

theorem W.sim_find {w₁ w₂ : W} (h : W.sim w₁ w₂) (t : Nat) :
    ((w₁.cached.find? fun p => p.1 == t).map fun p => (p.1, p.2.view)) =
    ((w₂.cached.find? fun p => p.1 == t).map fun p => (p.1, p.2.view)) := by
  simp only [W.sim, W.erase, Prod.mk.injEq] at h
  have := congrArg (fun l => l.find? fun (x : Nat × (List SegSpec × Bool)) => x.1 == t) h.1
  simpa [List.find?_map, Function.comp_def] using this

/-- reading a referenced definition looks neither at the line numbers of earlier `@print` deliveries nor at doc strings
    in the cache (true of every context `readDef` / `readTargets` build, see `readDef_sim`) -/
def Ctx.lineBlind (c : Ctx) : Prop := DepSim W.sim c c

/-! ### whole namespaces -/

/-- the same statement sequence and the same finalize-time fault marker -/
def Def.sameItems (d₁ d₂ : Def) : Prop := items d₁.lines = items d₂.lines ∧ d₁.finalFault = d₂.finalFault

def Def.wf (d : Def) : Prop := ∀ l ∈ d.lines, l.offsWf

instance Def.decidableWf (d : Def) : Decidable d.wf := by unfold Def.wf; infer_instance

/-- two namespaces whose definitions have pairwise the same statement sequences -/
def DefsSim (defs₁ defs₂ : List Def) : Prop :=
  defs₁.length = defs₂.length ∧ ∀ (i : Nat) (d₁ d₂ : Def), defs₁[i]? = some d₁ → defs₂[i]? = some d₂ → Def.sameItems d₁ d₂

theorem readDef_sim {defs₁ defs₂ : List Def} (hs : DefsSim defs₁ defs₂) (hwf₁ : ∀ d ∈ defs₁, d.wf) (hwf₂ : ∀ d ∈ defs₂, d.wf)
    (pf : Nat) : ∀ fuel w₁ w₂ i, W.sim w₁ w₂ →
    ((readDef fuel defs₁ pf w₁ i).2 = none ↔ (readDef fuel defs₂ pf w₂ i).2 = none) ∧
    ((readDef fuel defs₁ pf w₁ i).2 = none → W.sim (readDef fuel defs₁ pf w₁ i).1 (readDef fuel defs₂ pf w₂ i).1) := by
  intro fuel
  induction fuel with
  | zero => intro w₁ w₂ i _; simp [readDef]
  | succ fuel ih =>
    intro w₁ w₂ i hw
    unfold readDef
    rw [W.sim_any hw i]
    by_cases hc : (w₂.cached.any fun p => p.1 == i) = true
    · rw [if_pos hc, if_pos hc]; exact ⟨Iff.rfl, fun _ => hw⟩
    · rw [if_neg hc, if_neg hc]
      cases h1 : defs₁[i]? with
      | none =>
        have h2 : defs₂[i]? = none := by
          rw [List.getElem?_eq_none_iff] at h1 ⊢; rw [← hs.1]; exact h1
        simp [h2]
      | some d₁ =>
        have hi : i < defs₂.length := by
          rw [← hs.1]; exact (List.getElem?_eq_some_iff.mp h1).1
        have h2 : defs₂[i]? = some defs₂[i] := List.getElem?_eq_getElem hi
        obtain ⟨hit, hff⟩ := hs.2 i d₁ defs₂[i] h1 h2
        rw [h2]
        simp only
        have hdep : DepSim W.sim ⟨i, pf, defs₁.length, readDef fuel defs₁ pf, d₁.finalFault⟩
            ⟨i, pf, defs₂.length, readDef fuel defs₂ pf, defs₂[i].finalFault⟩ :=
          ⟨hs.1, rfl, hff, fun w₁ w₂ j h => ih w₁ w₂ j h⟩
        rcases (readText_format W.sim_print W.sim_symm W.sim_trans hdep
          (hwf₁ d₁ (List.mem_of_getElem? h1)) (hwf₂ _ (List.mem_of_getElem? h2)) hit hw).cases with
          ⟨⟨e₁, w₁'⟩, ⟨e₂, w₂'⟩, hr1, hr2⟩ | ⟨a, wa, b, wb, hr1, hr2, f1, f2, f3⟩ <;> rw [hr1, hr2]
        · simp
        · simp only [forall_const, true_and]
          exact W.sim_cache f3 i (by simp [Composite.view, f1, f2])

/-- two outcomes of `readTargets` that agree up to doc strings -/
def NsSim : Option (List (Nat × Composite) × W) → Option (List (Nat × Composite) × W) → Prop
  | none, none => True
  | some (r₁, w₁), some (r₂, w₂) =>
      r₁.map (fun p => (p.1, p.2.view)) = r₂.map (fun p => (p.1, p.2.view)) ∧ W.sim w₁ w₂
  | _, _ => False

theorem readTargets_sim {defs₁ defs₂ : List Def} (hs : DefsSim defs₁ defs₂) (hwf₁ : ∀ d ∈ defs₁, d.wf) (hwf₂ : ∀ d ∈ defs₂, d.wf) :
    ∀ (ts : List Nat) (w₁ w₂ : W) (acc₁ acc₂ : List (Nat × Composite)), W.sim w₁ w₂ →
    acc₁.map (fun p => (p.1, p.2.view)) = acc₂.map (fun p => (p.1, p.2.view)) →
    NsSim (okPart (readTargets defs₁ ts w₁ acc₁)) (okPart (readTargets defs₂ ts w₂ acc₂)) := by
  intro ts
  induction ts with
  | nil => intro w₁ w₂ acc₁ acc₂ hw hacc; simp only [readTargets, okPart, NsSim]; exact ⟨hacc, hw⟩
  | cons t ts ih =>
    intro w₁ w₂ acc₁ acc₂ hw hacc
    unfold readTargets
    have hfind := W.sim_find hw t
    cases hf1 : w₁.cached.find? fun p => p.1 == t with
    | some p1 =>
      cases hf2 : w₂.cached.find? fun p => p.1 == t with
      | none => rw [hf1, hf2] at hfind; simp at hfind
      | some p2 =>
        rw [hf1, hf2] at hfind
        simp only [Option.map_some, Option.some.injEq, Prod.mk.injEq] at hfind
        simp only
        exact ih _ _ _ _ hw (by rw [List.map_append, List.map_append, hacc]; simp [hfind.2])
    | none =>
      cases hf2 : w₂.cached.find? fun p => p.1 == t with
      | some p2 => rw [hf1, hf2] at hfind; simp at hfind
      | none =>
        simp only
        cases h1 : defs₁[t]? with
        | none =>
          have h2 : defs₂[t]? = none := by
            rw [List.getElem?_eq_none_iff] at h1 ⊢; rw [← hs.1]; exact h1
          simp [h2, okPart, NsSim]
        | some d₁ =>
          have hi : t < defs₂.length := by
            rw [← hs.1]; exact (List.getElem?_eq_some_iff.mp h1).1
          have h2 : defs₂[t]? = some defs₂[t] := List.getElem?_eq_getElem hi
          obtain ⟨hit, hff⟩ := hs.2 t d₁ defs₂[t] h1 h2
          rw [h2]
          simp only
          have hdep : DepSim W.sim ⟨t, t, defs₁.length, readDef defs₁.length defs₁ t, d₁.finalFault⟩
              ⟨t, t, defs₂.length, readDef defs₂.length defs₂ t, defs₂[t].finalFault⟩ := by
            refine ⟨hs.1, rfl, hff, ?_⟩
            rw [hs.1]
            exact fun w₁ w₂ j h => readDef_sim hs hwf₁ hwf₂ t _ w₁ w₂ j h
          rcases (readText_format W.sim_print W.sim_symm W.sim_trans hdep
            (hwf₁ d₁ (List.mem_of_getElem? h1)) (hwf₂ _ (List.mem_of_getElem? h2)) hit hw).cases with
            ⟨⟨e₁, w₁'⟩, ⟨e₂, w₂'⟩, hr1, hr2⟩ | ⟨a, wa, b, wb, hr1, hr2, f1, f2, f3⟩ <;> rw [hr1, hr2]
          · trivial
          · exact ih _ _ _ _ f3 (by rw [List.map_append, List.map_append, hacc]; simp [Composite.view, f1, f2])

/-- the contexts the namespace reader builds are line-blind -/
theorem readDef_lineBlind (defs : List Def) (hwf : ∀ d ∈ defs, d.wf) (self pf fuel : Nat) (ff : Bool) :
    Ctx.lineBlind ⟨self, pf, defs.length, readDef fuel defs pf, ff⟩ :=
  ⟨rfl, rfl, rfl, fun w₁ w₂ j h =>
    readDef_sim (defs₁ := defs) (defs₂ := defs) ⟨rfl, fun i d₁ d₂ h₁ h₂ => by rw [h₁] at h₂; cases h₂; exact ⟨rfl, rfl⟩⟩
      hwf hwf pf fuel w₁ w₂ j h⟩

/-! ### statement-less lines -/

theorem items_insert (ls₁ ls₂ : List Line) (l : Line) (hs : l.stmt = none) (hf : l.fault ≠ some .syn) :
    items (ls₁ ++ l :: ls₂) = items (ls₁ ++ ls₂) := by
  have : l.item = none := by simp [Line.item, hs, hf]
  simp [items, List.filterMap_append, this]

/-- the line structure does not matter: lines without a statement (comment lines, blank lines, empty lines) inserted or
    removed anywhere, other comments, other line terminators, other continuation of string literals -/
theorem items_congr_stmtLines (ls : List Line) :
    items ls = items (ls.filter fun l => l.stmt.isSome || l.fault == some .syn) := by
  induction ls with
  | nil => rfl
  | cons l ls ih =>
    simp only [List.filter_cons]
    by_cases h : (l.stmt.isSome || l.fault == some .syn) = true
    · simp only [h, if_true]
      simp only [items, List.filterMap_cons] at ih ⊢
      rw [ih]
    · simp only [h]
      have hi : l.item = none := by
        simp only [Bool.or_eq_true, not_or, Bool.not_eq_true, beq_eq_false_iff_ne, ne_eq] at h
        cases hs : l.stmt with
        | none => simp [Line.item, h.2, hs]
        | some st => simp [hs] at h
      simp only [items, List.filterMap_cons, hi] at ih ⊢
      exact ih

end Reader
