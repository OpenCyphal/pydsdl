import Proofs.Reader
/-! Doc comments of the reader model (C03: "with its attached comment"): an abstract doc automaton `DV`, the proof that
    the reader simulates it, and the proof that the doc automaton attaches to every attribute the forward comment run
    that follows its statement. -/
namespace Reader

/-! ### what the source says -/

def joinC (acc t : String) : String := (if acc ≠ "" then acc ++ "\n" else "") ++ cleanComment t

def accLine (acc : String) (l : Line) : String :=
  match l.comment with
  | some t => joinC acc t
  | none => acc

/-- the comment text that belongs to what precedes `rest`: the comments of the following lines up to (excluding) the
    next line that holds a statement or is empty -/
def commentRun (acc : String) : List Line → String
  | [] => acc
  | l :: rest => if l.stmt.isSome || l.textEmpty then acc else commentRun (accLine acc l) rest

/-- the doc of the statement on line `l`: its trailing comment and the comment run that follows -/
def docAfter (l : Line) (rest : List Line) : String := commentRun (accLine "" l) rest

/-- every attribute statement with its doc, in source order -/
def attrDocs : List Line → List (Core × String)
  | [] => []
  | l :: rest =>
    match l.stmt with
    | some (.attr c) => (c, docAfter l rest) :: attrDocs rest
    | _ => attrDocs rest

/-- the header docs of the schemas that start at a `---` -/
def markerDocs : List Line → List String
  | [] => []
  | l :: rest =>
    match l.stmt with
    | some .marker => docAfter l rest :: markerDocs rest
    | _ => markerDocs rest

def isConst (p : Core × String) : Bool := p.1.kind == .const

/-- a line whose text is empty holds neither a statement nor a comment -/
def Line.wf (l : Line) : Prop := l.textEmpty = true → l.stmt = none ∧ l.comment = none

instance Line.decidableWf (l : Line) : Decidable l.wf := by unfold Line.wf; infer_instance

/-! ### the doc automaton -/

structure DS where
  fields : List (Core × String)
  consts : List (Core × String)
  doc : String
  deriving Repr, DecidableEq

structure DV where
  done : List DS
  cur : DS
  pend : Option Core
  comment : String
  header : Bool
  deriving Repr, DecidableEq

def DS.add (d : DS) (c : Core) (doc : String) : DS :=
  match c.kind with
  | .const => { d with consts := d.consts ++ [(c, doc)] }
  | _ => { d with fields := d.fields ++ [(c, doc)] }

def dflush (v : DV) : DV :=
  if v.header then { v with cur := { v.cur with doc := v.comment }, header := false, comment := "" }
  else match v.pend with
    | some c => { v with cur := v.cur.add c v.comment, pend := none, header := false, comment := "" }
    | none => { v with header := false, comment := "" }

/-- the statement visitor: flush, then the builder's handler -/
def dstmt (v : DV) (st : Stmt) : DV :=
  match st with
  | .attr c => { dflush v with pend := some c }
  | .directive .. => dflush v
  | .marker => let f := dflush v; { f with done := f.done ++ [f.cur], cur := ⟨[], [], ""⟩, header := true }

def dstep (v : DV) (l : Line) : DV :=
  let v1 := match l.stmt with
    | none => v
    | some st => dstmt v st
  let v2 := { v1 with comment := accLine v1.comment l }
  if l.textEmpty then dflush v2 else v2

def drun (v : DV) (ls : List Line) : DV := ls.foldl dstep v

def DV.fieldsAll (v : DV) : List (Core × String) := (v.done ++ [v.cur]).flatMap (·.fields)
def DV.constsAll (v : DV) : List (Core × String) := (v.done ++ [v.cur]).flatMap (·.consts)
def DV.docsAll (v : DV) : List String := (v.done ++ [v.cur]).map (·.doc)

def DV.inv (v : DV) : Prop := v.pend.isSome → v.header = false

/-- `v'` holds what `v` holds and, behind it, the documented attributes `as` and the schema docs `ds` -/
def DV.Ext (v v' : DV) (as : List (Core × String)) (ds : List String) : Prop :=
  v'.fieldsAll = v.fieldsAll ++ as.filter (fun p => !isConst p) ∧
  v'.constsAll = v.constsAll ++ as.filter isConst ∧
  v'.docsAll = v.docsAll ++ ds

theorem DV.Ext.refl (v : DV) : v.Ext v [] [] := by simp [DV.Ext]

theorem DV.Ext.trans {v₁ v₂ v₃ : DV} {as as' ds ds'} (h₁ : v₁.Ext v₂ as ds) (h₂ : v₂.Ext v₃ as' ds') :
    v₁.Ext v₃ (as ++ as') (ds ++ ds') := by
  obtain ⟨a1, a2, a3⟩ := h₁
  obtain ⟨b1, b2, b3⟩ := h₂
  exact ⟨by rw [b1, a1]; simp, by rw [b2, a2]; simp, by rw [b3, a3]; simp⟩

theorem dflush_inv (v : DV) (hi : v.inv) : (dflush v).pend = none ∧ (dflush v).header = false ∧ (dflush v).comment = "" := by
  unfold dflush
  cases hh : v.header
  · cases v.pend <;> exact ⟨rfl, rfl, rfl⟩
  · cases hp : v.pend with
    | none => simp
    | some c => simp [DV.inv, hp, hh] at hi

/-- a flushed state has nothing to attach a comment to -/
theorem dflush_flushed (v : DV) (hi : v.inv) (r : String) : dflush { dflush v with comment := r } = dflush v := by
  obtain ⟨h1, h2, h3⟩ := dflush_inv v hi
  generalize dflush v = u at *
  cases u
  simp_all [dflush]

/-- the documented attribute that a statement contributes, once the comment run `r` behind it is known -/
def stmtAttrs (st : Stmt) (r : String) : List (Core × String) :=
  match st with
  | .attr c => [(c, r)]
  | _ => []

/-- the schema doc that a statement contributes -/
def stmtDocs (st : Stmt) (r : String) : List String :=
  match st with
  | .marker => [r]
  | _ => []

theorem dstmt_inv (v : DV) (hi : v.inv) (st : Stmt) : (dstmt v st).inv ∧ (dstmt v st).comment = "" := by
  obtain ⟨h1, h2, h3⟩ := dflush_inv v hi
  cases st <;> simp [dstmt, DV.inv, h1, h2, h3]

/-- a statement attaches the comment run `r` behind it to its attribute, or to the schema it starts -/
theorem dstmt_ext (v : DV) (hi : v.inv) (st : Stmt) (r : String) :
    (dflush v).Ext (dflush { dstmt v st with comment := r }) (stmtAttrs st r) (stmtDocs st r) := by
  obtain ⟨h1, h2, h3⟩ := dflush_inv v hi
  cases st with
  | attr c =>
    simp only [dstmt]
    generalize dflush v = u at *
    cases hk : c.kind <;>
      simp [dflush, h2, DV.Ext, DV.fieldsAll, DV.constsAll, DV.docsAll, DS.add, hk, stmtAttrs, stmtDocs, isConst]
  | directive name e text =>
    rw [show dstmt v (.directive name e text) = dflush v from rfl, dflush_flushed v hi]
    exact DV.Ext.refl _
  | marker =>
    simp only [dstmt]
    generalize dflush v = u at *
    simp [dflush, DV.Ext, DV.fieldsAll, DV.constsAll, DV.docsAll, stmtAttrs, stmtDocs]

/-- the doc automaton attaches the forward comment runs -/
theorem drun_docs (ls : List Line) : ∀ (v : DV), v.inv → (∀ l ∈ ls, l.wf) →
    (dflush { v with comment := commentRun v.comment ls }).Ext (dflush (drun v ls)) (attrDocs ls) (markerDocs ls) := by
  induction ls with
  | nil => intro v _ _; exact DV.Ext.refl _
  | cons l rest ih =>
    intro v hi hwf
    have hl : l.wf := hwf l (List.mem_cons_self ..)
    have hrest : ∀ x ∈ rest, x.wf := fun x hx => hwf x (List.mem_cons_of_mem _ hx)
    show DV.Ext _ (dflush (drun (dstep v l) rest)) _ _
    cases hs : l.stmt with
    | none =>
      by_cases he : l.textEmpty = true
      · -- an empty line: flush now; what follows is attached to nothing
        have hv : dstep v l = dflush v := by simp [dstep, hs, he, accLine, (hl he).2]
        have := ih (dflush v) (fun h => by simp [(dflush_inv v hi).1] at h) hrest
        rw [dflush_flushed v hi] at this
        simpa [hv, commentRun, hs, he, attrDocs, markerDocs] using this
      · -- a comment-only or blank-only line: the comment accumulates
        have hv : dstep v l = { v with comment := accLine v.comment l } := by simp [dstep, hs, he]
        have := ih { v with comment := accLine v.comment l } hi hrest
        simpa [hv, commentRun, hs, he, attrDocs, markerDocs] using this
    | some st =>
      have he : l.textEmpty = false := by
        cases he : l.textEmpty with
        | false => rfl
        | true => have := (hl he).1; rw [hs] at this; cases this
      obtain ⟨hi', hc⟩ := dstmt_inv v hi st
      have hv : dstep v l = { dstmt v st with comment := accLine "" l } := by simp [dstep, hs, he, hc]
      have h1 := dstmt_ext v hi st (docAfter l rest)
      have h2 := ih { dstmt v st with comment := accLine "" l } hi' hrest
      have := h1.trans h2
      cases st <;> simpa [hv, commentRun, hs, attrDocs, markerDocs, stmtAttrs, stmtDocs, docAfter] using this

/-! ### the reader simulates the doc automaton -/

def Schema.ds (sc : Schema) : DS :=
  ⟨sc.fields.map (fun a => (a.core, a.doc)), sc.consts.map (fun a => (a.core, a.doc)), sc.doc⟩

def St.dv (s : St) : DV := ⟨s.done.map Schema.ds, s.cur.ds, s.pending.map (·.1.core), s.comment, s.header⟩

theorem ds_add (sc : Schema) (a : Attr) : (sc.add a).ds = sc.ds.add a.core a.doc := by
  unfold Schema.add DS.add
  cases a.core.kind <;> simp [Schema.ds]

theorem flushed_dv (s : St) : s.flushed.dv = dflush s.dv := by
  unfold St.flushed dflush
  cases hh : s.header
  · rcases hp : s.pending with _ | ⟨a, bad⟩ <;> simp [St.dv, hh, hp, ds_add]
  · simp [St.dv, hh, Schema.ds]

/-- the visit of a statement on the docs: flush, then the builder's handler -/
theorem visited_dv (c : Ctx) (k : Nat) (l : Line) (st : Stmt) (s : St) (w : W) :
    ((s.ready l w).handled c k l st).dv = dstmt s.dv st := by
  have e : dflush s.dv = (s.ready l w).dv := by rw [← flushed_dv, St.ready, markOffs_eq]; rfl
  cases st <;> simp only [dstmt, e] <;> generalize s.ready l w = r
  · rfl
  · rfl
  · simp [St.handled, St.dv, Schema.ds, Schema.empty]

theorem stepLine_dv {c k l s s'} (h : stepLine c k s l = .ok s') (hi : s.inv) : s'.dv = dstep s.dv l := by
  obtain ⟨s1, hs1, rfl⟩ := stepLine_ok hi h
  have e1 : s1.dv = (match l.stmt with | none => s.dv | some st => dstmt s.dv st) := by
    rcases hs1 with ⟨hl, rfl⟩ | ⟨st, w, hl, rfl, _⟩ <;> rw [hl]
    exact visited_dv c k l st s w
  have e2 : (addLineComment l s1).dv = { s1.dv with comment := accLine s1.dv.comment l } := by
    unfold addLineComment accLine
    cases l.comment <;> rfl
  unfold dstep
  split <;> simp only [flushed_dv, e2, e1]

theorem runLines_dv {c} (ls : List Line) : ∀ {k s s'}, s.inv → runLines c k s ls = .ok s' → s'.dv = drun s.dv ls := by
  induction ls with
  | nil => intro k s s' _ h; cases h; rfl
  | cons l ls ih =>
    intro k s s' hi h
    simp only [runLines, bind_ok] at h
    obtain ⟨s1, h1, h2⟩ := h
    rw [ih (stepLine_spec hi h1).1 h2, stepLine_dv h1 hi]
    rfl

/-- an accepted text of well-formed lines: every attribute carries the comment run that follows its statement, every
    schema the comment run at its start -/
theorem readText_docs {c ls w comp w'} (hwf : ∀ l ∈ ls, l.wf) (h : readText c ls w = .ok (comp, w')) :
    comp.schemas.flatMap (fun sc => sc.fields.map fun a => (a.core, a.doc)) = (attrDocs ls).filter (fun p => !isConst p) ∧
    comp.schemas.flatMap (fun sc => sc.consts.map fun a => (a.core, a.doc)) = (attrDocs ls).filter isConst ∧
    comp.schemas.map (·.doc) = commentRun "" ls :: markerDocs ls := by
  obtain ⟨s, _, hs, _, _, rfl, _⟩ := readText_ok h
  have hinit := inv_init w
  have := drun_docs ls (St.init w).dv hinit hwf
  rw [← runLines_dv ls hinit hs, ← flushed_dv] at this
  obtain ⟨d1, d2, d3⟩ := this
  simp only [DV.fieldsAll, DV.constsAll, DV.docsAll, St.dv, Schema.ds] at d1 d2 d3
  refine ⟨?_, ?_, ?_⟩
  · rw [show (fun sc : Schema => List.map (fun a => (a.core, a.doc)) sc.fields) = (fun sc => (Schema.ds sc).fields) from rfl]
    simpa [St.init, Schema.ds, Schema.empty, dflush, List.flatMap_map] using d1
  · rw [show (fun sc : Schema => List.map (fun a => (a.core, a.doc)) sc.consts) = (fun sc => (Schema.ds sc).consts) from rfl]
    simpa [St.init, Schema.ds, Schema.empty, dflush, List.flatMap_map] using d2
  · simpa [St.init, Schema.ds, Schema.empty, dflush, Function.comp_def] using d3

end Reader
