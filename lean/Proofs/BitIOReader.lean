import Proofs.BitIOWriter
/-! `_BitReader`: both code paths, with and without a limit, read the next bits of the zero-extended window. -/
namespace BitIO

theorem takeZ_length (n : ℕ) (s : List Bool) : (takeZ n s).length = n := by
  simp only [takeZ, List.length_append, List.length_take, zeros_length]; omega

theorem ofBits_zeros (k : ℕ) : ofBits (zeros k) = 0 := by
  induction k with
  | zero => rfl
  | succ k ih => simp [zeros_succ, ofBits, ih]

theorem ofBits_append (a b : List Bool) : ofBits (a ++ b) = ofBits a + 2 ^ a.length * ofBits b := by
  induction a with
  | nil => simp [ofBits]
  | cons x a ih => simp only [List.cons_append, ofBits, ih, List.length_cons, pow_succ]; ring

theorem ofBits_append_zeros (a : List Bool) (k : ℕ) : ofBits (a ++ zeros k) = ofBits a := by
  rw [ofBits_append, ofBits_zeros]; simp

theorem ofBits_lt (a : List Bool) : ofBits a < 2 ^ a.length := by
  induction a with
  | nil => simp [ofBits]
  | cons x a ih => simp only [ofBits, List.length_cons, pow_succ]; split <;> omega

/-- the bit-wise loop collects the zero-extended next `n` bits -/
theorem map_bitAt (data : List Bool) (off n : ℕ) :
    ((List.range n).map fun i => bitAt data (off + i)) = takeZ n (data.drop off) := by
  apply List.ext_getElem
  · simp [takeZ_length]
  · intro i h1 h2
    simp only [List.length_map, List.length_range] at h1
    simp only [List.getElem_map, List.getElem_range, bitAt, takeZ]
    by_cases hi : off + i < data.length
    · have : i < ((data.drop off).take n).length := by simp; omega
      rw [List.getElem_append_left this]
      simp [List.getD_eq_getElem?_getD, hi]
    · have hlen : ((data.drop off).take n).length ≤ i := by simp; omega
      rw [List.getElem_append_right hlen]
      simp only [List.getD_eq_getElem?_getD, zeros, List.getElem_replicate]
      rw [List.getElem?_eq_none (by omega)]; rfl

theorem takeZ_add (a b : ℕ) (s : List Bool) : takeZ (a + b) s = takeZ a s ++ takeZ b (s.drop a) := by
  have e : ∀ n, ((List.range n).map fun i => bitAt s i) = takeZ n s := by
    intro n; have := map_bitAt s 0 n; simpa using this
  rw [← e (a + b), ← e a, ← map_bitAt s a b, List.range_add, List.map_append, List.map_map]
  rfl

/-- zero extension does not change the value -/
theorem ofBits_takeZ (n : ℕ) (s : List Bool) : ofBits (takeZ n s) = ofBits (s.take n) :=
  ofBits_append_zeros _ _

theorem slowRead_spec (r : Rd) (n : ℕ) :
    slowRead r n = (ofBits (takeZ n (r.data.drop r.off)), { r with off := r.off + n }) := by
  simp [slowRead, map_bitAt]

theorem fastRead_spec (r : Rd) (n : ℕ) (ha : r.off % 8 = 0) :
    fastRead r n = (ofBits (takeZ n (r.data.drop r.off)), { r with off := r.off + n }) := by
  have hoff : 8 * (r.off / 8) = r.off := by omega
  have hn : n = 8 * (n / 8) + n % 8 := (Nat.div_add_mod n 8).symm
  have hchunk : (r.data.drop r.off).take (8 * (n / 8)) ++ zeros (8 * (n / 8) - ((r.data.drop r.off).take (8 * (n / 8))).length)
      = takeZ (8 * (n / 8)) (r.data.drop r.off) := by
    simp only [takeZ, List.length_take]; congr 2; omega
  unfold fastRead
  simp only [hoff, hchunk]
  by_cases hrem : n % 8 > 0
  · rw [if_pos hrem, slowRead_spec]
    simp only [Prod.mk.injEq]
    constructor
    · conv_rhs => rw [hn, takeZ_add, ofBits_append, takeZ_length]
      rw [List.drop_drop]
      have hlt := ofBits_lt (takeZ (8 * (n / 8)) (r.data.drop r.off))
      rw [takeZ_length] at hlt
      rw [Nat.or_comm, ← Nat.shiftLeft_add_eq_or_of_lt hlt, Nat.shiftLeft_eq]
      ring
    · congr 1; omega
  · rw [if_neg hrem]
    have h0 : n % 8 = 0 := by omega
    have : 8 * (n / 8) = n := by omega
    simp [this]

theorem rawRead_spec (r : Rd) (n : ℕ) :
    rawRead r n = (ofBits (takeZ n (r.data.drop r.off)), { r with off := r.off + n }) := by
  unfold rawRead
  split
  · next h => exact fastRead_spec r n h.1
  · exact slowRead_spec r n

/-- moving forward by `k` drops `k` bits of the window -/
theorem window_adv (r : Rd) (k : ℕ) (h : r.start ≤ r.off) :
    ({ r with off := r.off + k } : Rd).window = r.window.drop k := by
  obtain ⟨data, start, off, _ | lim⟩ := r
  · simp only [Rd.window, List.drop_drop]
  · replace h : start ≤ off := h
    simp only [Rd.window, List.drop_take, List.drop_drop]
    congr 1; omega

/-- `read_bits(n)` with a limit reads `min n available` bits and advances by `n`; since zero extension does not
    change the value, that is the value of the next `n` bits of the window. -/
theorem readBits_eq (r : Rd) (n : ℕ) :
    readBits r n = (ofBits (takeZ n r.window), { r with off := r.off + n }) := by
  obtain ⟨data, start, off, _ | lim⟩ := r
  · exact rawRead_spec _ n
  · simp only [readBits, Rd.window, rawRead_spec, ofBits_takeZ, List.take_take]
    split
    · next h0 => rw [h0, Nat.min_zero, List.take_zero]; rfl
    · split
      · next hgt => rw [Nat.min_eq_right (Nat.le_of_lt hgt), Nat.add_assoc, Nat.add_sub_cancel' (Nat.le_of_lt hgt)]
      · next hle => rw [Nat.min_eq_left (Nat.le_of_not_lt hle)]

/-- **Reader refinement.** `read_bits(n)` — either code path, with or without a limit — returns the next `n` bits of
    the window extended with zeros, advances by exactly `n`, and the rest of the window is what remains. -/
theorem readBits_spec (r : Rd) (n : ℕ) (hs : r.start ≤ r.off) :
    (readBits r n).1 = ofBits (takeZ n r.window) ∧
    (readBits r n).2 = { r with off := r.off + n } ∧
    (readBits r n).2.window = r.window.drop n := by
  rw [readBits_eq]
  exact ⟨rfl, rfl, window_adv r n hs⟩

/-- `remaining_bits` is the length of the window (for a reader positioned inside its data). -/
theorem remaining_spec (r : Rd) (h : r.limit = none ∨ ∃ lim, r.limit = some lim ∧ r.off + (lim - (r.off - r.start)) ≤ r.data.length) :
    r.remaining = r.window.length := by
  rcases h with h | ⟨lim, h, hle⟩
  · simp [Rd.remaining, Rd.window, h]
  · simp only [Rd.remaining, Rd.window, h, List.length_take, List.length_drop]; omega

end BitIO
