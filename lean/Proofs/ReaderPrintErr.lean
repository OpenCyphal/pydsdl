import Proofs.ReaderPrint
import Proofs.ReaderCause
/-! `@print` deliveries in front of an error (C17.prints_before_error): a failed read of a definition without references
    has delivered exactly the `@print` statements that stand in front of the reported line — also when the reported line
    is the line of a lazily committed attribute and the error was raised several lines later. -/
namespace Reader

/-- the lines whose number is smaller than `n`; `k` is the number of the first line, numbers advance with `Line.next` -/
def linesBefore (n : Nat) : Nat → List Line → List Line
  | _, [] => []
  | k, l :: ls => if k < n then l :: linesBefore n (l.next k) ls else []

theorem linesBefore_ge {n k : Nat} (h : n ≤ k) (ls : List Line) : linesBefore n k ls = [] := by
  cases ls with
  | nil => rfl
  | cons l ls => simp only [linesBefore]; rw [if_neg (by omega)]

theorem le_lineAfter (ls : List Line) : ∀ k, k ≤ lineAfter k ls := by
  induction ls with
  | nil => intro k; exact Nat.le_refl k
  | cons l ls ih => intro k; exact Nat.le_trans (by unfold Line.next; omega) (ih (l.next k))

/-- the lines in front of the line that follows `pre` are the lines `pre` -/
theorem linesBefore_lineAfter (pre : List Line) (l : Line) (post : List Line) :
    ∀ k, linesBefore (lineAfter k pre) k (pre ++ l :: post) = pre := by
  induction pre with
  | nil => intro k; exact linesBefore_ge (Nat.le_refl k) _
  | cons x pre ih =>
    intro k
    have hk : k < lineAfter k (x :: pre) := Nat.lt_of_lt_of_le (by unfold Line.next; omega) (le_lineAfter pre (x.next k))
    simp only [List.cons_append, linesBefore, if_pos hk]
    exact congrArg _ (ih (x.next k))

/-- an error whose line has a cause in a definition without references: the world is the one the lines in front of that
    line left, so exactly their `@print`s have been delivered -/
theorem LineCause.prints {c w ls n w'} (hd : ∀ l ∈ ls, l.deps = []) (h : LineCause c w ls n w') :
    w'.cached = w.cached ∧ w'.prints = w.prints ++ specPrints c.printFile 1 (linesBefore n 1 ls) := by
  obtain ⟨pre, l, post, s0, rfl, rfl, hrun, halt⟩ := h
  have hl : l.deps = [] := hd l (by simp)
  have hi := (runLines_spec pre (inv_init w) hrun).1
  have hw : w' = s0.w := by
    rcases halt with ⟨st, _, hv⟩ | ⟨core, s1, _, hv, rfl, _⟩
    · rcases visitStmt_err hi hv with ⟨_, hw⟩ | ⟨_, j, _, hj, _⟩ | ⟨_, _, hw⟩
      · exact hw hl
      · rw [hl] at hj; cases hj
      · exact hw
    · obtain ⟨_, w3, rfl, hw⟩ := visitStmt_ok hi hv
      exact hw hl
  rw [hw, linesBefore_lineAfter]
  exact runLines_w pre (fun x hx => hd x (List.mem_append.mpr (Or.inl hx))) (inv_init w) hrun

/-- END TO END: a failed read of a definition without references.  The error carries the own path, the cache is untouched,
    and
      * a text that does not match the grammar has delivered nothing;
      * an error with line `n` has delivered exactly the `@print` statements in front of line `n`, each once, in source
        order, with its own line — none at or behind line `n`, also when line `n` is the line of a lazily committed attribute
        and the error was raised later;
      * an error without a line (finalize) has delivered all of them. -/
theorem readText_prints_err {c ls w e w'} (hd : ∀ l ∈ ls, l.deps = []) (h : readText c ls w = .error (e, w')) :
    e.file = c.self ∧ w'.cached = w.cached ∧
    (∀ k, firstSyntaxError 1 ls = some k → e.line = some k ∧ w' = w) ∧
    (firstSyntaxError 1 ls = none →
      (∀ n, e.line = some n → w'.prints = w.prints ++ specPrints c.printFile 1 (linesBefore n 1 ls)) ∧
      (e.line = none → w'.prints = w.prints ++ specPrints c.printFile 1 ls)) := by
  cases hsyn : firstSyntaxError 1 ls with
  | some k =>
    have hx : (e, w') = (⟨c.self, some k⟩, w) := by
      unfold readText at h; rw [hsyn] at h; cases h; rfl
    cases hx
    refine ⟨rfl, rfl, fun k' hk' => ?_, fun h0 => ?_⟩
    · cases hk'; exact ⟨rfl, rfl⟩
    · cases h0
  | none =>
    rcases readText_cause hsyn h with ⟨l, hl, _, j, _, hj, _⟩ | ⟨rfl, s, hs, rfl⟩ | ⟨n, rfl, hc⟩
    · rw [hd l hl] at hj; cases hj
    · obtain ⟨r1, r2⟩ := runLines_w ls hd (inv_init w) hs
      refine ⟨rfl, r1, fun k hk => ?_, fun _ => ⟨fun n hn => ?_, fun _ => r2⟩⟩
      · cases hk
      · cases hn
    · obtain ⟨p1, p2⟩ := hc.prints hd
      refine ⟨rfl, p1, fun k hk => ?_, fun _ => ⟨fun n' hn' => ?_, fun h0 => ?_⟩⟩
      · cases hk
      · cases hn'; exact p2
      · cases h0

end Reader
