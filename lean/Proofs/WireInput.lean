import Proofs.WireValid
/-! The input half of serialization: cast modes, defaults, and the fact that whatever `coerce` accepts becomes
    a valid canonical value (so the round trip theorem applies to everything `serialize` produces). -/
namespace Wire

/-! ### cast modes -/

/-- saturation to the half-open range `[lo, hi)` -/
theorem clamp_pred (lo hi i : Int) (h : lo < hi) :
    clamp lo (hi - 1) i = if i < lo then lo else if hi ≤ i then hi - 1 else i := by
  unfold clamp
  omega

theorem clamp_pred_range (lo hi i : Int) (h : lo < hi) : lo ≤ clamp lo (hi - 1) i ∧ clamp lo (hi - 1) i < hi := by
  unfold clamp
  omega

theorem castU_sat (n : Nat) (i : Int) :
    castU n .sat i = if i < 0 then 0 else if (2:Int)^n ≤ i then (2:Int)^n - 1 else i :=
  clamp_pred 0 _ i (pow_pos_int n)

theorem castU_trunc_range (n : Nat) (i : Int) : 0 ≤ castU n .trunc i ∧ castU n .trunc i < (2:Int)^n := by
  have hp := pow_pos_int n
  exact ⟨Int.emod_nonneg i (Int.ne_of_gt hp), Int.emod_lt_of_pos i hp⟩

theorem castU_trunc_congr (n : Nat) (i : Int) : (castU n .trunc i - i) % (2:Int)^n = 0 := by
  simp only [castU]
  rw [Int.sub_emod, Int.emod_emod, Int.sub_self, Int.zero_emod]

theorem castU_range (n : Nat) (c : Cast) (i : Int) : 0 ≤ castU n c i ∧ castU n c i < (2:Int)^n := by
  cases c with
  | trunc => exact castU_trunc_range n i
  | sat => exact clamp_pred_range 0 _ i (pow_pos_int n)

theorem castS_sat (n : Nat) (i : Int) :
    castS n .sat i = if i < -((2:Int)^(n-1)) then -((2:Int)^(n-1))
                     else if (2:Int)^(n-1) ≤ i then (2:Int)^(n-1) - 1 else i :=
  clamp_pred _ _ i (Int.lt_trans (Int.neg_neg_of_pos (pow_pos_int _)) (pow_pos_int _))

theorem castS_range (n : Nat) (c : Cast) (i : Int) (hn : 1 ≤ n) :
    -((2:Int)^(n-1)) ≤ castS n c i ∧ castS n c i < (2:Int)^(n-1) := by
  cases c with
  | trunc => exact ofTwos_range n _ hn (toTwos_lt n i)
  | sat => exact clamp_pred_range _ _ i (Int.lt_trans (Int.neg_neg_of_pos (pow_pos_int _)) (pow_pos_int _))

theorem toTwos_cast (n : Nat) (i : Int) : ((toTwos n i : Nat) : Int) = i % (2:Int)^n :=
  Int.toNat_of_nonneg (Int.emod_nonneg i (Int.ne_of_gt (pow_pos_int n)))

/-- truncated signed cast: the result is congruent to the input modulo `2^n` -/
theorem castS_trunc_congr (n : Nat) (i : Int) : (castS n .trunc i - i) % (2:Int)^n = 0 := by
  have hto := toTwos_cast n i
  simp only [castS, ofTwos]
  split
  · rw [hto]
    rw [Int.sub_sub, Int.add_comm, ← Int.sub_sub, Int.sub_emod, Int.emod_self, Int.sub_zero, Int.emod_emod]
    rw [Int.sub_emod, Int.emod_emod, Int.sub_self, Int.zero_emod]
  · rw [hto, Int.sub_emod, Int.emod_emod, Int.sub_self, Int.zero_emod]

theorem castU8_range (i : Int) : 0 ≤ castU 8 .trunc i ∧ castU 8 .trunc i < 256 := castU_trunc_range 8 i

theorem castU8_small (b : Nat) (h : b < 256) : castU 8 .trunc (b : Int) = b :=
  Int.emod_eq_of_lt (Int.natCast_nonneg b) (Int.ofNat_lt.mpr h)

/-! ### defaults -/

mutual
theorem dflt_valid : ∀ (t : Ty), t.wf = true → valid t (dflt t) = true
  | .bool | .uint _ _ | .sint _ _ | .float _ _ | .byte | .utf8 | .void _ => dflt_valid_prim rfl
  | .farr e cap => fun hw =>
      valid_farr.mpr ⟨_, rfl, List.length_replicate, fun _ h =>
        List.eq_of_mem_replicate h ▸ dflt_valid e (wf_farr.mp hw).1⟩
  | .varr e cap => fun _ => valid_varr.mpr ⟨[], rfl, Nat.zero_le _, nofun, Or.inr rfl⟩
  | .struct fs m => fun hw => dfltFields_valid fs (wf_struct.mp hw).1
  | .union fs m => fun hw => by
      obtain ⟨hwf, _, h2, _⟩ := wf_union.mp hw
      match fs, hwf, h2 with
      | t :: _, hwf, _ => exact dflt_valid t (wfFields_cons.mp hwf).1
theorem dfltFields_valid : ∀ (ts : List Ty), wfFields ts = true → validFields ts (dfltFields ts) = true
  | [], _ => rfl
  | t :: ts, hw =>
      validFields_cons.mpr ⟨_, _, rfl, dflt_valid t (wfFields_cons.mp hw).1,
        dfltFields_valid ts (wfFields_cons.mp hw).2.2⟩
end

/-- a field whose key is missing from the dict is encoded as its default -/
theorem coerceFields_omitted : ∀ (ts : List Ty) (i : Nat) (kvs : List (Nat × Inp)) (vs : List Val),
    coerceFields ts i kvs = .ok vs → ∀ (j : Nat) (t : Ty), ts[j]? = some t → lookupKey (i + j) kvs = none →
      vs[j]? = some (dflt t)
  | [] => fun _ _ _ _ j t hj _ => by cases hj
  | t0 :: ts => fun i kvs vs h j t hj hk => by
      simp only [coerceFields, bind_ok] at h
      obtain ⟨v, hv, vs', hvs, hd⟩ := h
      cases hd
      cases j with
      | zero =>
        cases hj
        rw [Nat.add_zero] at hk
        simp only [hk] at hv
        split at hv
        · -- a padding field: its default is the unit value it always gets
          rename_i hvoid
          cases hv
          cases t0 <;> first | rfl | cases hvoid
        · cases hv; rfl
      | succ j =>
        exact coerceFields_omitted ts (i+1) kvs vs' hvs j t hj (by rw [Nat.add_assoc, Nat.add_comm 1 j]; exact hk)

/-! ### everything `coerce` accepts is valid -/

theorem coerceList_valid {f : Inp → Except Err Val} {P : Val → Prop} :
    ∀ (xs : List Inp) (vs : List Val), (∀ x ∈ xs, ∀ v, f x = .ok v → P v) → coerceList f xs = .ok vs →
      vs.length = xs.length ∧ ∀ v ∈ vs, P v
  | [] => fun vs _ h => by simp only [coerceList] at h; cases h; simp
  | x :: xs => fun vs hf h => by
      simp only [coerceList, bind_ok] at h
      obtain ⟨v, hv, vs', hvs, hd⟩ := h
      cases hd
      obtain ⟨hl, hP⟩ := coerceList_valid xs vs' (fun y hy => hf y (List.mem_cons_of_mem _ hy)) hvs
      exact ⟨congrArg (· + 1) hl, List.forall_mem_cons.mpr ⟨hf x (List.mem_cons_self ..) v hv, hP⟩⟩

/-- the only input a UTF-8 array accepts is a valid byte string -/
theorem seqOf_utf8 {x : Inp} {xs : List Inp} (h : seqOf .utf8 x = .ok xs) :
    ∃ bs : List Nat, (∀ b ∈ bs, b < 256) ∧ validUtf8 bs = true ∧ xs = bs.map fun (b : Nat) => Inp.int (b : Int) := by
  cases x <;> try cases h
  next bs =>
    simp only [seqOf] at h
    split at h <;> cases h
    rename_i hok
    simp only [Bool.and_eq_true, List.all_eq_true, decide_eq_true_eq] at hok
    exact ⟨bs, hok.1, hok.2, rfl⟩

/-- … and it is mapped to itself -/
theorem coerceList_bytes : ∀ (bs : List Nat) (vs : List Val), (∀ b ∈ bs, b < 256) →
    coerceList (fun y => coerce .utf8 y) (bs.map fun (b : Nat) => Inp.int (b : Int)) = .ok vs →
    vs.map Val.byteOf = bs
  | [] => fun vs _ h => by cases h; rfl
  | b :: bs => fun vs hb h => by
      simp only [List.map_cons, coerceList, coerce, Inp.num?, bind_ok] at h
      obtain ⟨v, hv, vs', hvs, hd⟩ := h
      cases hd
      cases hv
      rw [List.map_cons, coerceList_bytes bs vs' (fun c hc => hb c (List.mem_cons_of_mem _ hc)) hvs,
        castU8_small b (hb b (List.mem_cons_self ..))]
      rfl

mutual
theorem coerce_valid : ∀ (t : Ty) (x : Inp) (v : Val), t.wf = true → coerce t x = .ok v → valid t v = true
  | .bool => fun x v _ h => by
      simp only [coerce] at h
      split at h <;> cases h <;> rfl
  | .uint n c => fun x v _ h => by
      simp only [coerce] at h
      split at h <;> cases h
      simp only [valid, Bool.and_eq_true, decide_eq_true_eq]
      exact castU_range n c _
  | .sint n c => fun x v hw h => by
      simp only [coerce] at h
      split at h <;> cases h
      simp only [valid, Bool.and_eq_true, decide_eq_true_eq]
      exact castS_range n c _ (Nat.le_of_succ_le (wf_sint.mp hw).1)
  | .float n c => fun x v _ h => by
      simp only [coerce] at h
      split at h <;> try cases h
      split at h <;> cases h
      rename_i hb
      simpa only [valid, decide_eq_true_eq] using hb
  | .byte | .utf8 => fun x v _ h => by
      simp only [coerce] at h
      split at h <;> cases h
      simp only [valid, Bool.and_eq_true, decide_eq_true_eq]
      exact castU8_range _
  | .void _ => fun x v _ h => by cases h; rfl
  | .farr e cap => fun x v hw h => by
      simp only [coerce, bind_ok] at h
      obtain ⟨xs, _, h⟩ := h
      split at h <;> try cases h
      rename_i hlen
      simp only [bind_ok] at h
      obtain ⟨vs, hvs, hd⟩ := h
      cases hd
      obtain ⟨hl, hv⟩ := coerceList_valid xs vs (fun y _ w => coerce_valid e y w (wf_farr.mp hw).1) hvs
      exact valid_farr.mpr ⟨vs, rfl, by simpa [hl] using hlen, hv⟩
  | .varr e cap => fun x v hw h => by
      simp only [coerce, bind_ok] at h
      obtain ⟨xs, hxs, h⟩ := h
      split at h <;> try cases h
      rename_i hlen
      simp only [bind_ok] at h
      obtain ⟨vs, hvs, hd⟩ := h
      cases hd
      obtain ⟨hl, hv⟩ := coerceList_valid xs vs (fun y _ w => coerce_valid e y w (wf_varr.mp hw).1) hvs
      refine valid_varr.mpr ⟨vs, rfl, hl ▸ Nat.not_lt.mp hlen, hv, ?_⟩
      cases hu : e.isUtf8 with
      | false => exact Or.inl rfl
      | true =>
        cases isUtf8_eq e hu
        obtain ⟨bs, hb, hbs, rfl⟩ := seqOf_utf8 hxs
        exact Or.inr (coerceList_bytes bs vs hb hvs ▸ hbs)
  | .struct fs m => fun x v hw h => by
      simp only [coerce] at h
      split at h <;> try cases h
      split at h <;> try cases h
      simp only [bind_ok] at h
      obtain ⟨vs, hvs, hd⟩ := h
      cases hd
      exact coerceFields_valid fs _ _ vs (wf_struct.mp hw).1 hvs
  | .union fs m => fun x v hw h => by
      simp only [coerce] at h
      split at h <;> try cases h
      split at h <;> try cases h
      simp only [bind_ok] at h
      obtain ⟨w, hw', hd⟩ := h
      cases hd
      exact coerceVariant_valid fs _ _ w (wf_union.mp hw).1 hw'
theorem coerceFields_valid : ∀ (ts : List Ty) (i : Nat) (kvs : List (Nat × Inp)) (vs : List Val),
    wfFields ts = true → coerceFields ts i kvs = .ok vs → validFields ts vs = true
  | [] => fun _ _ vs _ h => by cases h; rfl
  | t :: ts => fun i kvs vs hw h => by
      obtain ⟨hwt, _, hwts⟩ := wfFields_cons.mp hw
      simp only [coerceFields, bind_ok] at h
      obtain ⟨v, hv, vs', hvs, hd⟩ := h
      cases hd
      refine validFields_cons.mpr ⟨v, vs', rfl, ?_, coerceFields_valid ts (i+1) kvs vs' hwts hvs⟩
      split at hv
      · rename_i hvoid
        cases hv
        cases t <;> first | rfl | cases hvoid
      · split at hv
        · exact coerce_valid t _ v hwt hv
        · cases hv; exact dflt_valid t hwt
theorem coerceVariant_valid : ∀ (ts : List Ty) (n : Nat) (x : Inp) (v : Val), wfFields ts = true →
    coerceVariant ts n x = .ok v → validVariant ts n v = true
  | [], _ => fun _ _ _ h => by cases h
  | t :: _, 0 => fun x v hw h => coerce_valid t x v (wfFields_cons.mp hw).1 h
  | _ :: ts, n+1 => fun x v hw h => coerceVariant_valid ts n x v (wfFields_cons.mp hw).2.2 h
end

end Wire
