import Model.Const
import Proofs.Expr
/-! Lemmas about the constant model (value ranges, UTF-8 length of a string initializer). -/
namespace Ex

theorem intRange_eq (n : Nat) (h : 1 ≤ n) : intRange n = (-(2:Int)^(n-1), (2:Int)^(n-1) - 1) := by
  obtain ⟨m, rfl⟩ : ∃ m, n = m + 1 := ⟨n - 1, by omega⟩
  simp only [intRange, Nat.one_shiftLeft, Nat.add_sub_cancel]
  have hp : (1:Int) ≤ 2 ^ m := by exact_mod_cast Nat.one_le_two_pow
  have : (((2 ^ (m+1) : Nat) : Int)) = 2 * 2 ^ m := by push_cast; ring
  rw [this]
  generalize (2:Int)^m = x at hp ⊢
  have : (2 * x - 1) / 2 = x - 1 := by omega
  rw [this]; simp

theorem uintRange_eq (n : Nat) : uintRange n = (0, (2:Int)^n - 1) := by
  simp [uintRange, Nat.one_shiftLeft]

theorem floatMagnitude_16 : floatMagnitude 16 = 65504 := by norm_num [floatMagnitude]
theorem floatMagnitude_32 : floatMagnitude 32 = ((2:Rat)^24 - 1) * 2^104 := by norm_num [floatMagnitude]
theorem floatMagnitude_64 : floatMagnitude 64 = ((2:Rat)^53 - 1) * 2^971 := by
  have h : (2:Rat)^(0x3FF : Nat) = 2^971 * 2^52 := by rw [← pow_add]
  simp only [floatMagnitude, h]
  generalize (2:Rat)^971 = x
  norm_num
  ring

theorem utf8Len_pos (c : Nat) : 1 ≤ utf8Len c := by
  unfold utf8Len; split <;> [omega; (split <;> [omega; (split <;> omega)])]

theorem utf8Len_eq_one (c : Nat) : utf8Len c = 1 ↔ c < 0x80 := by
  unfold utf8Len; split <;> [simp_all; (split <;> [simp_all; (split <;> simp_all)])]

theorem utf8_sum_eq_one (cs : List Nat) : (cs.map utf8Len).sum = 1 ↔ ∃ c, cs = [c] ∧ c < 0x80 := by
  match cs with
  | [] => simp
  | [c] => simp [utf8Len_eq_one]
  | c :: d :: r =>
    have h1 := utf8Len_pos c
    have h2 := utf8Len_pos d
    have : 0 ≤ (r.map utf8Len).sum := Nat.zero_le _
    simp only [List.map_cons, List.sum_cons]
    constructor
    · intro h; omega
    · rintro ⟨x, hx, _⟩; simp at hx

end Ex
