import Proofs.NamespaceBasic
/-! Lemmas for C09 / C19: reference resolution is exact; an induction principle for the recursive, caching reader. -/
namespace Ns

/-! ### `resolve` -/

theorem pick_ok {full : String} {F : List Def} {x : Def} (h : pick full F = .ok x) : F = [x] ∧ x.name = full := by
  match F, h with
  | [], h => simp [pick] at h
  | [y], h =>
    by_cases hn : (y.name != full) = true
    · simp [pick, hn] at h
    · simp only [pick, hn] at h
      have : y = x := by simpa using h
      subst this
      exact ⟨rfl, by simpa using hn⟩
  | y :: z :: _, h =>
    by_cases hn : (y.name != z.name) = true <;> simp [pick, hn] at h

theorem pick_error_class {full : String} {F : List Def} {e : Err} (h : pick full F = .error e) :
    e = .undefinedType ∨ e = .nameCollision ∨ e = .collision := by
  match F, h with
  | [], h => simp [pick] at h; simp [← h]
  | [y], h =>
    by_cases hn : (y.name != full) = true
    · simp [pick, hn] at h; simp [← h]
    · simp [pick, hn] at h
  | y :: z :: _, h =>
    by_cases hn : (y.name != z.name) = true <;> simp [pick, hn] at h <;> simp [← h]

theorem resolve_ok {L : List Def} {d : Def} {r : Ref} {x : Def} (h : resolve L d r = .ok x) :
    x ∈ L ∧ x.name = completeName d r.name ∧ x.major = r.major ∧ x.minor = r.minor ∧
      ∀ y ∈ L, refMatches (completeName d r.name) r.major r.minor y = true → y = x := by
  unfold resolve at h
  obtain ⟨hF, hn⟩ := pick_ok h
  have hx : x ∈ L.filter (refMatches (completeName d r.name) r.major r.minor) := by rw [hF]; simp
  have hm := (List.mem_filter.mp hx).2
  simp only [refMatches, Bool.and_eq_true, beq_iff_eq] at hm
  refine ⟨(List.mem_filter.mp hx).1, hn, hm.1.2, hm.2, ?_⟩
  intro y hy hmy
  have : y ∈ L.filter (refMatches (completeName d r.name) r.major r.minor) := List.mem_filter.mpr ⟨hy, hmy⟩
  rw [hF] at this
  simpa using this

/-! ### the reader: an induction principle

`R x t` is any relation between a definition and a type, `GoodL` any property of lookup lists that survives the removal
of a key.  If one step of `readBody` establishes `R` for its result, given a reader `rd` for the dependencies that
does, then so does `readObj` - for every lookup list, definition and cache whose entries satisfy `R`. -/

def CacheOk (R : Def → Ty → Prop) (st : St) : Prop := ∀ x t, (x, t) ∈ st.cache → R x t

def Spec1 (R : Def → Ty → Prop) (d : Def) (st : St) (out : Res Ty) : Prop :=
  CacheOk R st → CacheOk R out.2 ∧ ∀ t, out.1 = .ok t → R d t

theorem lookup_mem {α β : Type} [BEq α] [LawfulBEq α] {l : List (α × β)} {a : α} {b : β} (h : l.lookup a = some b) : (a, b) ∈ l := by
  induction l with
  | nil => simp [List.lookup] at h
  | cons p r ih =>
    obtain ⟨a', b'⟩ := p
    simp only [List.lookup] at h
    split at h
    · rename_i heq
      have : a = a' := by simpa using heq
      cases h; subst this; simp
    · exact List.mem_cons_of_mem _ (ih h)

theorem readObj_spec (au : Bool) (R : Def → Ty → Prop) (GoodL : List Def → Prop)
    (hdrop : ∀ L x, GoodL L → GoodL (dropKey L x))
    (hbody : ∀ (L : List Def) (d : Def) (rd : (x : Def) → x ∈ dropKey L d → St → Res Ty) (st : St), GoodL L →
      (∀ x hx s, Spec1 R x s (rd x hx s)) → Spec1 R d st (readBody au (dropKey L d) d rd st)) :
    ∀ (n : Nat) (L : List Def) (d : Def) (st : St), (dropKey L d).length = n → GoodL L → Spec1 R d st (readObj au L d st) := by
  intro n
  induction n using Nat.strongRecOn with
  | _ n ih =>
    intro L d st hn hL hc
    rw [readObj]
    split
    · rename_i t ht
      exact ⟨hc, fun t' h' => by cases h'; exact hc _ _ (lookup_mem ht)⟩
    · have hrd : ∀ x (hx : x ∈ dropKey L d) s, Spec1 R x s (readObj au (dropKey L d) x s) := by
        intro x hx s
        exact ih _ (by rw [← hn]; exact dropKey_length_lt hx) (dropKey L d) x s rfl (hdrop L d hL)
      have hb := hbody L d (fun x _ s => readObj au (dropKey L d) x s) st hL hrd hc
      split
      · rename_i t st' heq
        rw [heq] at hb
        refine ⟨?_, fun t' h' => by cases h'; exact hb.2 t rfl⟩
        intro x t' hm
        simp only [List.mem_cons] at hm
        rcases hm with hm | hm
        · cases hm; exact hb.2 t rfl
        · exact hb.1 x t' hm
      · rename_i e st' heq
        rw [heq] at hb
        exact ⟨hb.1, fun t' h' => by cases h'⟩

/-! ### the stand-alone type of a definition, declaratively -/

/-- `x` is the definition in the base lookup list `Lb` that the reference `r` of `d` names: full name equal to the
    completed reference, version exactly M.m, and every element of `Lb` with that (name, version) is `x` itself. -/
def ExactRef (Lb : List Def) (d : Def) (r : Ref) (x : Def) : Prop :=
  x ∈ Lb ∧ x.key = (completeName d r.name, r.major, r.minor) ∧ ∀ y ∈ Lb, y.key = x.key → y = x

theorem ExactRef.unique {Lb : List Def} {d : Def} {r : Ref} {x y : Def} (hx : ExactRef Lb d r x) (hy : ExactRef Lb d r y) : x = y :=
  (hy.2.2 x hx.1 (by rw [hx.2.1, hy.2.1]))

/-- the definitions the references of a statement list name, in order -/
def RefsTo (Lb : List Def) (d : Def) : List Stmt → List Def → Prop
  | [], xs => xs = []
  | .ref r :: rest, xs => ∃ x xs', xs = x :: xs' ∧ ExactRef Lb d r x ∧ RefsTo Lb d rest xs'
  | _ :: rest, xs => RefsTo Lb d rest xs

theorem RefsTo.unique {Lb : List Def} {d : Def} : ∀ {stmts : List Stmt} {xs ys : List Def},
    RefsTo Lb d stmts xs → RefsTo Lb d stmts ys → xs = ys
  | [], _, _, h1, h2 => by simp only [RefsTo] at h1 h2; rw [h1, h2]
  | .ref r :: rest, _, _, h1, h2 => by
    simp only [RefsTo] at h1 h2
    obtain ⟨x, xs', rfl, hx, h1'⟩ := h1
    obtain ⟨y, ys', rfl, hy, h2'⟩ := h2
    rw [hx.unique hy, RefsTo.unique h1' h2']
  | .prim _ :: rest, _, _, h1, h2 => by simp only [RefsTo] at h1 h2; exact RefsTo.unique h1 h2
  | .print _ :: rest, _, _, h1, h2 => by simp only [RefsTo] at h1 h2; exact RefsTo.unique h1 h2
  | .bad :: rest, _, _, h1, h2 => by simp only [RefsTo] at h1 h2; exact RefsTo.unique h1 h2

/-- the shape of the fields of a statement list -/
def shapeOf : List Stmt → List (Option Nat)
  | [] => []
  | .prim b :: rest => some b :: shapeOf rest
  | .ref _ :: rest => none :: shapeOf rest
  | _ :: rest => shapeOf rest

mutual
/-- `Den au Lb t d`: `t` is the type of `d` read on its own against the lookup list `Lb` - every reference names exactly
    one definition of `Lb` (`ExactRef`), the nested types are in turn the stand-alone types of those definitions. -/
def Den (au : Bool) (Lb : List Def) : Ty → Def → Prop
  | .mk info nested, d =>
    d.text.garbage = false ∧ ∃ xs1 xs2 : List Def, RefsTo Lb d d.text.req.stmts xs1 ∧
      (match d.text.resp with
        | none => xs2 = []
        | some rs => RefsTo Lb d rs.stmts xs2) ∧
      DenList au Lb nested (xs1 ++ xs2) ∧
      assemble au d (shapeOf d.text.req.stmts) (nested.take xs1.length)
        (d.text.resp.map fun rs => (rs.mode, shapeOf rs.stmts, nested.drop xs1.length)) = .ok (.mk info nested)
def DenList (au : Bool) (Lb : List Def) : List Ty → List Def → Prop
  | [], xs => xs = []
  | t :: ts, xs => ∃ x xs', xs = x :: xs' ∧ Den au Lb t x ∧ DenList au Lb ts xs'
end

mutual
theorem Den.unique {au : Bool} {Lb : List Def} : ∀ {t1 t2 : Ty} {d : Def}, Den au Lb t1 d → Den au Lb t2 d → t1 = t2
  | .mk i1 n1, .mk i2 n2, d, h1, h2 => by
    simp only [Den] at h1 h2
    obtain ⟨_, xs1, xs2, hr1, hr2, hl, ha⟩ := h1
    obtain ⟨_, ys1, ys2, hq1, hq2, hm, hb⟩ := h2
    have e1 : xs1 = ys1 := hr1.unique hq1
    subst e1
    have e2 : xs2 = ys2 := by
      cases hresp : d.text.resp with
      | none => simp only [hresp] at hr2 hq2; rw [hr2, hq2]
      | some rs => simp only [hresp] at hr2 hq2; exact hr2.unique hq2
    subst e2
    have en : n1 = n2 := DenList.unique hl hm
    subst en
    rw [ha] at hb
    exact (Except.ok.inj hb)
theorem DenList.unique {au : Bool} {Lb : List Def} : ∀ {l1 l2 : List Ty} {xs : List Def},
    DenList au Lb l1 xs → DenList au Lb l2 xs → l1 = l2
  | [], [], _, _, _ => rfl
  | [], _ :: _, _, h1, h2 => by
    simp only [DenList] at h1 h2
    obtain ⟨x, xs', rfl, _⟩ := h2
    cases h1
  | _ :: _, [], _, h1, h2 => by
    simp only [DenList] at h1 h2
    obtain ⟨x, xs', rfl, _⟩ := h1
    cases h2
  | t1 :: r1, t2 :: r2, _, h1, h2 => by
    simp only [DenList] at h1 h2
    obtain ⟨x, xs', rfl, hx, h1'⟩ := h1
    obtain ⟨y, ys', e, hy, h2'⟩ := h2
    cases e
    rw [Den.unique hx hy, DenList.unique h1' h2']
end

/-! ### soundness of the reader with respect to the stand-alone type -/

/-- `L` is the base list with all definitions of some keys removed (what `read` does along a reference chain) -/
def KeySub (Lb L : List Def) : Prop := ∃ ks : List (String × Nat × Nat), L = Lb.filter (fun y => !ks.contains y.key)

theorem KeySub.refl (Lb : List Def) : KeySub Lb Lb := ⟨[], by simp; exact (List.filter_eq_self.mpr (fun _ _ => rfl)).symm⟩

theorem KeySub.drop {Lb L : List Def} (x : Def) (h : KeySub Lb L) : KeySub Lb (dropKey L x) := by
  obtain ⟨ks, rfl⟩ := h
  refine ⟨x.key :: ks, ?_⟩
  unfold dropKey
  rw [List.filter_filter]
  congr 1
  funext y
  by_cases hy : y.key = x.key <;> simp [hy]

theorem resolve_exact {Lb L : List Def} {d : Def} {r : Ref} {x : Def} (hL : KeySub Lb L) (h : resolve L d r = .ok x) :
    ExactRef Lb d r x := by
  obtain ⟨hx, hn, hma, hmi, huniq⟩ := resolve_ok h
  obtain ⟨ks, rfl⟩ := hL
  have hx' := List.mem_filter.mp hx
  refine ⟨hx'.1, by simp [Def.key, hn, hma, hmi], ?_⟩
  intro y hy hk
  apply huniq y
  · apply List.mem_filter.mpr
    refine ⟨hy, ?_⟩
    rw [hk]; exact hx'.2
  · simp only [Def.key, Prod.mk.injEq] at hk
    simp [refMatches, hk.1, hn, hk.2.1, hma, hk.2.2, hmi]

theorem DenList.length {au : Bool} {Lb : List Def} : ∀ {l : List Ty} {xs : List Def}, DenList au Lb l xs → l.length = xs.length
  | [], _, h => by simp only [DenList] at h; subst h; rfl
  | _ :: r, _, h => by
    simp only [DenList] at h
    obtain ⟨x, xs', rfl, _, h'⟩ := h
    simp [DenList.length h']

theorem DenList.append {au : Bool} {Lb : List Def} : ∀ {l1 l2 : List Ty} {xs ys : List Def},
    DenList au Lb l1 xs → DenList au Lb l2 ys → DenList au Lb (l1 ++ l2) (xs ++ ys)
  | [], _, _, _, h1, h2 => by simp only [DenList] at h1; subst h1; simpa using h2
  | t :: r, _, _, _, h1, h2 => by
    simp only [DenList] at h1
    obtain ⟨x, xs', rfl, hx, h1'⟩ := h1
    simp only [List.cons_append, DenList]
    exact ⟨x, xs' ++ _, rfl, hx, DenList.append h1' h2⟩

abbrev DenR (au : Bool) (Lb : List Def) : Def → Ty → Prop := fun x t => Den au Lb t x

theorem runStmts_den (au : Bool) {Lb L : List Def} (d : Def) (rd : (x : Def) → x ∈ L → St → Res Ty) (hL : KeySub Lb L)
    (hrd : ∀ x hx s, Spec1 (DenR au Lb) x s (rd x hx s)) :
    ∀ (stmts : List Stmt) (st : St), CacheOk (DenR au Lb) st →
      CacheOk (DenR au Lb) (runStmts L d rd stmts st).2 ∧
      ∀ sh ns, (runStmts L d rd stmts st).1 = .ok (sh, ns) →
        sh = shapeOf stmts ∧ ∃ xs, RefsTo Lb d stmts xs ∧ DenList au Lb ns xs := by
  intro stmts
  induction stmts with
  | nil =>
    intro st hc
    simp only [runStmts]
    exact ⟨hc, fun sh ns h => by cases h; exact ⟨rfl, [], rfl, rfl⟩⟩
  | cons s rest ih =>
    intro st hc
    cases s with
    | prim b =>
      simp only [runStmts]
      have := ih st hc
      split
      · rename_i sh ns st' heq
        rw [heq] at this
        refine ⟨this.1, fun sh' ns' h => ?_⟩
        cases h
        obtain ⟨e, xs, hx, hd⟩ := this.2 sh ns rfl
        exact ⟨by simp [shapeOf, e], xs, hx, hd⟩
      · rename_i e st' heq
        rw [heq] at this
        exact ⟨this.1, fun _ _ h => by cases h⟩
    | print n =>
      simp only [runStmts]
      have := ih { st with prints := st.prints ++ [n] } hc
      refine ⟨this.1, fun sh ns h => ?_⟩
      obtain ⟨e, xs, hx, hd⟩ := this.2 sh ns h
      exact ⟨by simp [shapeOf, e], xs, hx, hd⟩
    | bad =>
      simp only [runStmts]
      exact ⟨hc, fun _ _ h => by cases h⟩
    | ref r =>
      simp only [runStmts]
      split
      · exact ⟨hc, fun _ _ h => by cases h⟩
      · rename_i x hres
        have hsp := hrd x (resolve_mem hres) { st with visited := st.visited ++ [x] } hc
        split
        · rename_i e st1 heq
          rw [heq] at hsp
          exact ⟨hsp.1, fun _ _ h => by cases h⟩
        · rename_i t st1 heq
          rw [heq] at hsp
          split
          · exact ⟨hsp.1, fun _ _ h => by cases h⟩
          · have := ih st1 hsp.1
            split
            · rename_i sh ns st2 heq2
              rw [heq2] at this
              refine ⟨this.1, fun sh' ns' h => ?_⟩
              cases h
              obtain ⟨e, xs, hx, hd⟩ := this.2 sh ns rfl
              refine ⟨by simp [shapeOf, e], x :: xs, ?_, ?_⟩
              · simp only [RefsTo]; exact ⟨x, xs, rfl, resolve_exact hL hres, hx⟩
              · simp only [DenList]; exact ⟨x, xs, rfl, hsp.2 t rfl, hd⟩
            · rename_i e st2 heq2
              rw [heq2] at this
              exact ⟨this.1, fun _ _ h => by cases h⟩

/-- a composite that `finalize` accepts carries the identity of its definition and the fields it was given -/
theorem finalize_ok {au : Bool} {d : Def} {req : SecInfo} {resp : Option SecInfo} {nested : List Ty} {t : Ty}
    (h : finalize au d req resp nested = .ok t) :
    t = .mk { name := d.name, major := d.major, minor := d.minor, fpid := d.fpid, isService := resp.isSome, req := req,
              resp := resp.getD req, path := d.path, root := d.root } nested := by
  unfold finalize at h
  simp only at h
  repeat' split at h
  all_goals first
    | exact (Except.ok.inj h).symm
    | cases h

/-- what `assemble` accepts has passed `finalize` with all collected nested types, request first -/
theorem assemble_ok {au : Bool} {d : Def} {sh1 : List (Option Nat)} {n1 : List Ty}
    {resp : Option (Mode × List (Option Nat) × List Ty)} {t : Ty} (h : assemble au d sh1 n1 resp = .ok t) :
    ∃ s1 s2, finalize au d s1 s2 (n1 ++ (resp.map (·.2.2)).getD []) = .ok t := by
  cases resp with
  | none =>
    simp only [assemble] at h
    split at h
    · cases h
    · exact ⟨_, none, by simpa using h⟩
  | some p =>
    simp only [assemble] at h
    split at h
    · exact ⟨_, _, h⟩
    · cases h
    · cases h

theorem assemble_nested {au : Bool} {d : Def} {sh1 : List (Option Nat)} {n1 : List Ty}
    {resp : Option (Mode × List (Option Nat) × List Ty)} {t : Ty} (h : assemble au d sh1 n1 resp = .ok t) :
    t.nested = n1 ++ (resp.map (·.2.2)).getD [] := by
  obtain ⟨_, _, hf⟩ := assemble_ok h
  rw [finalize_ok hf]; rfl

theorem readBody_den (au : Bool) {Lb L : List Def} (d : Def) (rd : (x : Def) → x ∈ L → St → Res Ty) (st : St)
    (hL : KeySub Lb L) (hrd : ∀ x hx s, Spec1 (DenR au Lb) x s (rd x hx s)) :
    Spec1 (DenR au Lb) d st (readBody au L d rd st) := by
  intro hc
  unfold readBody
  split
  · exact ⟨hc, fun _ h => by cases h⟩
  · rename_i hg
    have hg' : d.text.garbage = false := by simpa using hg
    have h1 := runStmts_den au d rd hL hrd d.text.req.stmts st hc
    split
    · rename_i e st1 heq
      rw [heq] at h1
      exact ⟨h1.1, fun _ h => by cases h⟩
    · rename_i sh1 n1 st1 heq
      rw [heq] at h1
      obtain ⟨e1, xs1, hr1, hd1⟩ := h1.2 sh1 n1 rfl
      have hlen1 := hd1.length
      split
      · rename_i hresp
        refine ⟨h1.1, fun t ht => ?_⟩
        simp only at ht
        have hn : t.nested = n1 := (assemble_nested ht).trans (List.append_nil _)
        cases t with
        | mk info nested =>
          simp only [Ty.nested] at hn
          subst hn
          simp only [DenR, Den]
          refine ⟨hg', xs1, [], hr1, by simp [hresp], by simpa using hd1, ?_⟩
          rw [hresp, ← hlen1, List.take_length, ← e1]
          exact ht
      · rename_i rs hresp
        have h2 := runStmts_den au d rd hL hrd rs.stmts st1 h1.1
        split
        · rename_i e st2 heq2
          rw [heq2] at h2
          exact ⟨h2.1, fun _ h => by cases h⟩
        · rename_i sh2 n2 st2 heq2
          rw [heq2] at h2
          obtain ⟨e2, xs2, hr2, hd2⟩ := h2.2 sh2 n2 rfl
          refine ⟨h2.1, fun t ht => ?_⟩
          simp only at ht
          have hn : t.nested = n1 ++ n2 := assemble_nested ht
          cases t with
          | mk info nested =>
            simp only [Ty.nested] at hn
            subst hn
            simp only [DenR, Den]
            refine ⟨hg', xs1, xs2, hr1, by simp [hresp]; exact hr2, hd1.append hd2, ?_⟩
            rw [hresp, ← hlen1, List.take_left', List.drop_left', ← e1]
            · simp only [Option.map_some, ← e2]; exact ht
            · rfl
            · rfl

/-- Whatever the reader returns - through whichever referrer, lookup sublist or cache history - is the stand-alone type. -/
theorem readObj_den (au : Bool) (Lb L : List Def) (d : Def) (st : St) (hL : KeySub Lb L)
    (hc : CacheOk (DenR au Lb) st) :
    CacheOk (DenR au Lb) (readObj au L d st).2 ∧ ∀ t, (readObj au L d st).1 = .ok t → Den au Lb t d :=
  readObj_spec au (DenR au Lb) (KeySub Lb) (fun _ x h => h.drop x)
    (fun _ d rd st hL hrd => readBody_den au d rd st (hL.drop d) hrd) _ L d st rfl hL hc

end Ns
