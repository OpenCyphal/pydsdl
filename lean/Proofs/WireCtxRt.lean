import Proofs.WireCtx
import Proofs.WireEvolve
/-! A revision at one position of a container: the container types are related by `Evolves`, and `adapt`
    changes the value at that position only.  So the one-hole statement is an instance of the general one. -/
namespace Wire

theorem wfFields_mid (pre post : List Ty) (X : Ty) (h : wfFields (pre ++ X :: post) = true) :
    wfFields pre = true ∧ X.wf = true ∧ wfFields post = true := by
  rw [wfFields_append, Bool.and_eq_true] at h
  simp only [wfFields, Bool.and_eq_true] at h
  exact ⟨h.1, h.2.1.1, h.2.2⟩

theorem wf_fill (C : Ctx) (X : Ty) (h : (C.fill X).wf = true) : X.wf = true := by
  induction C with
  | hole => exact h
  | farr c cap ih => exact ih (wf_farr.mp h).1
  | varr c cap ih => exact ih (wf_varr.mp h).1
  | field pre c post m ih => exact ih (wfFields_mid _ _ _ (wf_struct.mp h).1).2.1
  | variant pre c post m ih => exact ih (wfFields_mid _ _ _ (wf_union.mp h).1).2.1

theorem validFields_mid : ∀ (pre post : List Ty) (X : Ty) (vs : List Val),
    validFields (pre ++ X :: post) vs = true →
    ∃ vpre vx vpost, vs = vpre ++ vx :: vpost ∧ vpre.length = pre.length ∧ validFields pre vpre = true ∧
      valid X vx = true ∧ validFields post vpost = true
  | [], post, X, vs, h => by
      cases vs with
      | nil => simp [validFields] at h
      | cons v vs =>
        simp only [List.nil_append, validFields, Bool.and_eq_true] at h
        exact ⟨[], v, vs, rfl, rfl, by simp [validFields], h.1, h.2⟩
  | t :: pre, post, X, vs, h => by
      cases vs with
      | nil => simp [validFields] at h
      | cons v vs =>
        simp only [List.cons_append, validFields, Bool.and_eq_true] at h
        obtain ⟨vpre, vx, vpost, rfl, hl, h1, h2, h3⟩ := validFields_mid pre post X vs h.2
        exact ⟨v :: vpre, vx, vpost, rfl, by simp [hl], by simp [validFields, h.1, h1], h2, h3⟩

theorem validVariant_mid : ∀ (pre post : List Ty) (X : Ty) (w : Val),
    validVariant (pre ++ X :: post) pre.length w = valid X w
  | [], _, _, _ => by simp only [List.nil_append, List.length_nil, validVariant]
  | _ :: pre, post, X, w => by
      simp only [List.cons_append, List.length_cons, validVariant]
      exact validVariant_mid pre post X w

/-! ### the relation -/

theorem evolvesAll_mid : ∀ (pre post : List Ty) (X X' : Ty), Evolves X X' →
    EvolvesAll (pre ++ X :: post) (pre ++ X' :: post)
  | [], post, X, X', h => by simp only [List.nil_append, EvolvesAll]; exact ⟨h, evolvesAll_refl post⟩
  | p :: pre, post, X, X', h => by
      simp only [List.cons_append, EvolvesAll]
      exact ⟨evolves_refl p, evolvesAll_mid pre post X X' h⟩

theorem evolves_fill (C : Ctx) (X X' : Ty) (h : Evolves X X') : Evolves (C.fill X) (C.fill X') := by
  induction C with
  | hole => exact h
  | farr c cap ih => simp only [Ctx.fill, Evolves]; exact ⟨trivial, ih⟩
  | varr c cap ih => simp only [Ctx.fill, Evolves]; exact ⟨trivial, ih⟩
  | field pre c post m ih =>
    cases m with
    | sealed => simp only [Ctx.fill, Evolves]; exact evolvesAll_mid pre post _ _ ih
    | delimited x =>
      simp only [Ctx.fill, Evolves]; exact evolvesAll_prefix _ _ (evolvesAll_mid pre post _ _ ih)
  | variant pre c post m ih =>
    simp only [Ctx.fill, Evolves]
    exact ⟨trivial, by simp, by simp, evolvesAll_prefix _ _ (evolvesAll_mid pre post _ _ ih)⟩

/-! ### the adapted value -/

theorem adaptVariant_refl : ∀ (ts : List Ty) (n : Nat) (w : Val), wfFields ts = true → validVariant ts n w = true →
    adaptVariant ts ts n w = w
  | [], _, _, _, hv => by simp [validVariant] at hv
  | t :: _, 0, w, hw, hv => by
      simp only [wfFields, Bool.and_eq_true] at hw
      simp only [validVariant] at hv
      simp only [adaptVariant, adapt_refl t w hw.1.1 hv]
  | _ :: ts, n+1, w, hw, hv => by
      simp only [wfFields, Bool.and_eq_true] at hw
      simp only [validVariant] at hv
      simp only [adaptVariant, adaptVariant_refl ts n w hw.2 hv]

/-- only the variant at the revised position is touched -/
theorem adaptVariant_mid : ∀ (pre post : List Ty) (X X' : Ty) (n : Nat) (w : Val),
    wfFields (pre ++ X :: post) = true → validVariant (pre ++ X :: post) n w = true →
    adaptVariant (pre ++ X :: post) (pre ++ X' :: post) n w = if n = pre.length then adapt X X' w else w
  | [], post, X, X', 0, w, _, _ => by simp only [List.nil_append, adaptVariant, List.length_nil, if_true]
  | [], post, X, X', n+1, w, hw, hv => by
      simp only [List.nil_append, wfFields, Bool.and_eq_true] at hw
      simp only [List.nil_append, validVariant] at hv
      simp only [List.nil_append, adaptVariant, adaptVariant_refl post n w hw.2 hv, List.length_nil,
        Nat.add_one_ne_zero, if_false]
  | p :: pre, post, X, X', 0, w, hw, hv => by
      simp only [List.cons_append, wfFields, Bool.and_eq_true] at hw
      simp only [List.cons_append, validVariant] at hv
      simp only [List.cons_append, adaptVariant, adapt_refl p w hw.1.1 hv, List.length_cons]
      rw [if_neg (by omega)]
  | p :: pre, post, X, X', n+1, w, hw, hv => by
      simp only [List.cons_append, wfFields, Bool.and_eq_true] at hw
      simp only [List.cons_append, validVariant] at hv
      simp only [List.cons_append, adaptVariant, adaptVariant_mid pre post X X' n w hw.2 hv, List.length_cons,
        Nat.add_right_cancel_iff]

/-- `g` is `adapt X X'` on the valid values of `X`, e.g. `appendDefaults gs` for fields appended -/
theorem adapt_fill (X X' : Ty) (g : Val → Val) (hg : ∀ u, valid X u = true → adapt X X' u = g u) :
    ∀ (C : Ctx) (v : Val), (C.fill X).wf = true → valid (C.fill X) v = true →
      adapt (C.fill X) (C.fill X') v = C.map g v := by
  intro C
  induction C with
  | hole => intro v _ hv; exact hg v hv
  | farr c cap ih =>
    intro v hw hv
    obtain ⟨vs, rfl, _, hvs⟩ := valid_farr.mp hv
    simp only [Ctx.fill, adapt, Ctx.map, Val.arr.injEq]
    exact List.map_congr_left fun w hw' => ih w (wf_farr.mp hw).1 (hvs w hw')
  | varr c cap ih =>
    intro v hw hv
    obtain ⟨vs, rfl, _, hvs, _⟩ := valid_varr.mp hv
    simp only [Ctx.fill, adapt, Ctx.map, Val.arr.injEq]
    exact List.map_congr_left fun w hw' => ih w (wf_varr.mp hw).1 (hvs w hw')
  | field pre c post m ih =>
    intro v hw hv
    obtain ⟨vs, rfl, hvs⟩ := valid_struct.mp hv
    obtain ⟨vpre, vx, vpost, rfl, hl, hv1, hv2, hv3⟩ := validFields_mid pre post (c.fill X) vs hvs
    obtain ⟨hw1, hw2, hw3⟩ := wfFields_mid pre post (c.fill X) (wf_struct.mp hw).1
    have hpost : adaptFields post post vpost = vpost := by
      simpa only [List.append_nil, dfltFields] using adaptFields_append_right post [] vpost hw3 hv3
    simp only [Ctx.fill, adapt, Ctx.map, adaptFields_append pre _ _ vpre _ hw1 hv1, adaptFields, hpost,
      ih vx hw2 hv2, ← hl, List.take_left', List.drop_left']
  | variant pre c post m ih =>
    intro v hw hv
    obtain ⟨tag, w, rfl, hvw⟩ := valid_union.mp hv
    simp only [Ctx.fill, adapt, Ctx.map, adaptVariant_mid pre post _ _ tag w (wf_union.mp hw).1 hvw]
    split
    · rename_i ht
      rw [ht, validVariant_mid] at hvw
      rw [ih w (wfFields_mid pre post _ (wf_union.mp hw).1).2.1 hvw]
    · rfl

/-- The one-hole statement: with `X` revised to `X'` at the position `C`, the reader of `C.fill X'` obtains
    the written value with `g` applied at that position, and stops where the writer's representation ends. -/
theorem fill_rt (C : Ctx) (X X' : Ty) (g : Val → Val) (h : Evolves X X')
    (hg : ∀ u, valid X u = true → adapt X X' u = g u) (v : Val) (hw : (C.fill X).wf = true)
    (hw' : (C.fill X').wf = true) (hv : valid (C.fill X) v = true) :
    Rt (dec (C.fill X')) (enc (C.fill X) v) (C.map g v) (C.fill X).align := by
  rw [← adapt_fill X X' g hg C v hw hv]
  exact evolve_rt _ _ v hw hw' (evolves_fill C X X' h) hv

end Wire
