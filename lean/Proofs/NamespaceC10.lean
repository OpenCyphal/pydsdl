import Proofs.NamespaceC15
/-! Lemmas for C10: the ordering key, sortedness and uniqueness of the sorted enumeration, the directory rule. -/
namespace Ns

abbrev Key := String × Nat × Nat

theorem keyLe_total (a b : Key) : (keyLe a b || keyLe b a) = true := by
  obtain ⟨n1, ma1, mi1⟩ := a
  obtain ⟨n2, ma2, mi2⟩ := b
  simp only [keyLe, Bool.or_eq_true, Bool.and_eq_true, decide_eq_true_eq, beq_iff_eq]
  by_cases h1 : n1 < n2
  · exact Or.inl (Or.inl h1)
  · by_cases h2 : n2 < n1
    · exact Or.inr (Or.inl h2)
    · have : n1 = n2 := String.le_antisymm (String.not_lt.mp h2) (String.not_lt.mp h1)
      subst this
      by_cases h3 : ma1 > ma2
      · exact Or.inl (Or.inr ⟨rfl, Or.inl h3⟩)
      · by_cases h4 : ma2 > ma1
        · exact Or.inr (Or.inr ⟨rfl, Or.inl h4⟩)
        · have : ma1 = ma2 := by omega
          subst this
          by_cases h5 : mi1 ≥ mi2
          · exact Or.inl (Or.inr ⟨rfl, Or.inr ⟨rfl, h5⟩⟩)
          · exact Or.inr (Or.inr ⟨rfl, Or.inr ⟨rfl, by omega⟩⟩)

theorem keyLe_trans (a b c : Key) (h1 : keyLe a b = true) (h2 : keyLe b c = true) : keyLe a c = true := by
  obtain ⟨n1, ma1, mi1⟩ := a
  obtain ⟨n2, ma2, mi2⟩ := b
  obtain ⟨n3, ma3, mi3⟩ := c
  simp only [keyLe, Bool.or_eq_true, Bool.and_eq_true, decide_eq_true_eq, beq_iff_eq] at h1 h2 ⊢
  rcases h1 with h1 | ⟨rfl, h1⟩
  · rcases h2 with h2 | ⟨rfl, _⟩
    · exact Or.inl (String.lt_trans h1 h2)
    · exact Or.inl h1
  · rcases h2 with h2 | ⟨rfl, h2⟩
    · exact Or.inl h2
    · refine Or.inr ⟨rfl, ?_⟩
      rcases h1 with h1 | ⟨rfl, h1⟩
      · rcases h2 with h2 | ⟨rfl, _⟩
        · exact Or.inl (by omega)
        · exact Or.inl h1
      · rcases h2 with h2 | ⟨rfl, h2⟩
        · exact Or.inl h2
        · exact Or.inr ⟨rfl, by omega⟩

theorem keyLe_antisymm (a b : Key) (h1 : keyLe a b = true) (h2 : keyLe b a = true) : a = b := by
  obtain ⟨n1, ma1, mi1⟩ := a
  obtain ⟨n2, ma2, mi2⟩ := b
  simp only [keyLe, Bool.or_eq_true, Bool.and_eq_true, decide_eq_true_eq, beq_iff_eq] at h1 h2
  rcases h1 with h1 | ⟨rfl, h1⟩
  · rcases h2 with h2 | ⟨rfl, _⟩
    · exact absurd h2 (String.lt_asymm h1)
    · exact absurd h1 (String.lt_irrefl _)
  · rcases h2 with h2 | ⟨_, h2⟩
    · exact absurd h2 (String.lt_irrefl _)
    · have : ma1 = ma2 := by omega
      subst this
      have : mi1 = mi2 := by omega
      subst this; rfl

/-- sorted by `(name, -major, -minor)` -/
def SortedByKey {α : Type} (key : α → Key) (l : List α) : Prop := l.Pairwise (fun a b => keyLe (key a) (key b) = true)

theorem sortDefs_sorted (l : List Def) : SortedByKey Def.key (sortDefs l) := by
  unfold SortedByKey sortDefs
  have := List.pairwise_mergeSort (le := fun a b : Def => keyLe a.key b.key)
    (fun a b c => keyLe_trans a.key b.key c.key) (fun a b => keyLe_total a.key b.key) l
  exact this

theorem sortTys_sorted (l : List Ty) : SortedByKey Ty.key (sortTys l) := by
  unfold SortedByKey sortTys
  exact List.pairwise_mergeSort (le := fun a b : Ty => keyLe a.key b.key)
    (fun a b c => keyLe_trans a.key b.key c.key) (fun a b => keyLe_total a.key b.key) l

theorem sortDefs_perm (l : List Def) : (sortDefs l).Perm l := List.mergeSort_perm _ _
theorem sortTys_perm (l : List Ty) : (sortTys l).Perm l := List.mergeSort_perm _ _

theorem mem_sortDefs {l : List Def} {x : Def} : x ∈ sortDefs l ↔ x ∈ l := (sortDefs_perm l).mem_iff
theorem mem_sortTys {l : List Ty} {x : Ty} : x ∈ sortTys l ↔ x ∈ l := (sortTys_perm l).mem_iff

theorem mem_dedupKeys {l : List Def} {x : Def} (h : x ∈ dedupKeys l) : x ∈ l := by
  induction l with
  | nil => simp [dedupKeys] at h
  | cons a r ih =>
    simp only [dedupKeys, List.mem_cons, List.mem_filter] at h
    rcases h with h | h
    · exact List.mem_cons.mpr (Or.inl h)
    · exact List.mem_cons_of_mem _ (ih h.1)

/-- With pairwise distinct keys the sorted list is unique: any permutation of the input sorts to the same list. -/
theorem sortDefs_perm_eq {l1 l2 : List Def} (hp : l1.Perm l2) (hd : l2.Pairwise (fun a b => a.key ≠ b.key)) :
    sortDefs l1 = sortDefs l2 := by
  apply List.Perm.eq_of_pairwise (le := fun a b : Def => keyLe a.key b.key = true)
  · intro a b ha hb h1 h2
    have hk := keyLe_antisymm _ _ h1 h2
    have ha' : a ∈ l2 := hp.subset ((sortDefs_perm l1).subset ha)
    have hb' : b ∈ l2 := (sortDefs_perm l2).subset hb
    by_cases hab : a = b
    · exact hab
    · exfalso
      have := (List.pairwise_iff_getElem.mp hd)
      obtain ⟨i, hi, rfl⟩ := List.getElem_of_mem ha'
      obtain ⟨j, hj, rfl⟩ := List.getElem_of_mem hb'
      rcases Nat.lt_trichotomy i j with hlt | heq | hgt
      · exact this i j hi hj hlt hk
      · subst heq; exact hab rfl
      · exact this j i hj hi hgt hk.symm
  · exact sortDefs_sorted l1
  · exact sortDefs_sorted l2
  · exact ((sortDefs_perm l1).trans hp).trans (sortDefs_perm l2).symm

/-! ### directory rule -/

theorem dirsCheck_ok_iff (dirs : List Path) (allow : Bool) :
    dirsCheck dirs allow = .ok () ↔ ∀ a ∈ dirs, ∀ b ∈ dirs, dirPairBad allow a b = none := by
  unfold dirsCheck
  split
  · rename_i h
    simp only [true_iff]
    intro a ha b hb
    cases hp : dirPairBad allow a b with
    | none => rfl
    | some e =>
      have : e ∈ (dirs.flatMap fun a => dirs.filterMap fun b => dirPairBad allow a b) := by
        simp only [List.mem_flatMap, List.mem_filterMap]
        exact ⟨a, ha, b, hb, hp⟩
      rw [h] at this; cases this
  · rename_i e es h
    simp only [reduceCtorEq, false_iff]
    intro hall
    have : e ∈ (dirs.flatMap fun a => dirs.filterMap fun b => dirPairBad allow a b) := by rw [h]; simp
    simp only [List.mem_flatMap, List.mem_filterMap] at this
    obtain ⟨a, ha, b, hb, hp⟩ := this
    rw [hall a ha b hb] at hp; cases hp

theorem dirPairBad_none_iff (allow : Bool) (a b : Path) :
    dirPairBad allow a b = none ↔
      (a = b ∨ (¬ (b <+: a) ∧ (allow = true ∨ (dirName a).toLower ≠ (dirName b).toLower))) := by
  unfold dirPairBad
  by_cases hab : a = b
  · simp [hab]
  · have : (a == b) = false := by simpa using hab
    simp only [this, Bool.false_eq_true, if_false, hab, false_or]
    cases allow <;> by_cases hn : (dirName a).toLower = (dirName b).toLower <;> by_cases hp : b <+: a <;>
      simp [hn, hp, List.isPrefixOf_iff_prefix]

theorem dirsCheck_error_invalid {dirs : List Path} {allow : Bool} {e : Err} (h : dirsCheck dirs allow = .error e) :
    e = .nestedRoot ∨ e = .rootNameCollision := by
  unfold dirsCheck at h
  split at h
  · cases h
  · rename_i e' es hl
    cases h
    have : e ∈ (dirs.flatMap fun a => dirs.filterMap fun b => dirPairBad allow a b) := by rw [hl]; simp
    simp only [List.mem_flatMap, List.mem_filterMap] at this
    obtain ⟨a, _, b, _, hp⟩ := this
    unfold dirPairBad at hp
    repeat' split at hp
    all_goals first | (cases hp; simp) | cases hp

/-! ### the enumeration: `collect` does not depend on the order of the enumeration -/

/-- `DSDLDefinition.__init__` accepts a file iff no directory name contains a dot and the base name parses; the
    definition object is then spelled out by the path -/
theorem mkDef_ok_iff {tgt : Bool} {e : FileEntry} {x : Def} : mkDef tgt e = .ok x ↔
    hasDot (e.dir.getLast?.getD "") = false ∧ e.sub.any hasDot = false ∧ ∃ fn, parseFileName e.fname.toList = .ok fn ∧
      x = { tgt := tgt, path := e.dir ++ e.sub ++ [e.fname], root := e.dir,
            comps := (e.dir.getLast?.getD "") :: (e.sub ++ [String.ofList fn.short]),
            name := joinDots ((e.dir.getLast?.getD "") :: (e.sub ++ [String.ofList fn.short])),
            major := fn.major, minor := fn.minor, fpid := fn.pid, text := e.text } := by
  unfold mkDef
  simp only
  constructor
  · intro h
    split at h
    · cases h
    · rename_i h1
      split at h
      · cases h
      · rename_i fn hfn
        split at h
        · cases h
        · rename_i h2
          cases h
          exact ⟨by simpa using h1, by simpa using h2, fn, hfn, rfl⟩
  · rintro ⟨h1, h2, fn, hfn, rfl⟩
    simp [h1, h2, hfn]

theorem mkDef_ok {tgt : Bool} {e : FileEntry} {x : Def} (h : mkDef tgt e = .ok x) :
    ∃ fn, parseFileName e.fname.toList = .ok fn ∧
      x = { tgt := tgt, path := e.dir ++ e.sub ++ [e.fname], root := e.dir,
            comps := (e.dir.getLast?.getD "") :: (e.sub ++ [String.ofList fn.short]),
            name := joinDots ((e.dir.getLast?.getD "") :: (e.sub ++ [String.ofList fn.short])),
            major := fn.major, minor := fn.minor, fpid := fn.pid, text := e.text } :=
  (mkDef_ok_iff.mp h).2.2

theorem mkDef_path {tgt : Bool} {e : FileEntry} {x : Def} (h : mkDef tgt e = .ok x) :
    x.path = e.dir ++ e.sub ++ [e.fname] ∧ x.root = e.dir ∧ x.text = e.text := by
  obtain ⟨fn, _, rfl⟩ := mkDef_ok h
  exact ⟨rfl, rfl, rfl⟩

theorem mkDef_error {tgt : Bool} {e : FileEntry} {x : Err} (h : mkDef tgt e = .error x) : x = .fileName := by
  unfold mkDef at h
  simp only at h
  split at h
  · cases h; rfl
  · split at h
    · rename_i hx; cases h; exact parseFileName_error hx
    · split at h
      · cases h; rfl
      · cases h

theorem mapMDefs_cons (tgt : Bool) (e : FileEntry) (r : List FileEntry) :
    mapMDefs tgt (e :: r) = match mkDef tgt e, mapMDefs tgt r with
      | .ok d, .ok ds => .ok (d :: ds)
      | .error x, _ => .error x
      | _, .error x => .error x := by
  simp only [mapMDefs]
  cases mkDef tgt e <;> cases mapMDefs tgt r <;> rfl

theorem mapMDefs_error {tgt : Bool} {l : List FileEntry} {x : Err} (h : mapMDefs tgt l = .error x) : x = .fileName := by
  induction l with
  | nil => cases h
  | cons e r ih =>
    rw [mapMDefs_cons] at h
    cases h0 : mkDef tgt e with
    | error y => simp only [h0] at h; cases h; exact mkDef_error h0
    | ok d =>
      cases h1 : mapMDefs tgt r with
      | error y => simp only [h0, h1] at h; cases h; exact ih h1
      | ok ds => simp [h0, h1] at h

/-- same verdict; on success the same definitions up to order -/
def ResRel : Except Err (List Def) → Except Err (List Def) → Prop
  | .ok a, .ok b => a.Perm b
  | .error _, .error _ => True
  | _, _ => False

theorem ResRel.trans {a b c : Except Err (List Def)} (h1 : ResRel a b) (h2 : ResRel b c) : ResRel a c := by
  cases a <;> cases b <;> cases c <;> simp_all [ResRel]
  exact h1.trans h2

theorem mapMDefs_perm {tgt : Bool} {l1 l2 : List FileEntry} (h : l1.Perm l2) : ResRel (mapMDefs tgt l1) (mapMDefs tgt l2) := by
  induction h with
  | nil => simp [mapMDefs, ResRel]
  | @cons e r1 r2 _ ih =>
    rw [mapMDefs_cons, mapMDefs_cons]
    cases h0 : mkDef tgt e <;> cases h1 : mapMDefs tgt r1 <;> cases h2 : mapMDefs tgt r2 <;>
      simp_all [ResRel]
  | swap a b r =>
    rw [mapMDefs_cons, mapMDefs_cons, mapMDefs_cons, mapMDefs_cons]
    cases ha : mkDef tgt a <;> cases hb : mkDef tgt b <;> cases hr : mapMDefs tgt r <;> simp [ResRel]
    exact List.Perm.swap _ _ _
  | trans _ _ ih1 ih2 => exact ih1.trans ih2

/-- the (name, version) keys of the definition files of an enumeration -/
def keysOf (files : List FileEntry) : List Key :=
  files.filterMap fun e => match mkDef false e with
    | .ok d => some d.key
    | .error _ => none

/-- no two definition files of the enumeration have the same (name, version) -/
def DistinctFileKeys (files : List FileEntry) : Prop := (keysOf files).Pairwise (· ≠ ·)

theorem mkDef_key_tgt {tgt : Bool} {e : FileEntry} {d : Def} (h : mkDef tgt e = .ok d) :
    ∃ d', mkDef false e = .ok d' ∧ d'.key = d.key := by
  obtain ⟨h1, h2, fn, hfn, rfl⟩ := mkDef_ok_iff.mp h
  exact ⟨_, mkDef_ok_iff.mpr ⟨h1, h2, fn, hfn, rfl⟩, rfl⟩

theorem mapMDefs_keys_sublist {tgt : Bool} {sel : FileEntry → Bool} :
    ∀ {files : List FileEntry} {ds : List Def}, mapMDefs tgt (files.filter sel) = .ok ds →
      (ds.map Def.key).Sublist (keysOf files) := by
  intro files
  induction files with
  | nil => intro ds h; simp [mapMDefs] at h; subst h; simp [keysOf]
  | cons e r ih =>
    intro ds h
    rw [List.filter_cons] at h
    by_cases hs : sel e = true
    · simp only [hs, if_true] at h
      rw [mapMDefs_cons] at h
      cases h0 : mkDef tgt e with
      | error x => simp [h0] at h
      | ok d =>
        cases h1 : mapMDefs tgt (r.filter sel) with
        | error x => simp [h0, h1] at h
        | ok ds' =>
          simp only [h0, h1] at h
          cases h
          obtain ⟨d', hd', hk⟩ := mkDef_key_tgt h0
          have : keysOf (e :: r) = d'.key :: keysOf r := by simp [keysOf, hd']
          rw [this, List.map_cons, hk]
          exact (ih h1).cons_cons _
    · simp only [hs, Bool.false_eq_true, if_false] at h
      have := ih h
      unfold keysOf
      rw [List.filterMap_cons]
      split
      · exact this
      · exact this.cons _

theorem distinct_of_mapMDefs {tgt : Bool} {sel : FileEntry → Bool} {files : List FileEntry} {ds : List Def}
    (hd : DistinctFileKeys files) (h : mapMDefs tgt (files.filter sel) = .ok ds) :
    ds.Pairwise (fun a b => a.key ≠ b.key) := by
  have := List.Pairwise.sublist (mapMDefs_keys_sublist h) hd
  exact List.pairwise_map.mp this

theorem DistinctFileKeys.perm {f1 f2 : List FileEntry} (hp : f1.Perm f2) (hd : DistinctFileKeys f2) : DistinctFileKeys f1 := by
  unfold DistinctFileKeys keysOf at *
  exact (hp.filterMap _).pairwise_iff (fun h => Ne.symm h) |>.mpr hd

theorem collect_perm {tgt : Bool} {f1 f2 : List FileEntry} (dirs : List Path) (hp : f1.Perm f2) (hd : DistinctFileKeys f2) :
    collect tgt f1 dirs = collect tgt f2 dirs := by
  unfold collect
  have hrel := mapMDefs_perm (tgt := tgt) (hp.filter (fun e => dirs.contains e.dir && isDefinitionFile e.fname))
  cases h1 : mapMDefs tgt (f1.filter fun e => dirs.contains e.dir && isDefinitionFile e.fname) with
  | error x =>
    cases h2 : mapMDefs tgt (f2.filter fun e => dirs.contains e.dir && isDefinitionFile e.fname) with
    | error y => rw [mapMDefs_error h1, mapMDefs_error h2]
    | ok ds => rw [h1, h2] at hrel; simp [ResRel] at hrel
  | ok ds1 =>
    cases h2 : mapMDefs tgt (f2.filter fun e => dirs.contains e.dir && isDefinitionFile e.fname) with
    | error y => rw [h1, h2] at hrel; simp [ResRel] at hrel
    | ok ds2 =>
      rw [h1, h2] at hrel
      simp only [ResRel] at hrel
      simp only
      rw [sortDefs_perm_eq hrel (distinct_of_mapMDefs hd h2)]

/-! ### the entry points, inverted: what a successful call has computed -/

theorem completeRead_ok {au : Bool} {files : List FileEntry} {targets : List Def} {dirs : List Path} {d t : List Ty} {p : List Nat}
    (h : completeRead au files targets dirs = ⟨.ok (d, t), p⟩) :
    ∃ L b st, collect false files dirs = .ok L ∧ keysDistinct targets = true ∧ level0 au L targets {} = (.ok b, st) ∧
      d = sortTys b.direct ∧ t = sortTys b.transitive ∧ crossCheck (d.map Ty.info) ((t ++ d).map Ty.info) = .ok () := by
  unfold completeRead at h
  split at h
  · cases h
  · rename_i L hL
    split at h
    · cases h
    · rename_i hk
      split at h
      · cases h
      · rename_i b st hrun
        simp only at h
        split at h
        · cases h
        · rename_i hcc
          cases h
          exact ⟨L, b, st, hL, by simpa using hk, hrun, rfl, rfl, hcc⟩

/-- `read_namespace`: the directory rule holds and the target list is either empty or handed to `_complete_read_function` -/
theorem readNamespace_ok {files : List FileEntry} {root : Path} {lookups : List Path} {ac au : Bool} {d t : List Ty} {p : List Nat}
    (h : readNamespace files root lookups ac au = ⟨.ok (d, t), p⟩) :
    dirsCheck (dedupPaths (lookups ++ [root])) ac = .ok () ∧ ∃ ts, collect true files [root] = .ok ts ∧
      ((ts = [] ∧ d = [] ∧ t = []) ∨ completeRead au files ts (dedupPaths (lookups ++ [root])) = ⟨.ok (d, t), p⟩) := by
  unfold readNamespace at h
  simp only at h
  split at h
  · cases h
  · rename_i hc
    split at h
    · cases h
    · rename_i hts; cases h; exact ⟨hc, [], hts, Or.inl ⟨rfl, rfl, rfl⟩⟩
    · rename_i ts _ hts; exact ⟨hc, ts, hts, Or.inr h⟩

/-- `read_files`, likewise -/
theorem readFiles_ok {files targets : List FileEntry} {roots lookups : List Path} {au : Bool} {d t : List Ty} {p : List Nat}
    (h : readFiles files targets roots lookups au = ⟨.ok (d, t), p⟩) :
    ∃ ts, mapMDefs true targets = .ok ts ∧ ((ts = [] ∧ d = [] ∧ t = []) ∨
      (dirsCheck (dedupPaths (lookups ++ ts.map Def.root ++ roots)) true = .ok () ∧
        completeRead au files (sortDefs ts) (dedupPaths (lookups ++ ts.map Def.root ++ roots)) = ⟨.ok (d, t), p⟩)) := by
  unfold readFiles at h
  split at h
  · cases h
  · rename_i hts; cases h; exact ⟨[], hts, Or.inl ⟨rfl, rfl, rfl⟩⟩
  · rename_i ts _ hts
    simp only at h
    split at h
    · cases h
    · rename_i hc; exact ⟨ts, hts, Or.inr ⟨hc, h⟩⟩

theorem completeRead_sorted (au : Bool) (files : List FileEntry) (targets : List Def) (dirs : List Path)
    (d t : List Ty) (p : List Nat) (h : completeRead au files targets dirs = ⟨.ok (d, t), p⟩) :
    SortedByKey Ty.key d ∧ SortedByKey Ty.key t := by
  obtain ⟨_, _, _, _, _, _, rfl, rfl, _⟩ := completeRead_ok h
  exact ⟨sortTys_sorted _, sortTys_sorted _⟩

theorem completeRead_perm (au : Bool) {f1 f2 : List FileEntry} (targets : List Def) (dirs : List Path)
    (hp : f1.Perm f2) (hd : DistinctFileKeys f2) : completeRead au f1 targets dirs = completeRead au f2 targets dirs := by
  unfold completeRead
  rw [collect_perm dirs hp hd]

end Ns
