import Proofs.WireTy
/-! The length set of a type, defined independently of the codec by recursion over the type (the same
    operators as the Specification's bit length set: concatenation with padding, repetition, ranged
    repetition, union, and "any whole number of bytes up to the extent" behind a delimiter header), and its
    basic properties: every length is a multiple of the alignment and at most `maxLen`. -/
namespace Wire

/-- `L` is a sum of `n` lengths drawn from `p` -/
def RepLen (p : Nat → Prop) : Nat → Nat → Prop
  | 0, L => L = 0
  | n+1, L => ∃ a b, p a ∧ RepLen p n b ∧ L = a + b

mutual
/-- `HasLen t L` : `L` is a possible bit length of a serialized representation of `t` -/
def HasLen : Ty → Nat → Prop
  | .bool, L => L = 1
  | .uint n _, L => L = n
  | .sint n _, L => L = n
  | .float n _, L => L = n
  | .byte, L => L = 8
  | .utf8, L => L = 8
  | .void n, L => L = n
  | .farr e cap, L => RepLen (fun a => HasLen e a) cap L
  | .varr e cap, L => ∃ k L', k ≤ cap ∧ RepLen (fun a => HasLen e a) k L' ∧ L = lenBits cap + L'
  | .struct fs m, L =>
      match m with
      | .sealed => ∃ L', FieldsLen fs 0 L' ∧ L = L' + padLen L' 8
      | .delimited x => ∃ k, 8 * k ≤ x ∧ L = headerBits + 8 * k
  | .union fs m, L =>
      match m with
      | .sealed => ∃ L', VariantLen fs L' ∧ L = tagBits fs.length + L' + padLen (tagBits fs.length + L') 8
      | .delimited x => ∃ k, 8 * k ≤ x ∧ L = headerBits + 8 * k
/-- a structure body that starts (relative to the structure) at `acc` can end at `L` -/
def FieldsLen : List Ty → Nat → Nat → Prop
  | [], acc, L => L = acc
  | t :: ts, acc, L => ∃ a, HasLen t a ∧ FieldsLen ts (acc + padLen acc t.align + a) L
def VariantLen : List Ty → Nat → Prop
  | [], _ => False
  | t :: ts, L => HasLen t L ∨ VariantLen ts L
end

theorem hasLen_prim {t : Ty} (hp : t.isPrim = true) {L : Nat} : HasLen t L ↔ L = t.maxLen := by
  cases t <;> first | rfl | cases hp

theorem hasLen_delimited {t : Ty} (hd : t.isDelimited = true) {L : Nat} :
    HasLen t L ↔ ∃ k, headerBits + 8 * k ≤ t.maxLen ∧ L = headerBits + 8 * k := by
  cases t <;> try cases hd
  all_goals
    rename_i m
    cases m <;> try cases hd
    simp [HasLen, Ty.maxLen]

theorem RepLen.mod {p : Nat → Prop} {a : Nat} (hp : ∀ x, p x → x % a = 0) :
    ∀ n L, RepLen p n L → L % a = 0
  | 0, L, h => by simp [RepLen] at h; simp [h]
  | n+1, L, h => by
      obtain ⟨x, y, hx, hy, rfl⟩ := h
      have h1 := hp x hx
      have h2 := RepLen.mod hp n y hy
      simp [Nat.add_mod, h1, h2]

theorem RepLen.le {p : Nat → Prop} {m : Nat} (hp : ∀ x, p x → x ≤ m) :
    ∀ n L, RepLen p n L → L ≤ n * m
  | 0, L, h => by simp [RepLen] at h; simp [h]
  | n+1, L, h => by
      obtain ⟨x, y, hx, hy, rfl⟩ := h
      rw [Nat.succ_mul, Nat.add_comm]
      exact Nat.add_le_add (RepLen.le hp n y hy) (hp x hx)

theorem padLen8_mod (x : Nat) : (x + padLen x 8) % 8 = 0 := padLen_dvd x 8 (by decide)

theorem padLen_le (off a : Nat) (h : 0 < a) : padLen off a ≤ a - 1 :=
  Nat.le_sub_one_of_lt (padLen_lt off a h)

theorem hasLen_mod : ∀ (t : Ty) (L : Nat), t.wf = true → HasLen t L → L % t.align = 0 := by
  intro t
  induction t using Ty.induct with
  | prim t hp => intro L _ _; rw [align_prim hp]; exact Nat.mod_one L
  | farr e cap ih =>
      intro L hw h
      simp only [HasLen] at h
      exact RepLen.mod (fun x hx => ih x (wf_farr.mp hw).1 hx) cap L h
  | varr e cap ih =>
      intro L hw h
      simp only [HasLen] at h
      obtain ⟨k, L', _, hr, rfl⟩ := h
      exact add_mod_zero (mod_align_zero e (lenBits_mod8 cap))
        (RepLen.mod (fun x hx => ih x (wf_varr.mp hw).1 hx) k L' hr)
  | struct fs _ =>
      intro L _ h
      simp only [HasLen] at h
      obtain ⟨L', _, rfl⟩ := h
      exact padLen8_mod L'
  | union fs _ =>
      intro L _ h
      simp only [HasLen] at h
      obtain ⟨L', _, rfl⟩ := h
      exact padLen8_mod _
  | delim t hd _ =>
      intro L _ h
      obtain ⟨k, _, rfl⟩ := (hasLen_delimited hd).mp h
      rw [align_of_delimited hd]
      exact Nat.add_mul_mod_self_left ..

mutual
theorem hasLen_le : ∀ (t : Ty) (L : Nat), HasLen t L → L ≤ t.maxLen
  | .bool | .uint _ _ | .sint _ _ | .float _ _ | .byte | .utf8 | .void _ => fun L h =>
      Nat.le_of_eq ((hasLen_prim rfl).mp h)
  | .farr e cap => fun L h => by
      simp only [HasLen] at h
      exact RepLen.le (hasLen_le e) cap L h
  | .varr e cap => fun L h => by
      simp only [HasLen] at h
      obtain ⟨k, L', hk, hr, rfl⟩ := h
      exact Nat.add_le_add_left (Nat.le_trans (RepLen.le (hasLen_le e) k L' hr) (Nat.mul_le_mul_right _ hk)) _
  | .struct fs .sealed => fun L h => by
      simp only [HasLen] at h
      obtain ⟨L', hf, rfl⟩ := h
      exact roundUp_mono (by decide) (fieldsLen_le fs 0 0 L' (Nat.le_refl _) hf)
  | .union fs .sealed => fun L h => by
      simp only [HasLen] at h
      obtain ⟨L', hf, rfl⟩ := h
      exact roundUp_mono (by decide) (Nat.add_le_add_left (variantLen_le fs L' hf) _)
  | .struct fs (.delimited x) | .union fs (.delimited x) => fun L h => by
      obtain ⟨k, hk, rfl⟩ := (hasLen_delimited rfl).mp h
      exact hk
theorem fieldsLen_le : ∀ (ts : List Ty) (acc acc' L : Nat), acc ≤ acc' → FieldsLen ts acc L →
    L ≤ maxFields ts acc'
  | [] => fun acc acc' L ha h => by simp only [FieldsLen] at h; simpa [maxFields, h] using ha
  | t :: ts => fun acc acc' L ha h => by
      simp only [FieldsLen] at h
      obtain ⟨a, h1, h2⟩ := h
      exact fieldsLen_le ts _ _ L (Nat.add_le_add (roundUp_mono (align_pos t) ha) (hasLen_le t a h1)) h2
theorem variantLen_le : ∀ (ts : List Ty) (L : Nat), VariantLen ts L → L ≤ maxVariants ts
  | [] => fun L h => by cases h
  | t :: ts => fun L h => by
      simp only [VariantLen] at h
      rcases h with h | h
      · exact Nat.le_trans (hasLen_le t L h) (Nat.le_max_left _ _)
      · exact Nat.le_trans (variantLen_le ts L h) (Nat.le_max_right _ _)
end

/-- Behind a delimiter header: a length of the sealed layout is a whole number of bytes that fits the extent
    and the 32-bit header. -/
theorem inner_fits {t : Ty} (hd : t.isDelimited = true) (hw : t.wf = true) {B : Nat} (h : HasLen t.inner B) :
    B % 8 = 0 ∧ headerBits + B ≤ t.maxLen ∧ B / 8 < 2^32 := by
  have hm := hasLen_mod t.inner B (wf_inner t hw) h
  rw [align_inner, align_of_delimited hd] at hm
  obtain ⟨x, hx, _, hle, h32⟩ := extent_of_delimited hd hw
  have hB := Nat.le_trans (hasLen_le t.inner B h) hle
  exact ⟨hm, hx ▸ Nat.add_le_add_left hB _, Nat.lt_of_le_of_lt (Nat.div_le_div_right hB) h32⟩

theorem hasLen_of_inner {t : Ty} (hd : t.isDelimited = true) (hw : t.wf = true) {B : Nat}
    (h : HasLen t.inner B) : HasLen t (headerBits + B) := by
  obtain ⟨h8, hle, _⟩ := inner_fits hd hw h
  refine (hasLen_delimited hd).mpr ⟨B / 8, ?_, ?_⟩ <;> rw [Nat.mul_div_cancel' (Nat.dvd_of_mod_eq_zero h8)]
  exact hle

end Wire
