import Proofs.BlsSpec
/-! `Op.modulo d` computes exactly the residues of the denoted set, for every tree and every divisor `d ≥ 1`. -/
open scoped Pointwise
namespace Bls

theorem modulo_lt (d : ℕ) (hd : 0 < d) : ∀ o : Op, ∀ x ∈ o.modulo d, x < d := by
  intro o
  induction o using Op.induct with
  | uni cs ih =>
    intro x hx
    simp only [Op.modulo, mem_dedup, List.mem_flatten, modulos_eq, List.mem_map] at hx
    obtain ⟨_, ⟨c, hc, rfl⟩, hx⟩ := hx
    exact ih c hc x hx
  | rrep c k =>
    intro x hx
    simp only [Op.modulo, rangeCwrSumsMod, mem_dedup, List.mem_flatMap, List.mem_map] at hx
    obtain ⟨_, _, _, _, rfl⟩ := hx
    exact Nat.mod_lt _ hd
  | _ =>
    intro x hx
    simp only [Op.modulo, cwrSumsMod, mem_dedup, List.mem_map] at hx
    obtain ⟨_, _, rfl⟩ := hx
    exact Nat.mod_lt _ hd

/-- Core statement, in `ZMod d` so that sums, multiples and unions of sets commute with taking residues: the computed
    residues and the denoted set have the same image. -/
theorem modulo_castd : ∀ o : Op, o.wf = true → ∀ d : ℕ, 0 < d → castd d (o.modulo d).toFinset = castd d (den o) :=
  Op.wf_induct
    (leaf := fun vs _ d _ => by rw [Op.modulo, toFinset_dedup, castd_map_mod, List.map_id', den])
    (pad := fun c a _ ha ih d hd => by
      have hl : 0 < Nat.lcm a d := Nat.lcm_pos (by omega) hd
      have : NeZero (Nat.lcm a d) := ⟨by omega⟩
      rw [Op.modulo, toFinset_dedup, castd_map_mod, toFinset_map,
        toFinset_eq_image_mod _ _ _ (modulo_lt _ hl c) (ih _ hl), castd_pad_mod_lcm a d ha, den])
    (cat := fun cs _ _ ih d hd => by
      rw [Op.modulo, toFinset_dedup, castd_map_mod, List.map_id', toFinset_dedup, toFinset_product_sums, den, denSum_eq,
        castd_sum, castd_sum, modulos_eq, List.map_map, List.map_map, List.map_map]
      exact congrArg List.sum (List.map_congr_left fun c hc => ih c hc d hd))
    (rep := fun c k hc ih d hd => by
      have : NeZero d := ⟨by omega⟩
      rw [Op.modulo, cwrSumsMod, toFinset_dedup, castd_map_mod, toFinset_cwr_sums, castd_nsmul, ih d hd, den, castd_nsmul]
      exact nsmul_equivK _ (by simpa [castd] using den_nonempty c hc) k)
    (rrep := fun c k _ ih d hd => by
      have : NeZero d := ⟨by omega⟩
      rw [Op.modulo, rangeCwrSumsMod, toFinset_dedup, flatMap_map_mod, castd_map_mod, List.map_id', toFinset_rangeCwr,
        castd_biUnion, den, castd_biUnion]
      simp only [castd_nsmul, ih d hd]
      exact biUnion_equivK _ k)
    (uni := fun cs _ _ ih d hd => by
      rw [Op.modulo, toFinset_dedup, modulos_eq, den]
      exact toFinset_flatten_children _ (castd_union d) cs _ fun c hc => ih c hc d hd)

/-- `modulo d` is exactly the set of residues of the denoted set. -/
theorem modulo_exact (o : Op) (h : o.wf = true) (d : ℕ) (hd : 0 < d) :
    (o.modulo d).toFinset = (den o).image (· % d) :=
  have : NeZero d := ⟨by omega⟩
  toFinset_eq_image_mod d _ _ (modulo_lt d hd o) (modulo_castd o h d hd)

theorem modulo_nodup (o : Op) (d : ℕ) : (o.modulo d).Nodup := by
  cases o <;> simp only [Op.modulo, cwrSumsMod, rangeCwrSumsMod] <;> exact nodup_dedup _

end Bls
