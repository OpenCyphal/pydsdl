import Proofs.WireBasic
/-! The only ways `dec` can fail: array length above capacity, union tag out of range, delimiter header larger
    than the remaining data, invalid UTF-8.  In `_serdes.py` these are ArrayLengthError, UnionTagError,
    DelimiterHeaderError (all SerDesError) and UnicodeDecodeError (a ValueError). -/
namespace Wire

def Err.isDecodeError : Err → Bool
  | .arrayLength | .unionTag | .delimiterHeader | .value => true
  | .unionField | .type => false

/-- an outcome that is a value or one of the decode errors -/
def ErrOk {α : Type} (x : Except Err α) : Prop := ∀ e, x = .error e → e.isDecodeError = true

theorem ErrOk.ok {α : Type} (a : α) : ErrOk (.ok a) := fun _ h => nomatch h

theorem ErrOk.error {α : Type} {e : Err} (he : e.isDecodeError = true) : ErrOk (.error e : Except Err α) :=
  fun _ h => by cases h; exact he

theorem ErrOk.bind {α β : Type} {x : Except Err α} {k : α → Except Err β} (hx : ErrOk x)
    (hk : ∀ a, ErrOk (k a)) : ErrOk (x >>= k) := by
  intro e h
  rcases (bind_err x k e).mp h with h | ⟨a, _, h⟩
  · exact hx e h
  · exact hk a e h

theorem decRep_err {f : R → Except Err (Val × R)} (hf : ∀ r, ErrOk (f r)) : ∀ (n : Nat) (r : R), ErrOk (decRep f n r)
  | 0, _ => .ok _
  | n+1, r => by
      simp only [decRep]
      exact (hf r).bind fun p => (decRep_err hf n p.2).bind fun _ => .ok _

theorem unwrapDelim_err {body : R → Except Err (Val × R)} (hb : ∀ r, ErrOk (body r)) (m : Mode) (r : R) :
    ErrOk (unwrapDelim m r body) := by
  cases m with
  | sealed => exact hb r
  | delimited x =>
    simp only [unwrapDelim]
    split
    · exact .error rfl
    · exact (hb _).bind fun _ => .ok _

mutual
theorem dec_err : ∀ (t : Ty) (r : R), ErrOk (dec t r)
  | .bool, _ | .uint _ _, _ | .sint _ _, _ | .float _ _, _ | .byte, _ | .utf8, _ | .void _, _ => by
      simp only [dec]; exact .ok _
  | .farr el cap, r => by
      simp only [dec]
      exact (decRep_err (dec_err el) cap r).bind fun _ => .ok _
  | .varr el cap, r => by
      simp only [dec]
      split
      · exact .error rfl
      · refine (decRep_err (dec_err el) _ _).bind fun p => ?_
        split
        · exact .error rfl
        · exact .ok _
  | .struct fs m, r => by
      simp only [dec]
      exact unwrapDelim_err (fun q => ErrOk.bind (decFields_err fs q) fun _ => .ok _) m r
  | .union fs m, r => by
      simp only [dec]
      exact unwrapDelim_err (fun q => ErrOk.bind (decVariant_err fs _ _) fun _ => .ok _) m r
theorem decFields_err : ∀ (ts : List Ty) (r : R) (e : Err), decFields ts r = .error e → e.isDecodeError = true
  | [], _ => ErrOk.ok _
  | t :: ts, r => by
      simp only [decFields]
      exact (dec_err t _).bind fun p => ErrOk.bind (decFields_err ts p.2) fun _ => .ok _
theorem decVariant_err : ∀ (ts : List Ty) (n : Nat) (r : R) (e : Err), decVariant ts n r = .error e →
    e.isDecodeError = true
  | [], _, _ => ErrOk.error rfl
  | t :: _, 0, r => by simp only [decVariant]; exact dec_err t r
  | _ :: ts, n+1, r => by simp only [decVariant]; exact decVariant_err ts n r
end

end Wire
