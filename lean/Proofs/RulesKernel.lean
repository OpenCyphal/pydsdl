import Model.Rules
/-! Per-rule kernel lemmas of C05: each check of `Model/Rules.lean` against the declarative rule, for all values. -/
namespace Rules

/-! ### names -/

def Digits (l : List Char) : Prop := ∀ d ∈ l, isDigit d = true

theorem all_digits_iff (l : List Char) : l.all isDigit = true ↔ Digits l := by
  simp [Digits, List.all_eq_true]

theorem matchPrefixDigits_iff (pre s : List Char) :
    matchPrefixDigits pre s = true ↔ ∃ ds, Digits ds ∧ s = pre ++ ds := by
  unfold matchPrefixDigits
  rw [Bool.and_eq_true, List.isPrefixOf_iff_prefix, all_digits_iff]
  constructor
  · rintro ⟨⟨t, rfl⟩, h⟩
    exact ⟨t, by simpa using h, rfl⟩
  · rintro ⟨ds, h, rfl⟩
    exact ⟨⟨ds, rfl⟩, by simpa using h⟩

theorem matchPrefixDigit_iff (pre s : List Char) :
    matchPrefixDigit pre s = true ↔ ∃ d, isDigit d = true ∧ s = pre ++ [d] := by
  unfold matchPrefixDigit
  rw [Bool.and_eq_true, List.isPrefixOf_iff_prefix]
  constructor
  · rintro ⟨⟨t, rfl⟩, h⟩
    simp only [List.drop_left] at h
    match t, h with
    | [d], h => exact ⟨d, h, rfl⟩
  · rintro ⟨d, h, rfl⟩
    exact ⟨⟨[d], rfl⟩, by simpa using h⟩

theorem matchDUD_iff (s : List Char) :
    matchDigitsUnderscoreDigits s = true ↔ ∃ a b, a ≠ [] ∧ b ≠ [] ∧ Digits a ∧ Digits b ∧ s = a ++ '_' :: b := by
  unfold matchDigitsUnderscoreDigits
  constructor
  · intro h
    simp only [Bool.and_eq_true, Bool.not_eq_true', List.isEmpty_eq_false_iff] at h
    obtain ⟨ha, h⟩ := h
    have hs : s = s.takeWhile isDigit ++ s.dropWhile isDigit := (List.takeWhile_append_dropWhile).symm
    cases hd : s.dropWhile isDigit with
    | nil => rw [hd] at h; simp at h
    | cons x t =>
      rw [hd] at h
      split at h
      · rename_i t' heq
        cases heq
        simp only [Bool.and_eq_true, Bool.not_eq_true', List.isEmpty_eq_false_iff] at h
        exact ⟨s.takeWhile isDigit, t, ha, h.1, (all_digits_iff _).mp List.all_takeWhile, (all_digits_iff t).mp h.2,
          by rw [← hd]; exact hs⟩
      · exact absurd h (by decide)
  · rintro ⟨a, b, ha, hb, da, db, rfl⟩
    have hu : isDigit '_' = false := by decide
    have e1 : (a ++ '_' :: b).takeWhile isDigit = a := by
      rw [List.takeWhile_append_of_pos da]
      simp [List.takeWhile, hu]
    have e2 : (a ++ '_' :: b).dropWhile isDigit = '_' :: b := by
      rw [List.dropWhile_append_of_pos da]
      simp [List.dropWhile, hu]
    rw [e1, e2]
    simp only [Bool.and_eq_true, Bool.not_eq_true', List.isEmpty_eq_false_iff]
    exact ⟨ha, hb, (all_digits_iff b).mpr db⟩

theorem matchQ_iff (s : List Char) :
    matchQ s = true ↔ ∃ a b, a ≠ [] ∧ b ≠ [] ∧ Digits a ∧ Digits b ∧ (s = 'q' :: (a ++ '_' :: b) ∨ s = 'u' :: 'q' :: (a ++ '_' :: b)) := by
  unfold matchQ
  split
  · rename_i t
    rw [matchDUD_iff]
    constructor
    · rintro ⟨a, b, h1, h2, h3, h4, rfl⟩; exact ⟨a, b, h1, h2, h3, h4, Or.inr rfl⟩
    · rintro ⟨a, b, h1, h2, h3, h4, h | h⟩
      · simp at h
      · simp at h; exact ⟨a, b, h1, h2, h3, h4, h⟩
  · rename_i t hne
    rw [matchDUD_iff]
    constructor
    · rintro ⟨a, b, h1, h2, h3, h4, rfl⟩; exact ⟨a, b, h1, h2, h3, h4, Or.inl rfl⟩
    · rintro ⟨a, b, h1, h2, h3, h4, h | h⟩
      · simp at h; exact ⟨a, b, h1, h2, h3, h4, h⟩
      · simp at h
  · rename_i h1 h2
    constructor
    · intro h; cases h
    · rintro ⟨a, b, _, _, _, _, h | h⟩
      · exact absurd h (h2 _)
      · exact absurd h (h1 _)

theorem matchUnderscores_iff (s : List Char) : matchUnderscores s = true ↔ ∃ m, s = '_' :: (m ++ ['_']) := by
  unfold matchUnderscores
  split
  · rename_i t
    constructor
    · intro h
      split at h
      · rename_i hl
        obtain ⟨ys, rfl⟩ := List.getLast?_eq_some_iff.mp hl
        exact ⟨ys, rfl⟩
      · cases h
    · rintro ⟨m, h⟩
      simp at h
      subst h
      simp
  · rename_i hne
    constructor
    · intro h; cases h
    · rintro ⟨m, h⟩; exact absurd h (hne _)

/-- reserved words and patterns of the (lowered) name -/
def Reserved (n : List Char) : Prop :=
  (∃ w ∈ reservedWords, w.toList = n) ∨
  (∃ ds, Digits ds ∧ (n = "void".toList ++ ds ∨ n = "uint".toList ++ ds ∨ n = "int".toList ++ ds ∨ n = "float".toList ++ ds)) ∨
  (∃ a b, a ≠ [] ∧ b ≠ [] ∧ Digits a ∧ Digits b ∧ (n = 'q' :: (a ++ '_' :: b) ∨ n = 'u' :: 'q' :: (a ++ '_' :: b))) ∨
  (∃ d, isDigit d = true ∧ (n = "com".toList ++ [d] ∨ n = "lpt".toList ++ [d])) ∨
  (∃ m, n = '_' :: (m ++ ['_']))

theorem reserved_iff (n : List Char) :
    ((reservedWords.any fun w => w.toList == n) || matchesPattern n) = true ↔ Reserved n := by
  unfold matchesPattern Reserved
  simp only [Bool.or_eq_true, List.any_eq_true, beq_iff_eq, matchPrefixDigits_iff, matchPrefixDigit_iff, matchQ_iff,
    matchUnderscores_iff, and_or_left, exists_or, or_assoc]
  -- the same ten alternatives on both sides, in the order of the checks on the left and of the rule on the right
  constructor <;> rintro (h | h | h | h | h | h | h | h | h | h) <;> simp only [h, true_or, or_true]

/-- the name rule: non-empty, `[A-Za-z_][A-Za-z0-9_]*`, and not reserved in any letter case -/
def NameOk (s : String) : Prop :=
  (∃ c rest, s.toList = c :: rest ∧ validFirst c = true) ∧ (∀ c ∈ s.toList, validCont c = true) ∧ ¬ Reserved (lower s.toList)

theorem checkName_iff (s : String) : checkName s = true ↔ NameOk s := by
  unfold checkName NameOk
  cases hs : s.toList with
  | nil => simp
  | cons c rest =>
    have hr := reserved_iff (lower (c :: rest))
    simp only [Bool.and_eq_true, Bool.not_eq_true']
    constructor
    · rintro ⟨⟨⟨h1, h2⟩, h3⟩, h4⟩
      refine ⟨⟨c, rest, rfl, h1⟩, by simpa [List.all_eq_true] using h2, ?_⟩
      intro hres
      have := hr.mpr hres
      simp [h3, h4] at this
    · rintro ⟨⟨c', rest', he, h1⟩, h2, h3⟩
      cases he
      have hn : ¬ ((reservedWords.any fun w => w.toList == lower (c :: rest)) || matchesPattern (lower (c :: rest))) = true :=
        fun h => h3 (hr.mp h)
      simp only [Bool.or_eq_true, not_or, Bool.not_eq_true] at hn
      exact ⟨⟨⟨h1, by simpa [List.all_eq_true] using h2⟩, hn.1⟩, hn.2⟩

/-! ### `checkName` without `String` operations

  The kernel evaluates `String.toList` on a literal by decoding its bytes, which is slow; `checkChars` is `checkName` on the
  characters of the name with the reserved words as character lists, and is what the examples evaluate. -/

def reservedChars : List (List Char) :=
  [['t', 'r', 'u', 'n', 'c', 'a', 't', 'e', 'd'], ['s', 'a', 't', 'u', 'r', 'a', 't', 'e', 'd'], ['t', 'r', 'u', 'e'],
   ['f', 'a', 'l', 's', 'e'], ['b', 'o', 'o', 'l'], ['o', 'p', 't', 'i', 'o', 'n', 'a', 'l'], ['a', 'l', 'i', 'g', 'n', 'e', 'd'],
   ['c', 'o', 'n', 's', 't'], ['s', 't', 'r', 'u', 'c', 't'], ['s', 'u', 'p', 'e', 'r'], ['t', 'e', 'm', 'p', 'l', 'a', 't', 'e'],
   ['e', 'n', 'u', 'm'], ['s', 'e', 'l', 'f'], ['a', 'n', 'd'], ['o', 'r'], ['n', 'o', 't'], ['a', 'u', 't', 'o'], ['t', 'y', 'p', 'e'],
   ['c', 'o', 'n'], ['p', 'r', 'n'], ['a', 'u', 'x'], ['n', 'u', 'l']]

theorem reservedWords_any (n : List Char) : (reservedWords.any fun w => w.toList == n) = reservedChars.any (· == n) := by
  have e : reservedWords.map String.toList = reservedChars := by decide +kernel
  rw [← e, List.any_map]
  rfl

def checkChars : List Char → Bool
  | [] => false
  | c :: rest =>
    validFirst c && (c :: rest).all validCont && !reservedChars.any (· == lower (c :: rest)) && !matchesPattern (lower (c :: rest))

theorem checkName_eq_chars (s : String) : checkName s = checkChars s.toList := by
  unfold checkName
  cases s.toList with
  | nil => rfl
  | cons c rest => simp only [reservedWords_any, checkChars]

end Rules
