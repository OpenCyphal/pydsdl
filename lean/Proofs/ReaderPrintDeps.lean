import Proofs.ReaderPrint
import Proofs.ReaderLoc
/-! `@print` deliveries in the presence of references (C17): every delivery — of a successful or of a failed read, at any
    dependency depth — is a `@print` statement of a definition of the namespace with that statement's own line and text;
    the path is the one of the target whose read triggered the parse (for a referenced definition this is the known
    finding: the referrer's path instead of its own). -/
namespace Reader

/-- every delivery of `w'` was already in `w` or satisfies `Q` -/
def NewPrints (Q : Print → Prop) (w w' : W) : Prop := ∀ p ∈ w'.prints, p ∈ w.prints ∨ Q p

theorem NewPrints.refl (Q : Print → Prop) (w : W) : NewPrints Q w w := fun _ hp => Or.inl hp

theorem NewPrints.trans {Q : Print → Prop} {a b c : W} (h₁ : NewPrints Q a b) (h₂ : NewPrints Q b c) : NewPrints Q a c := by
  intro p hp
  rcases h₂ p hp with h | h
  · exact h₁ p h
  · exact Or.inr h

theorem NewPrints.mono {Q Q' : Print → Prop} {a b : W} (h : NewPrints Q a b) (hq : ∀ p, Q p → Q' p) : NewPrints Q' a b :=
  fun p hp => (h p hp).imp id (hq p)

theorem NewPrints.of_eq {Q : Print → Prop} {a b c : W} (h : NewPrints Q a b) (e : c.prints = b.prints) : NewPrints Q a c := by
  intro p hp; rw [e] at hp; exact h p hp

/-- reading a referenced definition delivers only `Q` -/
def DepPrints (Q : Print → Prop) (c : Ctx) : Prop := ∀ w j, NewPrints Q w (c.depRead w j).1

/-- whatever the computation returns — a state or an error — carries a world whose new deliveries satisfy `Q` -/
def Out (Q : Print → Prop) (w0 : W) (x : M St) : Prop :=
  Outcome x (fun s' => NewPrints Q w0 s'.w) (fun e => NewPrints Q w0 e.2)

variable {Q : Print → Prop} {w0 : W}

theorem out_bind {x : M St} {f : St → M St} (hx : Out Q w0 x) (hf : ∀ a, x = .ok a → NewPrints Q w0 a.w → Out Q w0 (f a)) :
    Out Q w0 (x >>= f) :=
  Outcome.bind hx hf

theorem out_flush {c : Ctx} {k : Nat} {s : St} (h : NewPrints Q w0 s.w) : Out Q w0 (flush c k s) := by
  rw [flush_eq]
  split <;> exact h

theorem out_readDeps {c : Ctx} {k : Nat} (hd : DepPrints Q c) : ∀ (js : List Nat) (s : St), NewPrints Q w0 s.w →
    Out Q w0 (readDeps c k s js) := by
  intro js
  induction js with
  | nil => intro s h; exact h
  | cons j js ih =>
    intro s h
    unfold readDeps
    split
    · exact h
    · have hj := hd s.w j
      split
      · rename_i w' heq
        rw [heq] at hj
        exact ih { s with w := w' } (h.trans hj)
      · rename_i w' e heq
        rw [heq] at hj
        exact h.trans hj

/-- a statement behind its flush delivers what its referenced definitions deliver, and its own `@print` -/
theorem out_body {c : Ctx} {k : Nat} {sf : St} {l : Line} {st : Stmt} (hd : DepPrints Q c) (hl : l.stmt = some st)
    (hp : sf.pending = none) (h : NewPrints Q w0 sf.w) (hq : ∀ p ∈ linePrints c.printFile k l, Q p) :
    Out Q w0 (body c k l st sf) := by
  unfold body
  rw [resolveRefs_eq]
  split
  · have hm : NewPrints Q w0 (markOffs l sf).w := by rw [markOffs_eq]; exact h
    rw [ok_bind]
    refine out_bind (out_readDeps hd l.deps _ hm) fun s3 h3 g3 => ?_
    have hp3 : s3.pending = none := by rw [readDeps_ok h3, markOffs_eq]; exact hp
    rw [handler_eq c k l st hp3]
    split
    · exact g3
    · split
      · exact g3
      · split
        · intro p hp'
          rw [(handled_w c k l st s3 hl).2, List.mem_append] at hp'
          exact hp'.elim (g3 p) fun h => Or.inr (hq p h)
        · exact g3
  · exact h

theorem out_stepLine {c : Ctx} {k : Nat} {s : St} {l : Line} (hd : DepPrints Q c) (hi : s.inv) (h : NewPrints Q w0 s.w)
    (hq : ∀ p ∈ linePrints c.printFile k l, Q p) : Out Q w0 (stepLine c k s l) := by
  have hv : Out Q w0 (match l.stmt with | some st => visitStmt c k l st s | none => .ok s) := by
    cases hl : l.stmt with
    | none => exact h
    | some st =>
      simp only
      rw [visitStmt_eq c k l st hi]
      split
      · exact h
      · generalize hs0 : (if l.childrenFlush st then s else markOffs l s) = s0
        have hs : s0.inv ∧ NewPrints Q w0 s0.w := by
          subst hs0
          split
          · exact ⟨hi, h⟩
          · rw [markOffs_eq]; exact ⟨hi, h⟩
        refine out_bind (out_flush hs.2) fun sf hf _ => ?_
        obtain ⟨_, rfl⟩ := flush_ok hf
        exact out_body hd hl (flushed_pending hs.1) hs.2 hq
  rw [stepLine_eq]
  refine out_bind hv fun s1 _ g1 => ?_
  have g1' : NewPrints Q w0 (addLineComment l s1).w := by
    obtain ⟨t, ht⟩ := addLineComment_eq l s1
    rw [ht]; exact g1
  unfold tail
  split
  · exact out_flush g1'
  · exact g1'

theorem out_runLines {c : Ctx} (hd : DepPrints Q c) : ∀ (ls : List Line) (k : Nat) (s : St), s.inv → NewPrints Q w0 s.w →
    (∀ p ∈ specPrints c.printFile k ls, Q p) → Out Q w0 (runLines c k s ls) := by
  intro ls
  induction ls with
  | nil => intro k s _ h _; exact h
  | cons l ls ih =>
    intro k s hi h hq
    simp only [runLines]
    have hq1 : ∀ p ∈ linePrints c.printFile k l, Q p := fun p hp => hq p (by simp [specPrints, hp])
    have hq2 : ∀ p ∈ specPrints c.printFile (l.next k) ls, Q p := fun p hp => hq p (by simp [specPrints, hp])
    exact out_bind (out_stepLine hd hi h hq1) fun s1 hs1 g1 => ih _ s1 (stepLine_spec hi hs1).1 g1 hq2

/-- the deliveries of one read, successful or not: what referenced definitions deliver (`Q`), and `@print` statements of
    this text with their own line, under the bound path -/
theorem readText_prints_deps {c : Ctx} {ls : List Line} {w : W} (hd : DepPrints Q c) :
    (∀ comp w', readText c ls w = .ok (comp, w') → NewPrints (fun p => Q p ∨ p ∈ specPrints c.printFile 1 ls) w w') ∧
    (∀ e w', readText c ls w = .error (e, w') → NewPrints (fun p => Q p ∨ p ∈ specPrints c.printFile 1 ls) w w') := by
  have hd' : DepPrints (fun p => Q p ∨ p ∈ specPrints c.printFile 1 ls) c := fun w j => (hd w j).mono (fun _ => Or.inl)
  have hrun := out_runLines (w0 := w) hd' ls 1 (St.init w) (inv_init w) (NewPrints.refl _ _) (fun p hp => Or.inr hp)
  constructor
  · intro comp w' h
    obtain ⟨s, _, hs, _, _, _, rfl⟩ := readText_ok h
    rw [hs] at hrun; exact hrun
  · intro e w' h
    rcases readText_err_cases h with ⟨_, _, hx⟩ | ⟨_, h | ⟨s, hs, h | ⟨_, hx⟩⟩⟩
    · cases hx; exact NewPrints.refl _ _
    · rw [h] at hrun; exact hrun
    · cases (flush_err h).2; rw [hs] at hrun; exact hrun
    · cases hx; rw [hs] at hrun; exact hrun

/-- a `@print` statement of some definition of the namespace, with its own line and text, under path `pf` -/
def NsPrint (defs : List Def) (pf : Nat) (p : Print) : Prop :=
  ∃ (i : Nat) (d : Def), defs[i]? = some d ∧ p ∈ specPrints pf 1 d.lines

theorem readDef_prints (defs : List Def) (pf : Nat) : ∀ fuel, DepPrints (NsPrint defs pf) ⟨0, pf, defs.length, readDef fuel defs pf, false⟩ := by
  intro fuel
  induction fuel with
  | zero => intro w j; simp only [readDef]; exact NewPrints.refl _ _
  | succ fuel ih =>
    intro w j
    simp only
    unfold readDef
    split
    · exact NewPrints.refl _ _
    · cases hd : defs[j]? with
      | none => exact NewPrints.refl _ _
      | some d =>
        simp only
        have hdep : DepPrints (NsPrint defs pf) ⟨j, pf, defs.length, readDef fuel defs pf, d.finalFault⟩ := fun w j' => ih w j'
        obtain ⟨r1, r2⟩ := readText_prints_deps (ls := d.lines) (w := w) hdep
        have hq : ∀ p, (NsPrint defs pf p ∨ p ∈ specPrints pf 1 d.lines) → NsPrint defs pf p := by
          rintro p (h | h)
          · exact h
          · exact ⟨j, d, hd, h⟩
        split
        · rename_i comp w' hr
          exact ((r1 comp w' hr).mono hq).of_eq rfl
        · rename_i e w' hr
          exact (r2 e w' hr).mono hq

/-- **`@print` with references.**  Whatever `readTargets` delivers — on success or up to the error — is a `@print`
    statement of a definition of the namespace, delivered with that statement's own line and text; the path is that of
    one of the targets (the one whose read triggered the parse). -/
theorem readTargets_prints_deps (defs : List Def) : ∀ (ts : List Nat) (w : W) (acc : List (Nat × Composite)),
    (∀ res w', readTargets defs ts w acc = .ok (res, w') → NewPrints (fun p => ∃ t ∈ ts, NsPrint defs t p) w w') ∧
    (∀ e w', readTargets defs ts w acc = .error (e, w') → NewPrints (fun p => ∃ t ∈ ts, NsPrint defs t p) w w') := by
  intro ts
  induction ts with
  | nil =>
    intro w acc
    exact ⟨fun res w' h => by simp [readTargets] at h; rw [← h.2]; exact NewPrints.refl _ _, fun e w' h => by simp [readTargets] at h⟩
  | cons t ts ih =>
    intro w acc
    have hmono : ∀ {a b : W}, NewPrints (fun p => ∃ t' ∈ ts, NsPrint defs t' p) a b →
        NewPrints (fun p => ∃ t' ∈ t :: ts, NsPrint defs t' p) a b :=
      fun h => h.mono (fun p ⟨t', ht', hp⟩ => ⟨t', List.mem_cons_of_mem _ ht', hp⟩)
    unfold readTargets
    split
    · obtain ⟨i1, i2⟩ := ih w (acc ++ [(t, _)])
      exact ⟨fun res w' h => hmono (i1 res w' h), fun e w' h => hmono (i2 e w' h)⟩
    · cases hd : defs[t]? with
      | none =>
        exact ⟨fun res w' h => (by cases h), fun e w' h => by cases h; exact NewPrints.refl _ _⟩
      | some d =>
        simp only
        have hdep : DepPrints (NsPrint defs t) ⟨t, t, defs.length, readDef defs.length defs t, d.finalFault⟩ :=
          fun w j => readDef_prints defs t defs.length w j
        obtain ⟨r1, r2⟩ := readText_prints_deps (ls := d.lines) (w := w) hdep
        have hq : ∀ p, (NsPrint defs t p ∨ p ∈ specPrints t 1 d.lines) → ∃ t' ∈ t :: ts, NsPrint defs t' p := by
          rintro p (h | h)
          · exact ⟨t, List.mem_cons_self .., h⟩
          · exact ⟨t, List.mem_cons_self .., t, d, hd, h⟩
        split
        · rename_i comp w1 hr
          have g1 := (r1 comp w1 hr).mono hq
          obtain ⟨i1, i2⟩ := ih w1 (acc ++ [(t, comp)])
          exact ⟨fun res w' h => g1.trans (hmono (i1 res w' h)), fun e w' h => g1.trans (hmono (i2 e w' h))⟩
        · rename_i e1 w1 hr
          exact ⟨fun res w' h => (by cases h), fun e w' h => by cases h; exact (r2 e1 w1 hr).mono hq⟩

end Reader
