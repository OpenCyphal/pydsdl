import Proofs.Reader
/-! Formatting independence of the reader model (C03).

    `items ls` is the statement sequence of a document: what the statement machine looks at of every line that holds a
    statement (or does not match the grammar) — no comments, no blank / empty lines, no line terminators, no line numbers.
    `aRead` is a *declarative* reading of a statement sequence: every attribute is added the moment its statement is read
    (no queue, no doc comments, no header state), every check is made on what the statements in front say.

    `readText_abs`: for every document whose lines are well formed (`Line.offsWf`), `readText` accepts exactly when `aRead`
    accepts the statement sequence, and then the built model is, up to doc strings, what `aRead` says.  Hence two
    documents with the same statement sequence are interchangeable, whatever their line structure. -/
namespace Reader

/-! ### the statement sequence -/

inductive Item where
  /-- a line that does not match the grammar -/
  | syn
  | stmt (st : Stmt) (refs : List String) (deps : List Nat) (offs : Bool) (fault : Option Phase)
  deriving Repr, DecidableEq

def Line.item (l : Line) : Option Item :=
  if l.fault = some .syn then some .syn
  else match l.stmt with
    | some st => some (.stmt st l.refs l.deps l.offs l.fault)
    | none => none

def items (ls : List Line) : List Item := ls.filterMap Line.item

/-- A statement that evaluates `_offset_` does so through an identifier, a reference or a dependency: the visitor has
    flushed before (`visit_identifier`).  In the real grammar `_offset_` *is* an identifier, so every rendered line
    satisfies this; the abstract `Line` type also contains `---` / `voidN` lines with `offs = true`, which no text
    produces. -/
def Line.offsWf (l : Line) : Prop :=
  l.offs = true → ∀ st, l.stmt = some st → (st.hasIdent || !l.refs.isEmpty || !l.deps.isEmpty) = true

instance (l : Line) : Decidable l.offsWf := by unfold Line.offsWf; infer_instance

/-! ### the declarative reading of a statement sequence -/

structure ASt where
  spec : Spec
  /-- `_offset_` has been evaluated in the current schema -/
  offs : Bool
  w : W
  deriving Repr, DecidableEq

/-- every referenced definition can be read, one after the other -/
def aDeps (c : Ctx) (w : W) : List Nat → Option W
  | [] => some w
  | j :: js =>
    if c.ndefs ≤ j then none
    else match c.depRead w j with
      | (w', none) => aDeps c w' js
      | (_, some _) => none

def aHandler (c : Ctx) (t : ASt) (st : Stmt) : Option ASt :=
  match st with
  | .attr _ => if Mode.isExtent t.spec.cur.mode then none else some { t with spec := t.spec.stepS st }
  | .directive name e text =>
    if dirOk t.spec name e then
      some { t with spec := t.spec.stepS st,
                    w := if name = "print" then { t.w with prints := t.w.prints ++ [⟨c.printFile, 0, text⟩] } else t.w }
    else none
  | .marker => if !t.spec.done.isEmpty then none else some { t with spec := t.spec.stepS st, offs := false }

/-- the constructor of the attribute raises (`commit` fault), or a field follows an evaluated `_offset_` in a union -/
def commitBad (st : Stmt) (fault : Option Phase) (t : ASt) : Bool :=
  match st with
  | .attr core => fault == some .commit || (core.kind != .const && (t.spec.cur.union && t.offs))
  | _ => false

/-- everything of a statement but the `pre` check and the acceptance of a new attribute: references resolve to constants
    in front, the referenced definitions can be read, no fault of the statement itself, the statement may stand here -/
def aBody (c : Ctx) (t : ASt) (st : Stmt) (refs : List String) (deps : List Nat) (offs : Bool) (fault : Option Phase) :
    Option ASt :=
  if !(refs.all fun r => t.spec.cur.consts.any fun k => k.name == r) then none
  else match aDeps c t.w deps with
    | none => none
    | some w' =>
      if fault = some .mid then none
      else if fault = some .emit then none
      else aHandler c { t with offs := t.offs || offs, w := w' } st

def aStep (c : Ctx) (t : ASt) : Item → Option ASt
  | .syn => none
  | .stmt st refs deps offs fault =>
    if fault = some .pre then none
    else match aBody c t st refs deps offs fault with
      | none => none
      | some t4 => if commitBad st fault t4 then none else some t4

def aRun (c : Ctx) : ASt → List Item → Option ASt
  | t, [] => some t
  | t, it :: its => match aStep c t it with
    | none => none
    | some t' => aRun c t' its

def SegSpec.attrNames (g : SegSpec) : List String :=
  ((g.fields ++ g.consts).filter fun a => a.kind != .padding).map (·.name)

/-- the checks of `finalize` that depend on the statement structure: a serialization mode, distinct names, a union has
    at least two variants and no padding -/
def SegSpec.ok (g : SegSpec) : Bool :=
  g.mode.isSome && decide g.attrNames.Nodup &&
    (!g.union || (decide (2 ≤ g.fields.length) && g.fields.all fun a => a.kind != .padding))

/-- the declarative reading of a statement sequence: accepted or not; if accepted, the schemas (fields / paddings and
    constants in source order, flags), the deprecation flag, and the world (cache of the referenced definitions, `@print`
    deliveries — with line 0, a statement sequence has no lines) -/
def aRead (c : Ctx) (its : List Item) (w : W) : Option (List SegSpec × Bool × W) :=
  if Item.syn ∈ its then none
  else match aRun c ⟨Spec.init, false, w⟩ its with
    | none => none
    | some t => if c.finalFault || !(t.spec.schemas.all SegSpec.ok) then none else some (t.spec.schemas, t.spec.deprecated, t.w)

/-! ### worlds and contexts that cannot be told apart -/

/-- `E` is insensitive to the line a `@print` is delivered with -/
def PrintCompat (E : W → W → Prop) : Prop :=
  ∀ w₁ w₂ f k₁ k₂ t, E w₁ w₂ →
    E { w₁ with prints := w₁.prints ++ [⟨f, k₁, t⟩] } { w₂ with prints := w₂.prints ++ [⟨f, k₂, t⟩] }

/-- reading a referenced definition in indistinguishable worlds: the same verdict, and on success indistinguishable
    worlds again -/
def DepSim (E : W → W → Prop) (c₁ c₂ : Ctx) : Prop :=
  c₁.ndefs = c₂.ndefs ∧ c₁.printFile = c₂.printFile ∧ c₁.finalFault = c₂.finalFault ∧
  ∀ w₁ w₂ j, E w₁ w₂ → ((c₁.depRead w₁ j).2 = none ↔ (c₂.depRead w₂ j).2 = none) ∧
    ((c₁.depRead w₁ j).2 = none → E (c₁.depRead w₁ j).1 (c₂.depRead w₂ j).1)

/-! ### a statement on the flushed state -/

/-- Under `offsWf`, if the flush succeeds, the visit of a statement is: the `pre` check, then everything else on the
    flushed state. -/
theorem visitStmt_nf {c k l st s} (hwf : l.offsWf) (hl : l.stmt = some st) (hi : s.inv) (hf : s.flushFails = false) :
    visitStmt c k l st s = if l.fault = some .pre then raise c s (some k) else body c k l st s.flushed := by
  have hs0 : (if l.childrenFlush st then s else markOffs l s) = s := by
    split
    · rfl
    · rename_i hc
      have ho : l.offs = false := by
        cases ho : l.offs with
        | false => rfl
        | true => exact absurd (hwf ho st hl) hc
      simp [markOffs, ho]
  rw [visitStmt_eq c k l st hi, hs0, flush_eq, hf]
  by_cases hpre : l.fault = some .pre
  · simp [hpre]
  · by_cases hm : l.fault = some .mid ∧ l.childrenFlush st = false
    · -- a `mid` fault of a statement none of whose children flushes is raised before the flush, in the same world
      obtain ⟨hm, hc⟩ := hm
      simp only [Line.childrenFlush, Bool.or_eq_false_iff, Bool.not_eq_false', List.isEmpty_iff] at hc
      simp [hm, body, hc.1.2, hc.2, resolveRefs, readDeps, raise, markOffs_eq, St.flushed, ok_bind]
    · simp [hpre, hm, ok_bind]

/-- the reader state `s` and the state `t` of the declarative reading agree: on what has been read, on whether `_offset_`
    has been evaluated, on the world -/
def Sim (E : W → W → Prop) (s : St) (t : ASt) : Prop :=
  s.inv ∧ s.spec = t.spec ∧ s.cur.offsetUsed = t.offs ∧ E s.w t.w

theorem readDeps_sim {E : W → W → Prop} {c c' : Ctx} (k : Nat) (hdep : DepSim E c c') : ∀ (js : List Nat) (s : St) (w2 : W), E s.w w2 →
    Outcome (readDeps c k s js) (fun s' => ∃ w2', aDeps c' w2 js = some w2' ∧ E s'.w w2') (fun _ => aDeps c' w2 js = none) := by
  obtain ⟨hn, _, _, hd⟩ := hdep
  intro js
  induction js with
  | nil => intro s w2 he; exact ⟨w2, rfl, he⟩
  | cons j js ih =>
    intro s w2 he
    unfold readDeps aDeps
    rw [← hn]
    split
    · rfl
    · obtain ⟨h1, h2⟩ := hd s.w w2 j he
      rcases hr : c.depRead s.w j with ⟨w1, _ | e1⟩ <;> rcases hr' : c'.depRead w2 j with ⟨w1', _ | e1'⟩ <;>
        rw [hr, hr'] at h1 h2
      · exact ih { s with w := w1 } w1' (h2 rfl)
      · cases h1.mp rfl
      · cases h1.mpr rfl

theorem addAttr_union (g : SegSpec) (c : Core) : (g.addAttr c).union = g.union := by
  unfold SegSpec.addAttr; cases c.kind <;> rfl

/-- the union flag of the declarative reading is the one of the current schema -/
theorem spec_union (s : St) : s.spec.cur.union = s.cur.union := by
  unfold St.spec St.curView
  rcases s.pending with _ | ⟨a, _⟩
  · rfl
  · exact addAttr_union _ _

/-- The handler of a statement on a flushed state against the declarative one: both accept or both reject; if they accept,
    the states agree again, and the attribute the reader has queued will be rejected at its commit exactly if the declarative
    reading rejects it now (`commitBad`). -/
theorem handler_sim {E : W → W → Prop} {c c' : Ctx} {k : Nat} {l : Line} {st : Stmt} {s3 : St} {t3 : ASt}
    (hpf : c.printFile = c'.printFile) (hE : PrintCompat E) (hp : s3.pending = none) (hh : s3.header = false)
    (h : Sim E s3 t3) :
    Outcome (handler c k l st s3)
      (fun s4 => ∃ t4, aHandler c' t3 st = some t4 ∧ Sim E s4 t4 ∧ s4.flushFails = commitBad st l.fault t4)
      (fun _ => aHandler c' t3 st = none) := by
  obtain ⟨_, hs, ho, he⟩ := h
  have hspec := handled_spec c k l st hp
  have hinv := handled_inv c k l st hp hh
  have hu := spec_union s3
  rw [handler_eq c k l st hp, hs] at *
  cases hacc : t3.spec.accepts st with
  | false => cases st <;> simp_all [Outcome, raise, Spec.accepts, aHandler]
  | true =>
    cases st with
    | attr core =>
      refine ⟨{ t3 with spec := t3.spec.stepS (.attr core) }, by simp_all [Spec.accepts, aHandler], ⟨hinv, hspec, ho, he⟩, ?_⟩
      simp [St.flushFails, St.handled, hh, commitFails, commitBad, Spec.stepS, addAttr_union, ← hu, ← ho]
    | directive name e text =>
      refine ⟨{ t3 with spec := t3.spec.stepS (.directive name e text),
                         w := if name = "print" then { t3.w with prints := t3.w.prints ++ [⟨c'.printFile, 0, text⟩] } else t3.w },
        if_pos hacc, ⟨hinv, hspec, ho, ?_⟩, ?_⟩
      · by_cases hn : name = "print"
        · simp only [St.handled, St.directive, hn, if_true]; rw [hpf]; exact hE _ _ _ _ _ _ he
        · simp only [St.handled, St.directive, hn, if_false]; exact he
      · simp [St.flushFails, St.handled, St.directive, hp, commitBad]
    | marker =>
      refine ⟨{ t3 with spec := t3.spec.stepS .marker, offs := false }, by simp_all [Spec.accepts, aHandler],
        ⟨hinv, hspec, rfl, he⟩, ?_⟩
      simp [St.flushFails, St.handled, hp, commitBad]

theorem body_sim {E : W → W → Prop} {c c' : Ctx} {k : Nat} {l : Line} {st : Stmt} {sf : St} {t : ASt}
    (hE : PrintCompat E) (hdep : DepSim E c c') (hp : sf.pending = none) (hh : sf.header = false) (h : Sim E sf t) :
    Outcome (body c k l st sf)
      (fun s4 => ∃ t4, aBody c' t st l.refs l.deps l.offs l.fault = some t4 ∧ Sim E s4 t4 ∧
        s4.flushFails = commitBad st l.fault t4)
      (fun _ => aBody c' t st l.refs l.deps l.offs l.fault = none) := by
  obtain ⟨hi, hs, ho, he⟩ := h
  have hrefs : (l.refs.all fun r => t.spec.cur.consts.any fun k => k.name == r) =
      (l.refs.all fun r => sf.cur.consts.any fun a => a.core.name == r) := by
    rw [← hs]; simp [St.spec, St.curView, hp, Schema.view, List.any_map, Function.comp_def]
  unfold body aBody
  rw [resolveRefs_eq, hrefs]
  by_cases hx : (l.refs.all fun r => sf.cur.consts.any fun a => a.core.name == r) = true
  · simp only [hx, if_true, Bool.not_true, Bool.false_eq_true, if_false, ok_bind]
    have hd := readDeps_sim k hdep l.deps (markOffs l sf) t.w (by rw [markOffs_eq]; exact he)
    cases hrd : readDeps c k (markOffs l sf) l.deps with
    | error e =>
      rw [hrd] at hd
      rw [show aDeps c' t.w l.deps = none from hd]
      rfl
    | ok s3 =>
      rw [hrd] at hd
      obtain ⟨w2', a1, a2⟩ := hd
      rw [a1, ok_bind]
      simp only
      by_cases hm : l.fault = some .mid
      · simp only [hm, if_true]; trivial
      by_cases hem : l.fault = some .emit
      · simp only [hem, if_true]; split <;> trivial
      simp only [hm, hem, if_false]
      apply handler_sim hdep.2.1 hE <;> rw [readDeps_ok hrd, markOffs_eq]
      · exact hp
      · exact hh
      · exact ⟨hi, hs, by simp [ho], a2⟩
  · simp only [hx, Bool.not_false, if_true]; trivial

/-! ### the simulation: one line -/

/-- the states agree, and the queued attribute (if any) will be accepted when it is committed -/
def Abs (E : W → W → Prop) (s : St) (t : ASt) : Prop := Sim E s t ∧ s.flushFails = false

theorem sim_addLineComment {E : W → W → Prop} {s t} (l : Line) :
    (Sim E (addLineComment l s) t ↔ Sim E s t) ∧ (addLineComment l s).flushFails = s.flushFails := by
  obtain ⟨x, hx⟩ := addLineComment_eq l s
  rw [hx]; exact ⟨Iff.rfl, rfl⟩

theorem flushed_offsetUsed (s : St) : s.flushed.cur.offsetUsed = s.cur.offsetUsed := by
  unfold St.flushed Schema.add
  cases s.header
  · rcases s.pending with _ | ⟨a, _⟩
    · rfl
    · simp only [Bool.false_eq_true, if_false]; cases a.core.kind <;> rfl
  · rfl

theorem sim_flushed {E : W → W → Prop} {s t} (h : Sim E s t) : Abs E s.flushed t :=
  ⟨⟨fun _ => rfl, (flushed_spec h.1).trans h.2.1, (flushed_offsetUsed s).trans h.2.2.1, h.2.2.2⟩,
    by simp [St.flushFails, flushed_pending h.1]⟩

/-- the line end behind a state that agrees with the declarative reading: it succeeds, and the states agree -/
theorem tail_abs {E : W → W → Prop} {s1 t} (c : Ctx) (k : Nat) (l : Line) (h : Abs E s1 t) :
    ∃ s', tail c k l s1 = .ok s' ∧ Abs E s' t := by
  obtain ⟨h1, h2⟩ := sim_addLineComment (E := E) (s := s1) (t := t) l
  unfold tail
  split
  · rw [flush_eq, h2, h.2]
    exact ⟨_, rfl, sim_flushed (h1.mpr h.1)⟩
  · exact ⟨_, rfl, h1.mpr h.1, h2.trans h.2⟩

/-- … behind a state whose queued attribute will be rejected: it fails, or the attribute stays queued -/
theorem tail_fails {c k l s1 s'} (h : s1.flushFails = true) (ht : tail c k l s1 = .ok s') : s'.flushFails = true := by
  have h2 := (sim_addLineComment (E := fun _ _ => True) (s := s1) (t := ⟨Spec.init, false, W.init⟩) l).2
  unfold tail at ht
  split at ht
  · rw [flush_eq, h2, h] at ht; cases ht
  · cases ht; exact h2.trans h

theorem fails_runLines {c} (ls : List Line) : ∀ k s s', s.flushFails = true → runLines c k s ls = .ok s' → s'.flushFails = true := by
  induction ls with
  | nil => intro k s s' h hr; cases hr; exact h
  | cons l ls ih =>
    intro k s s' h hr
    simp only [runLines, bind_ok] at hr
    obtain ⟨s1, h1, h2⟩ := hr
    refine ih _ _ _ ?_ h2
    rw [stepLine_eq, bind_ok] at h1
    obtain ⟨s0, h0, ht⟩ := h1
    cases hl : l.stmt with
    | none => rw [hl] at h0; cases h0; exact tail_fails h ht
    | some st =>
      -- a statement flushes first
      rw [hl] at h0
      have hi : s.inv := fun _ => ((flushFails_iff s).mp h).1
      rw [(visitStmt_ok hi h0).1] at h; cases h

def aStepO (c : Ctx) (t : ASt) : Option Item → Option ASt
  | none => some t
  | some it => aStep c t it

/-- One line.  The reader accepts the line and the queued attribute will be accepted: so does the declarative reading,
    and the states agree.  The reader accepts the line but has queued an attribute that will be rejected, or it rejects
    the line: the declarative reading rejects it. -/
theorem stepLine_sim {E : W → W → Prop} {c c' : Ctx} {k : Nat} {l : Line} {s : St} {t : ASt}
    (hE : PrintCompat E) (hdep : DepSim E c c') (hwf : l.offsWf) (hsyn : l.fault ≠ some .syn) (ha : Abs E s t) :
    Outcome (stepLine c k s l)
      (fun s' => (∃ t', aStepO c' t l.item = some t' ∧ Abs E s' t') ∨ (aStepO c' t l.item = none ∧ s'.flushFails = true))
      (fun _ => aStepO c' t l.item = none) := by
  rw [stepLine_eq]
  cases hl : l.stmt with
  | none =>
    have hi : l.item = none := by simp [Line.item, hsyn, hl]
    obtain ⟨s', hs', ha'⟩ := tail_abs c k l ha
    simp only [hi, aStepO, ok_bind, hs']
    exact Or.inl ⟨t, rfl, ha'⟩
  | some st =>
    have hi : l.item = some (.stmt st l.refs l.deps l.offs l.fault) := by simp [Line.item, hsyn, hl]
    simp only [hi, aStepO, aStep]
    rw [visitStmt_nf hwf hl ha.1.1 ha.2]
    by_cases hpre : l.fault = some .pre
    · simp only [hpre, if_true, raise_bind]; trivial
    · simp only [hpre, if_false]
      obtain ⟨hf, _⟩ := sim_flushed ha.1
      have hb := body_sim (c := c) (k := k) (l := l) (st := st) hE hdep (flushed_pending ha.1.1) rfl hf
      cases hbs : body c k l st s.flushed with
      | error e =>
        rw [hbs] at hb
        rw [show aBody c' t st l.refs l.deps l.offs l.fault = none from hb]
        rfl
      | ok s4 =>
        rw [hbs] at hb
        obtain ⟨t4, hb4, hs4, hc4⟩ := hb
        rw [hb4, ok_bind]
        simp only [← hc4]
        cases hf4 : s4.flushFails with
        | true =>
          cases ht : tail c k l s4 with
          | error e => rfl
          | ok s' => exact Or.inr ⟨rfl, tail_fails hf4 ht⟩
        | false =>
          obtain ⟨s', hs', ha'⟩ := tail_abs c k l (⟨hs4, hf4⟩ : Abs E s4 t4)
          rw [hs']
          exact Or.inl ⟨t4, rfl, ha'⟩

/-! ### the simulation: all lines, finalize -/

theorem aRun_items_cons (c : Ctx) (t : ASt) (l : Line) (ls : List Line) :
    aRun c t (items (l :: ls)) = match aStepO c t l.item with | none => none | some t' => aRun c t' (items ls) := by
  unfold items
  rw [List.filterMap_cons]
  cases l.item with
  | none => rfl
  | some it => simp only [aRun, aStepO]

theorem runLines_sim {E : W → W → Prop} {c c' : Ctx} (hE : PrintCompat E) (hdep : DepSim E c c') (ls : List Line) :
    ∀ (k : Nat) (s : St) (t : ASt), (∀ l ∈ ls, l.offsWf ∧ l.fault ≠ some .syn) → Abs E s t →
    Outcome (runLines c k s ls)
      (fun s' => (∃ t', aRun c' t (items ls) = some t' ∧ Abs E s' t') ∨ (aRun c' t (items ls) = none ∧ s'.flushFails = true))
      (fun _ => aRun c' t (items ls) = none) := by
  induction ls with
  | nil => intro k s t _ ha; exact Or.inl ⟨t, rfl, ha⟩
  | cons l ls ih =>
    intro k s t hls ha
    have hl := hls l (List.mem_cons_self ..)
    have hrest : ∀ x ∈ ls, x.offsWf ∧ x.fault ≠ some .syn := fun x hx => hls x (List.mem_cons_of_mem _ hx)
    have h1 := stepLine_sim (c := c) (k := k) hE hdep hl.1 hl.2 ha
    rw [aRun_items_cons]
    simp only [runLines]
    cases hs : stepLine c k s l with
    | error e =>
      rw [hs] at h1
      rw [show aStepO c' t l.item = none from h1]
      rfl
    | ok s1 =>
      rw [hs] at h1
      rw [ok_bind]
      rcases h1 with ⟨t1, ht1, ha1⟩ | ⟨hn, hd1⟩
      · rw [ht1]
        exact ih _ s1 t1 hrest ha1
      · rw [hn]
        cases hr : runLines c (l.next k) s1 ls with
        | error e => rfl
        | ok s' => exact Or.inr ⟨rfl, fails_runLines ls _ _ _ hd1 hr⟩

theorem attrNames_view (sc : Schema) : sc.view.attrNames = sc.attrNames := by
  simp only [SegSpec.attrNames, Schema.attrNames, Schema.view, ← List.map_append, List.filter_map, List.map_map]
  rfl

theorem ok_view (sc : Schema) : SegSpec.ok sc.view = sc.ok := by
  simp only [SegSpec.ok, Schema.ok, Schema.namesDistinct, attrNames_view]
  simp only [Schema.view, List.length_map, List.all_map]
  rfl

theorem firstSyntaxError_none_iff {ls : List Line} : ∀ k, firstSyntaxError k ls = none ↔ ∀ l ∈ ls, l.fault ≠ some .syn := by
  induction ls with
  | nil => intro k; simp [firstSyntaxError]
  | cons l ls ih =>
    intro k
    simp only [firstSyntaxError]
    by_cases h : l.fault = some .syn
    · simp [h]
    · simp [h, ih]

theorem syn_mem_items {ls : List Line} : Item.syn ∈ items ls ↔ ∃ l ∈ ls, l.fault = some .syn := by
  simp only [items, List.mem_filterMap]
  constructor
  · rintro ⟨l, hl, hi⟩
    refine ⟨l, hl, ?_⟩
    unfold Line.item at hi
    split at hi
    · assumption
    · cases hs : l.stmt <;> simp [hs] at hi
  · rintro ⟨l, hl, hf⟩
    exact ⟨l, hl, by simp [Line.item, hf]⟩

/-- the outcome of `readText` against the declarative reading: both reject, or both accept and the schemas (without
    docs), the deprecation flag and the world agree -/
def ResSim (E : W → W → Prop) : Option (Composite × W) → Option (List SegSpec × Bool × W) → Prop
  | none, none => True
  | some (comp, w₁), some (segs, d, w₂) => comp.schemas.map Schema.view = segs ∧ comp.deprecated = d ∧ E w₁ w₂
  | _, _ => False

theorem Abs_init {E : W → W → Prop} {w w₂ : W} (h : E w w₂) : Abs E (St.init w) ⟨Spec.init, false, w₂⟩ :=
  ⟨⟨inv_init w, rfl, rfl, h⟩, rfl⟩

/-- `readText` computes the declarative reading of the statement sequence of the document -/
theorem readText_abs {E : W → W → Prop} {c c' : Ctx} (hE : PrintCompat E) (hdep : DepSim E c c') (ls : List Line)
    (hwf : ∀ l ∈ ls, l.offsWf) {w w₂ : W} (hw : E w w₂) :
    ResSim E (okPart (readText c ls w)) (aRead c' (items ls) w₂) := by
  unfold readText aRead
  by_cases hsyn : ∀ l ∈ ls, l.fault ≠ some .syn
  · have h2 : ¬ Item.syn ∈ items ls := by
      rw [syn_mem_items]; rintro ⟨l, hl, hf⟩; exact hsyn l hl hf
    rw [(firstSyntaxError_none_iff 1).mpr hsyn, if_neg h2]
    simp only
    have hsim := runLines_sim (c := c) (c' := c') hE hdep ls 1 (St.init w) ⟨Spec.init, false, w₂⟩
      (fun l hl => ⟨hwf l hl, hsyn l hl⟩) (Abs_init hw)
    cases hr : runLines c 1 (St.init w) ls with
    | error e =>
      rw [hr] at hsim
      rw [show aRun c' ⟨Spec.init, false, w₂⟩ (items ls) = none from hsim]
      trivial
    | ok s =>
      rw [hr] at hsim
      rw [ok_bind, flush_eq]
      rcases hsim with ⟨t, ht, ha⟩ | ⟨hn, hd⟩
      · obtain ⟨⟨hi, hsp, _, he⟩, _⟩ := sim_flushed ha.1
        have hsch : (s.flushed.done ++ [s.flushed.cur]).map Schema.view = t.spec.schemas := by
          rw [← hsp]; simp [Spec.schemas, St.spec, St.curView, flushed_pending ha.1.1]
        have hall : (s.flushed.done ++ [s.flushed.cur]).all Schema.ok = t.spec.schemas.all SegSpec.ok := by
          rw [← hsch, List.all_map]
          congr 1
          funext sc
          exact (ok_view sc).symm
        rw [ht, ha.2]
        simp only [Bool.false_eq_true, if_false, ok_bind, finalize, hall, hdep.2.2.1]
        split
        · trivial
        · exact ⟨hsch, by rw [← hsp]; rfl, he⟩
      · rw [hn, hd]
        trivial
  · have hsyn' : ∃ l ∈ ls, l.fault = some .syn := by
      simpa using hsyn
    rw [if_pos (syn_mem_items.mpr hsyn')]
    cases h1 : firstSyntaxError 1 ls with
    | none => exact absurd ((firstSyntaxError_none_iff 1).mp h1) hsyn
    | some k => trivial

end Reader
