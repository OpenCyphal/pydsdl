import Proofs.Reader
/-! `@print` deliveries of the reader model (C17.print_once). -/
namespace Reader

def linePrints (pf k : Nat) (l : Line) : List Print :=
  match l.stmt with
  | some (.directive name _ text) => if name = "print" then [⟨pf, k, text⟩] else []
  | _ => []

/-- what the source says: one delivery per `@print` statement, in source order, with the statement's line -/
def specPrints (pf : Nat) : Nat → List Line → List Print
  | _, [] => []
  | k, l :: ls => linePrints pf k l ++ specPrints pf (l.next k) ls

theorem handled_w (c : Ctx) (k : Nat) (l : Line) (st : Stmt) (s : St) (hl : l.stmt = some st) :
    (s.handled c k l st).w.cached = s.w.cached ∧
    (s.handled c k l st).w.prints = s.w.prints ++ linePrints c.printFile k l := by
  cases st with
  | directive name e text =>
    by_cases hn : name = "print" <;> simp [linePrints, hl, St.handled, St.directive, hn]
  | _ => simp [linePrints, hl, St.handled]

theorem stepLine_w {c k l s s'} (hd : l.deps = []) (hi : s.inv) (h : stepLine c k s l = .ok s') :
    s'.w.cached = s.w.cached ∧ s'.w.prints = s.w.prints ++ linePrints c.printFile k l := by
  obtain ⟨s1, hs1, rfl⟩ := stepLine_ok hi h
  have e1 : s1.w.cached = s.w.cached ∧ s1.w.prints = s.w.prints ++ linePrints c.printFile k l := by
    rcases hs1 with ⟨hl, rfl⟩ | ⟨st, w, hl, rfl, hw⟩
    · simp [linePrints, hl]
    · cases hw hd; exact handled_w c k l st _ hl
  obtain ⟨t, ht⟩ := addLineComment_eq l s1
  rw [ht]
  split <;> exact e1

theorem runLines_w {c} (ls : List Line) : ∀ {k s s'}, (∀ l ∈ ls, l.deps = []) → s.inv → runLines c k s ls = .ok s' →
    s'.w.cached = s.w.cached ∧ s'.w.prints = s.w.prints ++ specPrints c.printFile k ls := by
  induction ls with
  | nil => intro k s s' _ _ h; cases h; simp [specPrints]
  | cons l ls ih =>
    intro k s s' hd hi h
    simp only [runLines, bind_ok] at h
    obtain ⟨s1, h1, h2⟩ := h
    obtain ⟨a1, a2⟩ := stepLine_w (hd l (List.mem_cons_self ..)) hi h1
    obtain ⟨b1, b2⟩ := ih (fun x hx => hd x (List.mem_cons_of_mem _ hx)) (stepLine_spec hi h1).1 h2
    exact ⟨by rw [b1, a1], by rw [b2, a2]; simp [specPrints]⟩

/-- a definition without references, read successfully: every `@print` statement is delivered exactly once, in source
    order, with its own line and the path the handler is bound to; nothing else is delivered -/
theorem readText_prints {c ls w comp w'} (hd : ∀ l ∈ ls, l.deps = []) (h : readText c ls w = .ok (comp, w')) :
    w'.cached = w.cached ∧ w'.prints = w.prints ++ specPrints c.printFile 1 ls := by
  obtain ⟨s, _, hs, _, _, _, rfl⟩ := readText_ok h
  exact runLines_w ls hd (inv_init w) hs

def Def.noDeps (d : Def) : Prop := ∀ l ∈ d.lines, l.deps = []

/-- a namespace whose definitions do not refer to each other: each target is parsed once through its own object, and
    its `@print`s are delivered with its own path -/
theorem readTargets_prints (defs : List Def) (hd : ∀ d ∈ defs, d.noDeps) : ∀ ts w acc res w', w.cached = [] →
    readTargets defs ts w acc = .ok (res, w') →
    w'.cached = [] ∧ w'.prints = w.prints ++ ts.flatMap (fun t => specPrints t 1 ((defs[t]?.map (·.lines)).getD [])) := by
  intro ts
  induction ts with
  | nil => intro w acc res w' hc h; simp [readTargets] at h; obtain ⟨_, rfl⟩ := h; simp [hc]
  | cons t ts ih =>
    intro w acc res w' hc h
    unfold readTargets at h
    simp only [hc, List.find?_nil] at h
    cases hdt : defs[t]? with
    | none => simp [hdt] at h
    | some d =>
      simp only [hdt] at h
      split at h
      · rename_i comp w1 hr
        have hdm : d ∈ defs := List.mem_of_getElem? hdt
        obtain ⟨c1, c2⟩ := readText_prints (hd d hdm) hr
        obtain ⟨i1, i2⟩ := ih w1 _ res w' (by rw [c1, hc]) h
        refine ⟨i1, ?_⟩
        rw [i2, c2]
        simp [hdt]
      · simp at h

end Reader
