import Proofs.ExprParen
import Proofs.ExprLex
/-!
  Characters → tree: rendering any admissible token list of a tree (any redundant parentheses) with any blanks, lexing the
  characters with the terminals of the grammar and parsing the tokens with the PEG gives the tree back.
-/
namespace Ex

mutual
/-- every literal and every name of the tree is one terminal of its kind (`Tok.ok`) -/
def Expr.lexOk : Expr → Bool
  | .lit l => (Tok.lit l).ok
  | .ident n => (Tok.id n).ok
  | .setLit es => lexOkList es
  | .un _ x => x.lexOk
  | .bin _ l r => l.lexOk && r.lexOk
  | .attr x n => x.lexOk && (Tok.id n).ok
def lexOkList : List Expr → Bool
  | [] => true
  | e :: es => e.lexOk && lexOkList es
end

theorem sym_ok (s : Sym) : (Tok.sym s).ok = true := by cases s <;> decide +kernel

theorem Paren.toks_ok {k : Nat} {e : Expr} {ts : List Tok} (h : Paren k e ts) : e.lexOk = true → ∀ t ∈ ts, t.ok = true := by
  refine Paren.rec (motive_1 := fun k e ts _ => e.lexOk = true → ∀ t ∈ ts, t.ok = true)
    (motive_2 := fun es tcs _ => lexOkList es = true → ∀ t ∈ tcs, t.ok = true)
    ?lit ?ident ?setNil ?setCons ?un ?bin ?attr ?wrap ?nil ?cons h
  case lit => intro k l hl t ht; simp only [List.mem_singleton] at ht; subst ht; simpa [Expr.lexOk] using hl
  case ident => intro k n hl t ht; simp only [List.mem_singleton] at ht; subst ht; simpa [Expr.lexOk] using hl
  case setNil =>
    intro k _ t ht
    simp only [List.mem_cons, List.not_mem_nil, or_false] at ht
    rcases ht with rfl | rfl <;> decide
  case setCons =>
    intro k e es ts tcs _ _ ihe ihes hl t ht
    simp only [Expr.lexOk, lexOkList, Bool.and_eq_true] at hl
    simp only [List.mem_cons, List.mem_append, List.not_mem_nil, or_false] at ht
    rcases ht with rfl | (ht | ht) | rfl
    · decide
    · exact ihe hl.1 t ht
    · exact ihes hl.2 t ht
    · decide
  case un =>
    intro k op x ts _ _ ih hl t ht
    simp only [Expr.lexOk] at hl
    simp only [List.mem_cons] at ht
    rcases ht with rfl | ht
    · exact sym_ok _
    · exact ih hl t ht
  case bin =>
    intro k op l r tl tr _ _ _ ihl ihr hl t ht
    simp only [Expr.lexOk, Bool.and_eq_true] at hl
    simp only [List.mem_append, List.mem_cons] at ht
    rcases ht with ht | rfl | ht
    · exact ihl hl.1 t ht
    · exact sym_ok _
    · exact ihr hl.2 t ht
  case attr =>
    intro k x n ts _ _ ih hl t ht
    simp only [Expr.lexOk, Bool.and_eq_true] at hl
    simp only [List.mem_append, List.mem_cons, List.not_mem_nil, or_false] at ht
    rcases ht with ht | rfl | rfl
    · exact ih hl.1 t ht
    · decide
    · exact hl.2
  case wrap =>
    intro k e ts _ ih hl t ht
    simp only [List.mem_cons, List.mem_append, List.not_mem_nil, or_false] at ht
    rcases ht with rfl | ht | rfl
    · decide
    · exact ih hl t ht
    · decide
  case nil => intro _ t ht; simp at ht
  case cons =>
    intro e es ts tcs _ _ ihe ihes hl t ht
    simp only [lexOkList, Bool.and_eq_true] at hl
    simp only [List.mem_cons, List.mem_append] at ht
    rcases ht with rfl | ht | ht
    · decide
    · exact ihe hl.1 t ht
    · exact ihes hl.2 t ht

/-- **characters → tree**, for every admissible parenthesisation and every spacing -/
theorem parseChars_render {e : Expr} {ts : List Tok} (h : Paren 0 e ts) (hok : e.lexOk = true) (σ : Spacing) :
    parseChars (renderToks σ ts) = some e := by
  simp only [parseChars, lex_render σ ts (h.toks_ok hok), paren_roundtrip h]

end Ex
