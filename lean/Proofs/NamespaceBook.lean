import Proofs.NamespaceRead
import Proofs.NamespaceC10
import Proofs.NamespaceC11
/-! Lemmas for C10: the direct / transitive book-keeping of `_read_definitions` (`level0`, `level1`), under the
    hypothesis that (name, version) identifies a definition file (the excluded point is finding F9). -/
namespace Ns

/-- the lookup-list twin of a definition object -/
def untgt (d : Def) : Def := { d with tgt := false }

theorem untgt_key (d : Def) : (untgt d).key = d.key := rfl
theorem untgt_path (d : Def) : (untgt d).path = d.path := rfl

/-- the definition objects of one call: the lookup list and the targets -/
def Univ (L ts : List Def) (x : Def) : Prop := x ∈ L ∨ x ∈ ts

/-- the path determines (name, version) -/
structure HypP (L ts : List Def) : Prop where
  pathKey : ∀ x y, Univ L ts x → Univ L ts y → x.path = y.path → x.key = y.key

def KeyUniq (L ts : List Def) : Prop := ∀ x y, Univ L ts x → Univ L ts y → x.key = y.key → untgt x = untgt y

/-- ... and (name, version) identifies a definition (up to the target flag) -/
structure Hyp (L ts : List Def) : Prop extends HypP L ts where
  keyUniq : KeyUniq L ts

/-- a key occurs among the keys of a list of types -/
def KeyIn (l : List Ty) (k : Key) : Prop := ∃ ty ∈ l, ty.key = k

theorem KeyIn.mono {l l' : List Ty} {k : Key} (h : KeyIn l k) (hs : ∀ ty ∈ l, ty ∈ l' ∨ KeyIn l' ty.key) : KeyIn l' k := by
  obtain ⟨ty, hty, rfl⟩ := h
  rcases hs ty hty with h | h
  · exact ⟨ty, h, rfl⟩
  · exact h

theorem keyIn_iff {l : List Ty} {k : Key} : KeyIn l k ↔ k ∈ l.map Ty.key := by
  simp [KeyIn, List.mem_map]

/-! ### small facts about the list operations -/

theorem lookup_isSome_of_mem {α β : Type} [BEq α] [LawfulBEq α] {l : List (α × β)} {a : α} {b : β} (h : (a, b) ∈ l) :
    ∃ b', l.lookup a = some b' := by
  induction l with
  | nil => cases h
  | cons p r ih =>
    obtain ⟨a', b''⟩ := p
    simp only [List.lookup]
    split
    · exact ⟨_, rfl⟩
    · rename_i hne
      rcases List.mem_cons.mp h with e | h
      · cases e; simp at hne
      · exact ih h

theorem setDefault_cases {pool pool' : List (Path × Def)} {d d' : Def} (h : setDefault pool d = (d', pool')) :
    (pool.lookup d.path = some d' ∧ pool' = pool) ∨ (pool.lookup d.path = none ∧ d' = d ∧ pool' = (d.path, d) :: pool) := by
  unfold setDefault at h
  split at h
  · rename_i o ho; cases h; exact Or.inl ⟨ho, rfl⟩
  · rename_i ho; cases h; exact Or.inr ⟨ho, rfl, rfl⟩

theorem lookup_cons_path (p q : Path) (d : Def) (pool : List (Path × Def)) :
    List.lookup q ((p, d) :: pool) = if q = p then some d else pool.lookup q := by
  simp only [List.lookup]
  by_cases h : q = p
  · simp [h]
  · have : (q == p) = false := by simpa using h
    simp [this, h]

theorem addTy_of_not_mem {l : List Ty} {t : Ty} (h : t ∉ l) : addTy l t = l ++ [t] := by
  unfold addTy
  simp [h]

theorem mem_removeTy {l : List Ty} {t x : Ty} : x ∈ removeTy l t ↔ x ∈ l ∧ x ≠ t := by
  unfold removeTy
  simp [List.mem_filter]

theorem dedupKeys_key {l : List Def} {x : Def} (h : x ∈ l) : ∃ p ∈ dedupKeys l, p.key = x.key := by
  induction l with
  | nil => cases h
  | cons a r ih =>
    simp only [dedupKeys]
    rcases List.mem_cons.mp h with rfl | h
    · exact ⟨x, by simp, rfl⟩
    · obtain ⟨p, hp, hk⟩ := ih h
      by_cases e : p.key = a.key
      · exact ⟨a, by simp, by rw [← e, hk]⟩
      · exact ⟨p, by simp [List.mem_filter, hp, e], hk⟩

section Book
variable (au : Bool) (L ts : List Def)

/-- a type that is the stand-alone type of some definition object of the call -/
def Good (ty : Ty) : Prop := ∃ x, Univ L ts x ∧ Den au L ty x

variable {au L ts}

/-- under `Hyp` the types of one call are determined by their keys -/
theorem tyUniq (H : Hyp L ts) {t1 t2 : Ty} (h1 : Good au L ts t1) (h2 : Good au L ts t2) (hk : t1.key = t2.key) : t1 = t2 := by
  obtain ⟨x1, u1, d1⟩ := h1
  obtain ⟨x2, u2, d2⟩ := h2
  have hx : x1.key = x2.key := by rw [← d1.key, ← d2.key, hk]
  have := H.keyUniq x1 x2 u1 u2 hx
  have e1 : Den au L t1 (untgt x1) := d1.retgt false
  have e2 : Den au L t2 (untgt x2) := d2.retgt false
  rw [this] at e1
  exact Den.unique e1 e2

variable (au L ts)

def PoolOk (pool : List (Path × Def)) (cache : List (Def × Ty)) (tys : List Ty) : Prop :=
  ∀ p o, pool.lookup p = some o → o.path = p ∧ Univ L ts o ∧ (∃ t, (o, t) ∈ cache) ∧ KeyIn tys o.key

/-- what `level1` preserves -/
structure LInv (b : Book) : Prop where
  cache : CacheOk (DenR au L) b.st
  tys : ∀ ty ∈ b.direct ++ b.transitive, ∃ x, Univ L ts x ∧ (x, ty) ∈ b.st.cache
  pool : PoolOk L ts b.pool b.st.cache (b.direct ++ b.transitive)

variable {au L ts}

theorem LInv.good {b : Book} (h : LInv au L ts b) {ty : Ty} (hty : ty ∈ b.direct ++ b.transitive) : Good au L ts ty := by
  obtain ⟨x, hu, hc⟩ := h.tys ty hty
  exact ⟨x, hu, h.cache x ty hc⟩

theorem PoolOk.mono {pool : List (Path × Def)} {c c' : List (Def × Ty)} {tys tys' : List Ty} (h : PoolOk L ts pool c tys)
    (hc : ∀ p ∈ c, p ∈ c') (hk : ∀ k, KeyIn tys k → KeyIn tys' k) : PoolOk L ts pool c' tys' := by
  intro p o hl
  obtain ⟨h1, h2, ⟨t, h3⟩, h4⟩ := h p o hl
  exact ⟨h1, h2, ⟨t, hc _ h3⟩, hk _ h4⟩

theorem PoolOk.cons {pool : List (Path × Def)} {c : List (Def × Ty)} {tys : List Ty} (h : PoolOk L ts pool c tys) {d : Def}
    (hu : Univ L ts d) (hc : ∃ t, (d, t) ∈ c) (hk : KeyIn tys d.key) : PoolOk L ts ((d.path, d) :: pool) c tys := by
  intro p o hl
  rw [lookup_cons_path] at hl
  split at hl
  · rename_i e
    cases hl
    exact ⟨e.symm, hu, hc, hk⟩
  · exact h p o hl

/-- the pool step of both levels -/
theorem setDefault_spec (H : HypP L ts) {pool pool' : List (Path × Def)} {c : List (Def × Ty)} {tys : List Ty} {d d' : Def}
    (hp : PoolOk L ts pool c tys) (hu : Univ L ts d) (h : setDefault pool d = (d', pool')) :
    d'.key = d.key ∧ d'.path = d.path ∧ Univ L ts d' ∧ pool'.lookup d.path = some d' ∧
      (∀ q, (pool.lookup q).isSome → (pool'.lookup q).isSome) ∧
      (d' = d ∨ ((∃ t, (d', t) ∈ c) ∧ KeyIn tys d'.key)) ∧
      (∀ c' tys', (∀ p ∈ c, p ∈ c') → (∀ k, KeyIn tys k → KeyIn tys' k) → (∃ t, (d', t) ∈ c') → KeyIn tys' d'.key →
        PoolOk L ts pool' c' tys') := by
  rcases setDefault_cases h with ⟨hl, rfl⟩ | ⟨hl, rfl, rfl⟩
  · obtain ⟨h1, h2, h3, h4⟩ := hp _ _ hl
    refine ⟨H.pathKey _ _ h2 hu h1, h1, h2, hl, fun q hq => hq, Or.inr ⟨h3, h4⟩, ?_⟩
    intro c' tys' hc hk _ _
    exact hp.mono hc hk
  · refine ⟨rfl, rfl, hu, by rw [lookup_cons_path]; simp, ?_, Or.inl rfl, ?_⟩
    · intro q hq
      rw [lookup_cons_path]
      split
      · rfl
      · exact hq
    · intro c' tys' hc hk hcd hkd
      exact (hp.mono hc hk).cons hu hcd hkd

theorem lookup_ne_none_of_mem {c : List (Def × Ty)} {d : Def} (h : ∃ t, (d, t) ∈ c) : c.lookup d ≠ none := by
  obtain ⟨t, ht⟩ := h
  obtain ⟨t', ht'⟩ := lookup_isSome_of_mem ht
  rw [ht']; simp

theorem level1_spec (H : HypP L ts) (pend : List Def) (b : Book) (hinv : LInv au L ts b)
    (hp : ∀ p ∈ pend, p ∈ L ∧ ∃ t, (p, t) ∈ b.st.cache)
    (b' : Book) (s : St) (hrun : level1 au L pend b = (.ok b', s)) :
    LInv au L ts b' ∧ b'.st = b.st ∧ b'.direct = b.direct ∧ (∀ ty ∈ b.transitive, ty ∈ b'.transitive) ∧
      (∀ p ∈ pend, KeyIn (b'.direct ++ b'.transitive) p.key) ∧
      (∀ q, (b.pool.lookup q).isSome → (b'.pool.lookup q).isSome) ∧
      (∀ roots, KeyUniq L ts → (∀ p ∈ pend, ∀ t, (p, t) ∈ b.st.cache → NestReach roots t) →
        (∀ ty ∈ b.transitive, NestReach roots ty) → ∀ ty ∈ b'.transitive, NestReach roots ty) := by
  induction pend, b using level1.induct au L generalizing b' s with
  | case1 b =>
    rw [level1] at hrun
    cases hrun
    refine ⟨hinv, rfl, rfl, ?_, ?_, ?_, ?_⟩
    · exact fun _ h => h
    · intro p hp; cases hp
    · exact fun _ h => h
    · exact fun _ _ _ h => h
  | case2 p rest b p' pool hsd b1 t hl hc ih =>
    obtain ⟨hpL, hpc⟩ := hp p (by simp)
    obtain ⟨hk', hpath', hu', hlk', hmono', hcase', hpool'⟩ := setDefault_spec H hinv.pool (Or.inl hpL) hsd
    rw [level1] at hrun
    simp only [hsd] at hrun
    simp only [b1] at hl hc ih
    simp only [hl, hc, if_true] at hrun
    have hmem := lookup_mem hl
    have htk : t.key = p.key := by rw [(hinv.cache _ _ hmem).key, hk']
    have hin : KeyIn (b.direct ++ b.transitive) p.key := by
      refine ⟨t, ?_, htk⟩
      simp only [Bool.or_eq_true, List.contains_iff_mem] at hc
      exact List.mem_append.mpr hc
    have hinv1 : LInv au L ts { b with pool := pool } :=
      ⟨hinv.cache, hinv.tys, hpool' _ _ (fun _ h => h) (fun _ h => h) ⟨t, hmem⟩ (by rw [hk']; exact hin)⟩
    obtain ⟨r1, r2, r3, r4, r5, r6, r7⟩ := ih hinv1 (fun q hq => hp q (by simp [hq])) b' s hrun
    refine ⟨r1, r2, r3, r4, ?_, fun q hq => r6 q (hmono' q hq),
      fun roots hku hpr htr => r7 roots hku (fun q hq => hpr q (List.mem_cons_of_mem _ hq)) htr⟩
    intro q hq
    rcases List.mem_cons.mp hq with rfl | hq
    · obtain ⟨ty, hty, hkk⟩ := hin
      refine ⟨ty, ?_, hkk⟩
      rcases List.mem_append.mp hty with h | h
      · exact List.mem_append_left _ (by rw [r3]; exact h)
      · exact List.mem_append_right _ (r4 ty h)
    · exact r5 q hq
  | case3 p rest b p' pool hsd b1 t hl hc ih =>
    obtain ⟨hpL, hpc⟩ := hp p (by simp)
    obtain ⟨hk', hpath', hu', hlk', hmono', hcase', hpool'⟩ := setDefault_spec H hinv.pool (Or.inl hpL) hsd
    rw [level1] at hrun
    simp only [hsd] at hrun
    simp only [b1] at hl hc ih
    simp only [hl, hc] at hrun
    have hmem := lookup_mem hl
    have htk : t.key = p.key := by rw [(hinv.cache _ _ hmem).key, hk']
    have hnt : t ∉ b.transitive := by
      simp only [Bool.or_eq_true, List.contains_iff_mem, not_or] at hc
      exact hc.2
    have hadd : addTy b.transitive t = b.transitive ++ [t] := addTy_of_not_mem hnt
    have hinv1 : LInv au L ts { b with pool := pool, transitive := addTy b.transitive t } := by
      rw [hadd]
      refine ⟨hinv.cache, ?_, ?_⟩
      · intro ty hty
        simp only [← List.append_assoc, List.mem_append, List.mem_singleton] at hty
        rcases hty with hty | rfl
        · exact hinv.tys ty (List.mem_append.mpr hty)
        · exact ⟨p', hu', hmem⟩
      · apply hpool' _ _ (fun _ h => h)
        · intro k hk
          obtain ⟨ty, hty, e⟩ := hk
          exact ⟨ty, by simp only [← List.append_assoc]; exact List.mem_append_left _ hty, e⟩
        · exact ⟨t, hmem⟩
        · exact ⟨t, by simp, by rw [htk, hk']⟩
    obtain ⟨r1, r2, r3, r4, r5, r6, r7⟩ := ih hinv1 (fun q hq => hp q (by simp [hq])) b' s hrun
    refine ⟨r1, r2, r3, fun ty hty => r4 ty (by rw [hadd]; exact List.mem_append_left _ hty), ?_,
      fun q hq => r6 q (hmono' q hq), ?_⟩
    · intro q hq
      rcases List.mem_cons.mp hq with rfl | hq
      · exact ⟨t, List.mem_append_right _ (r4 t (by rw [hadd]; simp)), htk⟩
      · exact r5 q hq
    · intro roots hku hpr htr
      apply r7 roots hku (fun q hq => hpr q (List.mem_cons_of_mem _ hq))
      intro ty hty
      rw [hadd] at hty
      simp only [List.mem_append, List.mem_singleton] at hty
      rcases hty with hty | rfl
      · exact htr ty hty
      · rcases hcase' with e | ⟨_, hkin⟩
        · rw [e] at hmem
          exact hpr p (by simp) ty hmem
        · exfalso
          obtain ⟨z, hz, e⟩ := hkin
          have : z = ty := tyUniq (⟨H, hku⟩ : Hyp L ts) (hinv.good hz) ⟨p', hu', hinv.cache _ _ hmem⟩
            (by rw [e, (hinv.cache _ _ hmem).key])
          rw [this] at hz
          simp only [Bool.or_eq_true, List.contains_iff_mem, not_or] at hc
          rcases List.mem_append.mp hz with hz | hz
          · exact hc.1 hz
          · exact hc.2 hz
  | case4 p rest b p' pool hsd b1 hl e st1 hr =>
    rw [level1] at hrun
    simp only [hsd] at hrun
    simp only [b1] at hl hr
    simp only [hl, hr] at hrun
    cases hrun
  | case5 p rest b p' pool hsd b1 hl t st1 hr ih =>
    exfalso
    obtain ⟨hpL, hpc⟩ := hp p (by simp)
    obtain ⟨hk', hpath', hu', hlk', hmono', hcase', hpool'⟩ := setDefault_spec H hinv.pool (Or.inl hpL) hsd
    simp only [b1] at hl
    rcases hcase' with rfl | ⟨hc, _⟩
    · exact lookup_ne_none_of_mem hpc hl
    · exact lookup_ne_none_of_mem hc hl

end Book

section Book0
variable (au : Bool) (L ts : List Def)

/-- the invariant of the target loop `level0`; `done` = the targets processed so far -/
structure BInv (done : List Def) (b : Book) : Prop where
  linv : LInv au L ts b
  dkeys : b.direct.map Ty.key = done.map Def.key
  nest : ∀ x t, (x, t) ∈ b.st.cache → ∀ n ∈ t.nested, KeyIn (b.direct ++ b.transitive) n.key
  donep : ∀ t0 ∈ done, (b.pool.lookup t0.path).isSome
  dsub : ∀ t0 ∈ done, t0 ∈ ts

variable {au L ts}

/-- a target obtains its type `ty` (by a read or by promotion from `transitive`) -/
theorem step_add (H : HypP L ts) {done : List Def} {b : Book} (hinv : BInv au L ts done b) {t0 t : Def} {pool' : List (Path × Def)}
    (ht0 : t0 ∈ ts) (hnew : t0.key ∉ done.map Def.key) (hsd : setDefault b.pool t0 = (t, pool')) {st1 : St} {ty : Ty}
    (hmono : ∀ p ∈ b.st.cache, p ∈ st1.cache) (hcache : CacheOk (DenR au L) st1) (hmem : (t, ty) ∈ st1.cache) :
    ty ∉ b.direct ∧
    LInv au L ts { pool := pool', direct := b.direct ++ [ty], transitive := removeTy b.transitive ty, st := st1 } ∧
    (b.direct ++ [ty]).map Ty.key = (done ++ [t0]).map Def.key ∧
    (∀ k, KeyIn (b.direct ++ b.transitive) k → KeyIn ((b.direct ++ [ty]) ++ removeTy b.transitive ty) k) ∧
    (∀ t0' ∈ done ++ [t0], (pool'.lookup t0'.path).isSome) := by
  obtain ⟨hk', hpath', hu', hlk', hmono', hcase', hpool'⟩ := setDefault_spec H hinv.linv.pool (Or.inr ht0) hsd
  have hden : Den au L ty t := hcache _ _ hmem
  have htk : ty.key = t0.key := by rw [hden.key, hk']
  have hnd : ty ∉ b.direct := by
    intro h
    apply hnew
    rw [← hinv.dkeys, ← htk]
    exact List.mem_map.mpr ⟨ty, h, rfl⟩
  have hK : ∀ k, KeyIn (b.direct ++ b.transitive) k → KeyIn ((b.direct ++ [ty]) ++ removeTy b.transitive ty) k := by
    intro k hk
    obtain ⟨z, hz, e⟩ := hk
    rcases List.mem_append.mp hz with hz | hz
    · exact ⟨z, by simp [hz], e⟩
    · by_cases hzt : z = ty
      · exact ⟨z, by simp [hzt], e⟩
      · exact ⟨z, List.mem_append_right _ (mem_removeTy.mpr ⟨hz, hzt⟩), e⟩
  refine ⟨hnd, ⟨hcache, ?_, ?_⟩, ?_, hK, ?_⟩
  · intro z hz
    simp only [List.mem_append, List.mem_singleton] at hz
    rcases hz with (hz | rfl) | hz
    · obtain ⟨x, hx, hc⟩ := hinv.linv.tys z (List.mem_append_left _ hz)
      exact ⟨x, hx, hmono _ hc⟩
    · exact ⟨t, hu', hmem⟩
    · obtain ⟨x, hx, hc⟩ := hinv.linv.tys z (List.mem_append_right _ (mem_removeTy.mp hz).1)
      exact ⟨x, hx, hmono _ hc⟩
  · exact hpool' _ _ hmono hK ⟨ty, hmem⟩ ⟨ty, by simp, by rw [htk, hk']⟩
  · simp [hinv.dkeys, htk]
  · intro t0' h0
    rcases List.mem_append.mp h0 with h0 | h0
    · exact hmono' _ (hinv.donep t0' h0)
    · simp only [List.mem_singleton] at h0
      rw [h0, hlk']; rfl

theorem level0_spec (H : HypP L ts) (rest : List Def) (b : Book) (done : List Def) (hinv : BInv au L ts done b)
    (hsub : ∀ t ∈ rest, t ∈ ts) (hnd : ((done ++ rest).map Def.key).Nodup)
    (b' : Book) (s : St) (hrun : level0 au L rest b = (.ok b', s)) :
    BInv au L ts (done ++ rest) b' ∧
      (KeyUniq L ts → (∀ ty ∈ b.transitive, NestReach b.direct ty) → ∀ ty ∈ b'.transitive, NestReach b'.direct ty) := by
  induction rest, b using level0.induct au L generalizing done b' s with
  | case1 b =>
    rw [level0] at hrun; cases hrun; exact ⟨by simpa using hinv, fun _ h => h⟩
  | case2 p rest b p' pool hsd b1 skip bs hs ih =>
    have hnew : p.key ∉ done.map Def.key := by
      rw [List.map_append, List.map_cons] at hnd
      exact fun h => (List.nodup_append.mp hnd).2.2 _ h _ (by simp) rfl
    rw [level0] at hrun
    simp only [hsd] at hrun
    simp only [skip, b1] at hs
    simp only [hs] at hrun
    have hfin : done ++ p :: rest = (done ++ [p]) ++ rest := by simp
    rw [hfin] at hnd ⊢
    split at hs
    · rename_i ty hl
      have hmem := lookup_mem hl
      obtain ⟨hnd', hl2, hdk, hK, hdp⟩ := step_add H hinv (hsub p (by simp)) hnew hsd (fun _ h => h) hinv.linv.cache hmem
      split at hs
      · rename_i hc
        exact absurd (List.contains_iff_mem.mp hc) hnd'
      · split at hs
        · cases hs
          have hbs : BInv au L ts (done ++ [p])
              { pool := pool, direct := addTy b.direct ty, transitive := removeTy b.transitive ty, st := b.st } := by
            simp only [addTy_of_not_mem hnd']
            refine ⟨hl2, hdk, fun x t hxt n hn => hK _ (hinv.nest x t hxt n hn), hdp, ?_⟩
            intro t0 h0
            rcases List.mem_append.mp h0 with h0 | h0
            · exact hinv.dsub t0 h0
            · simp only [List.mem_singleton] at h0; rw [h0]; exact hsub p (by simp)
          obtain ⟨i1, i2⟩ := ih (done ++ [p]) hbs (fun q hq => hsub q (by simp [hq])) hnd b' s hrun
          refine ⟨i1, fun hku hR => i2 hku ?_⟩
          intro z hz
          simp only [addTy_of_not_mem hnd']
          exact (hR z (mem_removeTy.mp hz).1).mono fun y hy => NestReach.root (List.mem_append_left _ hy)
        · cases hs
    · cases hs
  | case3 p rest b p' pool hsd b1 skip hs e st1 hr =>
    rw [level0] at hrun
    simp only [hsd] at hrun
    simp only [skip, b1] at hs hr
    simp only [hs, hr] at hrun
    cases hrun
  | case4 p rest b p' pool hsd b1 skip hs t st1 hr b2 pending e st hl =>
    rw [level0] at hrun
    simp only [hsd] at hrun
    simp only [skip, b1] at hs hr
    simp only [pending, b2, b1] at hl
    simp only [hs, hr, hl] at hrun
    cases hrun
  | case5 p rest b p' pool hsd b1 skip hs t st1 hr b2 pending bs snd hl ih =>
    have hnew : p.key ∉ done.map Def.key := by
      rw [List.map_append, List.map_cons] at hnd
      exact fun h => (List.nodup_append.mp hnd).2.2 _ h _ (by simp) rfl
    rw [level0] at hrun
    simp only [hsd] at hrun
    simp only [skip, b1] at hs hr
    simp only [pending, b2, b1] at hl
    simp only [hs, hr, hl] at hrun
    have hfin : done ++ p :: rest = (done ++ [p]) ++ rest := by simp
    rw [hfin] at hnd ⊢
    have hden := readObj_den au L L p' { b.st with visited := [] } (KeySub.refl L) hinv.linv.cache
    have hext := readObj_ext au L p' { b.st with visited := [] }
    rw [hr] at hden hext
    obtain ⟨⟨c, v, hc1, hv1, hvL, hcn, hvc⟩, hres⟩ := hext
    simp only at hc1 hv1
    have hmem : (p', t) ∈ st1.cache := hres t rfl
    have hmono : ∀ q ∈ b.st.cache, q ∈ st1.cache := by
      intro q hq; rw [hc1]; exact List.mem_append_right _ hq
    obtain ⟨hnd', hl2, hdk, hK, hdp⟩ := step_add H hinv (hsub p (by simp)) hnew hsd hmono hden.1 hmem
    simp only [addTy_of_not_mem hnd'] at hl
    have hdsub : ∀ t0 ∈ done ++ [p], t0 ∈ ts := by
      intro t0 h0
      rcases List.mem_append.mp h0 with h0 | h0
      · exact hinv.dsub t0 h0
      · simp only [List.mem_singleton] at h0; rw [h0]; exact hsub p (by simp)
    have hvis : ∀ x ∈ st1.visited, x ∈ v := by
      intro x hx; rw [hv1] at hx; simpa using hx
    have hpend : ∀ q ∈ sortDefs (dedupKeys (st1.visited.filter fun x => (List.lookup x.path pool).isNone)),
        q ∈ L ∧ ∃ t', (q, t') ∈ st1.cache := by
      intro q hq
      have hq' := List.mem_filter.mp (mem_dedupKeys (mem_sortDefs.mp hq))
      have hqv := hvis q hq'.1
      exact ⟨hvL q hqv, hvc rfl q hqv⟩
    obtain ⟨r1, r2, r3, r4, r5, r6, r7⟩ := level1_spec H _ _ hl2 hpend bs snd hl
    simp only at r2 r3 r4 r6 r7
    have hK2 : ∀ k, KeyIn ((b.direct ++ [t]) ++ removeTy b.transitive t) k → KeyIn (bs.direct ++ bs.transitive) k := by
      intro k hk
      obtain ⟨z, hz, e⟩ := hk
      rcases List.mem_append.mp hz with hz | hz
      · exact ⟨z, List.mem_append_left _ (by rw [r3]; exact hz), e⟩
      · exact ⟨z, List.mem_append_right _ (r4 z hz), e⟩
    have hbs : BInv au L ts (done ++ [p]) bs := by
      refine ⟨r1, by rw [r3]; exact hdk, ?_, fun t0 h0 => r6 _ (hdp t0 h0), hdsub⟩
      intro x tx hxt n hn
      rw [r2] at hxt
      rw [hc1] at hxt
      rcases List.mem_append.mp hxt with hxt | hxt
      · obtain ⟨x', hx', hc'⟩ := hcn x tx hxt n hn
        have hkey : n.key = x'.key := (hden.1 _ _ hc').key
        rw [hkey]
        have hx'v := hvis x' hx'
        cases hlk : List.lookup x'.path pool with
        | some o =>
          obtain ⟨h1, h2, _, h4⟩ := hl2.pool _ _ hlk
          have : o.key = x'.key := H.pathKey o x' h2 (Or.inl (hvL x' hx'v)) h1
          rw [← this]
          exact hK2 _ h4
        | none =>
          have hf : x' ∈ st1.visited.filter fun x => (List.lookup x.path pool).isNone :=
            List.mem_filter.mpr ⟨hx', by rw [hlk]; rfl⟩
          obtain ⟨q, hq, e⟩ := dedupKeys_key hf
          rw [← e]
          exact r5 q (mem_sortDefs.mpr hq)
      · exact hK2 _ (hK _ (hinv.nest x tx hxt n hn))
    obtain ⟨i1, i2⟩ := ih (done ++ [p]) hbs (fun q hq => hsub q (by simp [hq])) hnd b' s hrun
    refine ⟨i1, fun hku hR => i2 hku ?_⟩
    rw [r3]
    apply r7 _ hku
    · intro q hq tq hcq
      have hq' := List.mem_filter.mp (mem_dedupKeys (mem_sortDefs.mp hq))
      rcases readObj_reach au L p' { b.st with visited := [] } t st1 hr q hq'.1 with h0 | ⟨tq', hcq', hrq⟩
      · cases h0
      · have : tq = tq' := Den.unique (hden.1 _ _ hcq) (hden.1 _ _ hcq')
        rw [this]
        exact NestReach.of_nested (NestReach.root (by simp)) hrq
    · intro z hz
      exact (hR z (mem_removeTy.mp hz).1).mono fun y hy => NestReach.root (List.mem_append_left _ hy)

end Book0

/-! ### `_complete_read_function` -/

theorem keysDistinct_nodup : ∀ {l : List Def}, keysDistinct l = true → (l.map Def.key).Nodup
  | [], _ => List.nodup_nil
  | d :: r, h => by
    simp only [keysDistinct, Bool.and_eq_true, List.all_eq_true] at h
    rw [List.map_cons, List.nodup_cons]
    refine ⟨?_, keysDistinct_nodup h.2⟩
    intro hm
    obtain ⟨y, hy, e⟩ := List.mem_map.mp hm
    have := h.1 y hy
    simp [e] at this

theorem BInv.init (au : Bool) (L ts : List Def) : BInv au L ts [] {} :=
  ⟨⟨fun _ _ h => (by cases h), fun _ h => (by cases h), fun _ _ h => (by cases h)⟩, rfl, fun _ _ h => (by cases h),
    fun _ h => (by cases h), fun _ h => (by cases h)⟩

/-- A successful `_complete_read_function`: its two result lists are the sorted `direct` / `transitive` sets of a
    book-keeping state that satisfies the loop invariant for all targets. -/
theorem completeRead_spec {au : Bool} {files : List FileEntry} {targets : List Def} {dirs : List Path} {L : List Def}
    (hL : collect false files dirs = .ok L) (H : HypP L targets) {d t : List Ty} {p : List Nat}
    (h : completeRead au files targets dirs = ⟨.ok (d, t), p⟩) :
    ∃ b, BInv au L targets targets b ∧ d = sortTys b.direct ∧ t = sortTys b.transitive ∧
      (KeyUniq L targets → ∀ ty ∈ b.transitive, NestReach b.direct ty) := by
  obtain ⟨L', b, st, hL', hk, hrun, hd, ht, _⟩ := completeRead_ok h
  cases hL'.symm.trans hL
  have := level0_spec H targets {} [] (BInv.init au L targets) (fun _ h => h) (by simpa using keysDistinct_nodup hk) b st hrun
  exact ⟨b, by simpa using this.1, hd, ht, fun hku => this.2 hku (fun _ h => by cases h)⟩

/-- two key-sorted lists of keys with the same elements are equal -/
theorem sorted_keys_eq {l1 l2 : List Key} (hp : l1.Perm l2) (h1 : l1.Pairwise (fun a b => keyLe a b = true))
    (h2 : l2.Pairwise (fun a b => keyLe a b = true)) : l1 = l2 :=
  List.Perm.eq_of_pairwise (le := fun a b : Key => keyLe a b = true) (fun a b _ _ hab hba => keyLe_antisymm a b hab hba) h1 h2 hp

/-- the minor-version check fails (with the library's bare `assert`) when two list positions hold the same (name, version) -/
theorem checkMinorVersions_distinct {ds : List TyInfo} (h : checkMinorVersions ds = .ok ()) : Spec.distinctKeys ds := by
  unfold checkMinorVersions at h
  rw [firstErr_ok_iff] at h
  intro i j a b hi hj hne hk
  simp only [TyInfo.key, Prod.mk.injEq] at hk
  have := h (minorPair a b) ((mem_minorList ds _).mpr ⟨i, j, a, b, hi, hj, hne, hk.1, hk.2.1, rfl⟩)
  unfold minorPair at this
  simp [hk.2.2] at this

/-- a result that passed the checks has pairwise distinct (name, version) and satisfies the declarative rule -/
theorem crossCheck_ok_consistent {direct all : List TyInfo} (h : crossCheck direct all = .ok ()) :
    Spec.distinctKeys all ∧ Spec.consistent direct all := by
  unfold crossCheck at h
  split at h
  · cases h
  · rename_i hp
    have hd := checkMinorVersions_distinct h
    exact ⟨hd, (checkPortIdCollisions_ok_iff direct).mp hp, (checkMinorVersions_ok_iff all hd).mp h⟩

/-! ### the cross-definition checks of a successful call -/

theorem completeRead_crossCheck {au : Bool} {files : List FileEntry} {targets : List Def} {dirs : List Path}
    {d t : List Ty} {p : List Nat} (h : completeRead au files targets dirs = ⟨.ok (d, t), p⟩) :
    crossCheck (d.map Ty.info) ((t ++ d).map Ty.info) = .ok () := by
  obtain ⟨_, _, _, _, _, _, _, _, hcc⟩ := completeRead_ok h
  exact hcc

theorem readNamespace_crossCheck {files : List FileEntry} {root : Path} {lookups : List Path} {ac au : Bool}
    {d t : List Ty} {p : List Nat} (h : readNamespace files root lookups ac au = ⟨.ok (d, t), p⟩) :
    crossCheck (d.map Ty.info) ((t ++ d).map Ty.info) = .ok () := by
  obtain ⟨_, _, _, ⟨_, rfl, rfl⟩ | hc⟩ := readNamespace_ok h
  · rfl
  · exact completeRead_crossCheck hc

theorem readFiles_crossCheck {files targets : List FileEntry} {roots lookups : List Path} {au : Bool}
    {d t : List Ty} {p : List Nat} (h : readFiles files targets roots lookups au = ⟨.ok (d, t), p⟩) :
    crossCheck (d.map Ty.info) ((t ++ d).map Ty.info) = .ok () := by
  obtain ⟨_, _, ⟨_, rfl, rfl⟩ | ⟨_, hc⟩⟩ := readFiles_ok h
  · rfl
  · exact completeRead_crossCheck hc

section Results
variable {au : Bool} {files : List FileEntry} {targets : List Def} {dirs : List Path} {L : List Def}
  {d t : List Ty} {p : List Nat}

/-- no two returned types have the same (name, version): in particular `direct` and `transitive` are disjoint by key
    (this is enforced by the final minor-version check, which ends in the library's bare `assert` otherwise) -/
theorem completeRead_distinct (h : completeRead au files targets dirs = ⟨.ok (d, t), p⟩) :
    (t ++ d).Pairwise (fun a b => a.key ≠ b.key) := by
  have hdk := (crossCheck_ok_consistent (completeRead_crossCheck h)).1
  rw [List.pairwise_iff_getElem]
  intro i j hi hj hlt
  apply hdk i j (t ++ d)[i].info (t ++ d)[j].info
  · rw [List.getElem?_map, List.getElem?_eq_getElem hi]; rfl
  · rw [List.getElem?_map, List.getElem?_eq_getElem hj]; rfl
  · omega

theorem completeRead_disjoint (h : completeRead au files targets dirs = ⟨.ok (d, t), p⟩) : ∀ x ∈ t, x.key ∉ d.map Ty.key := by
  have hp := List.pairwise_append.mp (completeRead_distinct h)
  intro x hx hk
  obtain ⟨y, hy, e⟩ := List.mem_map.mp hk
  exact hp.2.2 x hx y hy e.symm

/-- one composite per target, carrying the target's (name, version), in sorted order -/
theorem completeRead_direct_keys (hL : collect false files dirs = .ok L) (H : HypP L targets)
    (h : completeRead au files targets dirs = ⟨.ok (d, t), p⟩) : d.map Ty.key = (sortDefs targets).map Def.key := by
  obtain ⟨b, hb, rfl, rfl, _⟩ := completeRead_spec hL H h
  apply sorted_keys_eq
  · have h1 := (sortTys_perm b.direct).map Ty.key
    rw [hb.dkeys] at h1
    exact h1.trans ((sortDefs_perm targets).map Def.key).symm
  · exact List.pairwise_map.mpr (sortTys_sorted _)
  · exact List.pairwise_map.mpr (sortDefs_sorted _)

/-- `direct ∪ transitive` is closed under nesting -/
theorem completeRead_closed (hL : collect false files dirs = .ok L) (H : HypP L targets)
    (h : completeRead au files targets dirs = ⟨.ok (d, t), p⟩) :
    ∀ x ∈ d ++ t, ∀ n ∈ x.nested, ∃ y ∈ d ++ t, y.key = n.key := by
  obtain ⟨b, hb, rfl, rfl, _⟩ := completeRead_spec hL H h
  intro x hx n hn
  obtain ⟨x0, _, hc⟩ := hb.linv.tys x (by simpa [mem_sortTys] using hx)
  simpa [KeyIn, mem_sortTys] using hb.nest x0 x hc n hn

/-- every returned type is the stand-alone type of a definition object of the call -/
theorem completeRead_good (hL : collect false files dirs = .ok L) (H : HypP L targets)
    (h : completeRead au files targets dirs = ⟨.ok (d, t), p⟩) : ∀ x ∈ d ++ t, Good au L targets x := by
  obtain ⟨b, hb, rfl, rfl, _⟩ := completeRead_spec hL H h
  intro x hx
  exact hb.linv.good (by simpa [mem_sortTys] using hx)

/-- nothing else is returned: every transitive type is nested, at some depth, in a direct type -/
theorem completeRead_minimal (hL : collect false files dirs = .ok L) (H : Hyp L targets)
    (h : completeRead au files targets dirs = ⟨.ok (d, t), p⟩) : ∀ x ∈ t, NestReach d x := by
  obtain ⟨b, hb, rfl, rfl, hr⟩ := completeRead_spec hL H.toHypP h
  intro x hx
  exact (hr H.keyUniq x (mem_sortTys.mp hx)).mono fun y hy => NestReach.root (mem_sortTys.mpr hy)

end Results

/-! ### exactly the dependency closure; independence of the order of the targets -/

theorem Good.mono {au : Bool} {L ts ts' : List Def} {x : Ty} (h : Good au L ts x) (hs : ∀ y ∈ ts, y ∈ ts') : Good au L ts' x := by
  obtain ⟨y, hy, hd⟩ := h
  refine ⟨y, ?_, hd⟩
  rcases hy with hy | hy
  · exact Or.inl hy
  · exact Or.inr (hs y hy)


theorem RefsTo.mem {Lb : List Def} {d : Def} : ∀ {stmts : List Stmt} {xs : List Def}, RefsTo Lb d stmts xs → ∀ x ∈ xs, x ∈ Lb
  | [], _, h, x, hx => by simp only [RefsTo] at h; subst h; cases hx
  | .ref r :: rest, _, h, x, hx => by
    simp only [RefsTo] at h
    obtain ⟨y, xs', rfl, hy, h'⟩ := h
    rcases List.mem_cons.mp hx with rfl | hx
    · exact hy.1
    · exact RefsTo.mem h' x hx
  | .prim _ :: rest, _, h, x, hx => by simp only [RefsTo] at h; exact RefsTo.mem h x hx
  | .print _ :: rest, _, h, x, hx => by simp only [RefsTo] at h; exact RefsTo.mem h x hx
  | .bad :: rest, _, h, x, hx => by simp only [RefsTo] at h; exact RefsTo.mem h x hx

theorem DenList.mem {au : Bool} {Lb : List Def} : ∀ {l : List Ty} {xs : List Def}, DenList au Lb l xs →
    ∀ n ∈ l, ∃ x ∈ xs, Den au Lb n x
  | [], _, _, n, hn => by cases hn
  | t :: r, _, h, n, hn => by
    simp only [DenList] at h
    obtain ⟨x, xs', rfl, hx, h'⟩ := h
    rcases List.mem_cons.mp hn with rfl | hn
    · exact ⟨x, by simp, hx⟩
    · obtain ⟨y, hy, hd⟩ := DenList.mem h' n hn
      exact ⟨y, List.mem_cons_of_mem _ hy, hd⟩

/-- a nested type of a stand-alone type is the stand-alone type of a lookup definition -/
theorem Den.nested_good {au : Bool} {Lb : List Def} {t : Ty} {d : Def} (h : Den au Lb t d) :
    ∀ n ∈ t.nested, ∃ x ∈ Lb, Den au Lb n x := by
  cases t with
  | mk info nested =>
    simp only [Den] at h
    obtain ⟨_, xs1, xs2, h1, h2, hl, _⟩ := h
    intro n hn
    obtain ⟨x, hx, hd⟩ := hl.mem n hn
    refine ⟨x, ?_, hd⟩
    rcases List.mem_append.mp hx with hx | hx
    · exact h1.mem x hx
    · cases hr : d.text.resp with
      | none => simp only [hr] at h2; subst h2; cases hx
      | some rs => simp only [hr] at h2; exact h2.mem x hx

section Exact
variable {au : Bool} {files : List FileEntry} {targets : List Def} {dirs : List Path} {L : List Def}
  {d t : List Ty} {p : List Nat}

/-- `direct ∪ transitive` is exactly the set of types nested, at any depth, in a direct type -/
theorem completeRead_exact (hL : collect false files dirs = .ok L) (H : Hyp L targets)
    (h : completeRead au files targets dirs = ⟨.ok (d, t), p⟩) : ∀ x, x ∈ d ++ t ↔ NestReach d x := by
  intro x
  constructor
  · intro hx
    rcases List.mem_append.mp hx with hx | hx
    · exact NestReach.root hx
    · exact completeRead_minimal hL H h x hx
  · intro hx
    induction hx with
    | root hy => exact List.mem_append_left _ hy
    | @step y n _ hn ih =>
      obtain ⟨z, hz, e⟩ := completeRead_closed hL H.toHypP h y ih n hn
      obtain ⟨y0, _, hy0⟩ := completeRead_good hL H.toHypP h y ih
      obtain ⟨x0, hx0, hd0⟩ := hy0.nested_good n hn
      have : z = n := tyUniq H (completeRead_good hL H.toHypP h z hz) ⟨x0, Or.inl hx0, hd0⟩ e
      rw [← this]; exact hz

end Exact

/-- The result does not depend on the order in which the targets are processed: for two target lists that are
    permutations of each other, two successful runs return the same lists. -/
theorem completeRead_order {au : Bool} {files : List FileEntry} {ts1 ts2 : List Def} {dirs : List Path} {L : List Def}
    {d1 t1 d2 t2 : List Ty} {p1 p2 : List Nat} (hL : collect false files dirs = .ok L) (H : Hyp L (ts1 ++ ts2))
    (hp : ts1.Perm ts2) (h1 : completeRead au files ts1 dirs = ⟨.ok (d1, t1), p1⟩)
    (h2 : completeRead au files ts2 dirs = ⟨.ok (d2, t2), p2⟩) : d1 = d2 ∧ t1 = t2 := by
  have H1 : Hyp L ts1 :=
    { pathKey := fun x y hx hy => H.pathKey x y (hx.imp id (List.mem_append_left _)) (hy.imp id (List.mem_append_left _))
      keyUniq := fun x y hx hy => H.keyUniq x y (hx.imp id (List.mem_append_left _)) (hy.imp id (List.mem_append_left _)) }
  have H2 : Hyp L ts2 :=
    { pathKey := fun x y hx hy => H.pathKey x y (hx.imp id (List.mem_append_right _)) (hy.imp id (List.mem_append_right _))
      keyUniq := fun x y hx hy => H.keyUniq x y (hx.imp id (List.mem_append_right _)) (hy.imp id (List.mem_append_right _)) }
  have g1 : ∀ x ∈ d1 ++ t1, Good au L (ts1 ++ ts2) x := fun x hx =>
    Good.mono (completeRead_good hL H1.toHypP h1 x hx) fun _ h => List.mem_append_left _ h
  have g2 : ∀ x ∈ d2 ++ t2, Good au L (ts1 ++ ts2) x := fun x hx =>
    Good.mono (completeRead_good hL H2.toHypP h2 x hx) fun _ h => List.mem_append_right _ h
  have hk : d1.map Ty.key = d2.map Ty.key := by
    rw [completeRead_direct_keys hL H1.toHypP h1, completeRead_direct_keys hL H2.toHypP h2]
    exact sorted_keys_eq ((((sortDefs_perm ts1).trans hp).trans (sortDefs_perm ts2).symm).map Def.key)
      (List.pairwise_map.mpr (sortDefs_sorted _)) (List.pairwise_map.mpr (sortDefs_sorted _))
  have hd : d1 = d2 := by
    have hlen : d1.length = d2.length := by simpa using congrArg List.length hk
    apply List.ext_getElem hlen
    intro i hi1 hi2
    apply tyUniq H (g1 _ (List.mem_append_left _ (List.getElem_mem hi1))) (g2 _ (List.mem_append_left _ (List.getElem_mem hi2)))
    have := congrArg (fun l => l[i]?) hk
    simpa [List.getElem?_map, List.getElem?_eq_getElem hi1, List.getElem?_eq_getElem hi2] using this
  refine ⟨hd, ?_⟩
  subst hd
  have hmem : ∀ {ta tb : List Ty} {pa pb : List Nat} {tsa tsb : List Def}, Hyp L tsa → Hyp L tsb →
      completeRead au files tsa dirs = ⟨.ok (d1, ta), pa⟩ → completeRead au files tsb dirs = ⟨.ok (d1, tb), pb⟩ →
      ∀ x ∈ ta, x ∈ tb := by
    intro ta tb pa pb tsa tsb Ha Hb ha hb x hx
    have hr := completeRead_minimal hL Ha ha x hx
    have hin := (completeRead_exact hL Hb hb x).mpr hr
    rcases List.mem_append.mp hin with hin | hin
    · exact absurd (List.mem_map.mpr ⟨x, hin, rfl⟩) (completeRead_disjoint ha x hx)
    · exact hin
  have nd : ∀ {ta : List Ty} {pa : List Nat} {tsa : List Def}, HypP L tsa →
      completeRead au files tsa dirs = ⟨.ok (d1, ta), pa⟩ → ta.Nodup := by
    intro ta pa tsa Ha ha
    have := (List.pairwise_append.mp (completeRead_distinct ha)).1
    exact this.imp (fun hne e => hne (by rw [e]))
  have hperm : t1.Perm t2 :=
    (List.perm_ext_iff_of_nodup (nd H1.toHypP h1) (nd H2.toHypP h2)).mpr
      fun x => ⟨hmem H1 H2 h1 h2 x, hmem H2 H1 h2 h1 x⟩
  obtain ⟨b1, _, _, ht1, _⟩ := completeRead_spec hL H1.toHypP h1
  obtain ⟨b2, _, _, ht2, _⟩ := completeRead_spec hL H2.toHypP h2
  apply List.Perm.eq_of_pairwise (le := fun a b : Ty => keyLe a.key b.key = true) _ _ _ hperm
  · intro a b ha hb hab hba
    exact tyUniq H (g1 a (List.mem_append_right _ ha)) (g2 b (List.mem_append_right _ hb)) (keyLe_antisymm _ _ hab hba)
  · rw [ht1]; exact sortTys_sorted _
  · rw [ht2]; exact sortTys_sorted _

/-! ### from the file system to `Hyp` -/

theorem mkDef_untgt {tgt : Bool} {e : FileEntry} {x : Def} (h : mkDef tgt e = .ok x) : mkDef false e = .ok (untgt x) := by
  obtain ⟨h1, h2, fn, hfn, rfl⟩ := mkDef_ok_iff.mp h
  exact mkDef_ok_iff.mpr ⟨h1, h2, fn, hfn, rfl⟩

theorem mkDef_key_names {t1 t2 : Bool} {e1 e2 : FileEntry} {x y : Def} (h1 : mkDef t1 e1 = .ok x) (h2 : mkDef t2 e2 = .ok y)
    (hd : e1.dir = e2.dir) (hs : e1.sub = e2.sub) (hf : e1.fname = e2.fname) : x.key = y.key := by
  obtain ⟨fn1, hfn1, rfl⟩ := mkDef_ok h1
  obtain ⟨fn2, hfn2, rfl⟩ := mkDef_ok h2
  rw [hf, hfn2] at hfn1
  cases hfn1
  simp [Def.key, hd, hs]

theorem mapMDefs_mem {tgt : Bool} : ∀ {l : List FileEntry} {ds : List Def}, mapMDefs tgt l = .ok ds →
    ∀ x ∈ ds, ∃ e ∈ l, mkDef tgt e = .ok x
  | [], ds, h, x, hx => by simp [mapMDefs] at h; subst h; cases hx
  | e :: r, ds, h, x, hx => by
    rw [mapMDefs_cons] at h
    cases h0 : mkDef tgt e with
    | error y => simp [h0] at h
    | ok d =>
      cases h1 : mapMDefs tgt r with
      | error y => simp [h0, h1] at h
      | ok ds' =>
        simp only [h0, h1] at h
        cases h
        rcases List.mem_cons.mp hx with rfl | hx
        · exact ⟨e, by simp, h0⟩
        · obtain ⟨e', he', hm⟩ := mapMDefs_mem h1 x hx
          exact ⟨e', List.mem_cons_of_mem _ he', hm⟩

/-- every file of the list yields one of the definitions: none is missing -/
theorem mapMDefs_complete {tgt : Bool} : ∀ {l : List FileEntry} {ds : List Def}, mapMDefs tgt l = .ok ds →
    ∀ e ∈ l, ∃ x ∈ ds, mkDef tgt e = .ok x
  | [], ds, h, e, he => by cases he
  | e0 :: r, ds, h, e, he => by
    rw [mapMDefs_cons] at h
    cases h0 : mkDef tgt e0 with
    | error y => simp [h0] at h
    | ok d =>
      cases h1 : mapMDefs tgt r with
      | error y => simp [h0, h1] at h
      | ok ds' =>
        simp only [h0, h1] at h
        cases h
        rcases List.mem_cons.mp he with rfl | he
        · exact ⟨d, by simp, h0⟩
        · obtain ⟨x, hx, hm⟩ := mapMDefs_complete h1 e he
          exact ⟨x, List.mem_cons_of_mem _ hx, hm⟩

theorem collect_mem {tgt : Bool} {files : List FileEntry} {dirs : List Path} {ds : List Def} (h : collect tgt files dirs = .ok ds) :
    ∀ x ∈ ds, ∃ e ∈ files, e.dir ∈ dirs ∧ isDefinitionFile e.fname = true ∧ mkDef tgt e = .ok x := by
  unfold collect at h
  split at h
  · rename_i ds' hds
    cases h
    intro x hx
    obtain ⟨e, he, hm⟩ := mapMDefs_mem hds x (mem_sortDefs.mp hx)
    obtain ⟨he1, he2⟩ := List.mem_filter.mp he
    simp only [Bool.and_eq_true, List.contains_iff_mem] at he2
    exact ⟨e, he1, he2.1, he2.2, hm⟩
  · cases h

/-- the definition comes from a file of the enumeration that lies under one of the directories -/
def FromFiles (files : List FileEntry) (dirs : List Path) (x : Def) : Prop :=
  ∃ e ∈ files, ∃ tgt, e.dir ∈ dirs ∧ mkDef tgt e = .ok x

theorem filterMap_pairwise_inj {α β : Type} {g : α → Option β} : ∀ {l : List α}, (l.filterMap g).Pairwise (· ≠ ·) →
    ∀ {a b : α} {k : β}, a ∈ l → b ∈ l → g a = some k → g b = some k → a = b
  | [], _, _, _, _, ha, _, _, _ => by cases ha
  | c :: r, hp, a, b, k, ha, hb, ga, gb => by
    have hr : (r.filterMap g).Pairwise (· ≠ ·) := by
      rw [List.filterMap_cons] at hp
      split at hp
      · exact hp
      · exact (List.pairwise_cons.mp hp).2
    have hc : ∀ x ∈ r, g c = some k → g x = some k → False := by
      intro x hx gc gx
      rw [List.filterMap_cons, gc] at hp
      exact (List.pairwise_cons.mp hp).1 k (List.mem_filterMap.mpr ⟨x, hx, gx⟩) rfl
    rcases List.mem_cons.mp ha with rfl | ha'
    · rcases List.mem_cons.mp hb with rfl | hb'
      · rfl
      · exact (hc b hb' ga gb).elim
    · rcases List.mem_cons.mp hb with rfl | hb'
      · exact (hc a ha' gb ga).elim
      · exact filterMap_pairwise_inj hr ha' hb' ga gb

theorem keyUniq_of_files {files : List FileEntry} {dirs : List Path} (hd : DistinctFileKeys files) {x y : Def}
    (hx : FromFiles files dirs x) (hy : FromFiles files dirs y) (hk : x.key = y.key) : untgt x = untgt y := by
  obtain ⟨e1, he1, t1, _, m1⟩ := hx
  obtain ⟨e2, he2, t2, _, m2⟩ := hy
  have u1 := mkDef_untgt m1
  have u2 := mkDef_untgt m2
  have : e1 = e2 := by
    apply filterMap_pairwise_inj hd he1 he2 (k := x.key)
    · simp only [u1]; rfl
    · simp only [u2]; rw [hk]; rfl
  subst this
  rw [u1] at u2
  exact Except.ok.inj u2

/-- the definition comes from a file that lies under one of the directories -/
def FromDirs (dirs : List Path) (x : Def) : Prop := ∃ e tgt, e.dir ∈ dirs ∧ mkDef tgt e = .ok x

theorem FromFiles.fromDirs {files : List FileEntry} {dirs : List Path} {x : Def} (h : FromFiles files dirs x) : FromDirs dirs x := by
  obtain ⟨e, _, tgt, hd, hm⟩ := h
  exact ⟨e, tgt, hd, hm⟩

theorem pathKey_of_dirs {dirs : List Path} {ac : Bool} (hc : dirsCheck dirs ac = .ok ()) {x y : Def}
    (hx : FromDirs dirs x) (hy : FromDirs dirs y) (hp : x.path = y.path) : x.key = y.key := by
  obtain ⟨e1, t1, hd1, m1⟩ := hx
  obtain ⟨e2, t2, hd2, m2⟩ := hy
  rw [(mkDef_path m1).1, (mkDef_path m2).1, List.append_assoc, List.append_assoc] at hp
  have hall := (dirsCheck_ok_iff dirs ac).mp hc
  have h12 := (dirPairBad_none_iff ac e1.dir e2.dir).mp (hall _ hd1 _ hd2)
  have h21 := (dirPairBad_none_iff ac e2.dir e1.dir).mp (hall _ hd2 _ hd1)
  have hdir : e1.dir = e2.dir := by
    have p1 : e1.dir <+: e1.dir ++ (e1.sub ++ [e1.fname]) := List.prefix_append _ _
    have p2 : e2.dir <+: e1.dir ++ (e1.sub ++ [e1.fname]) := by rw [hp]; exact List.prefix_append _ _
    rcases List.prefix_or_prefix_of_prefix p1 p2 with h | h
    · rcases h21 with e | ⟨hn, _⟩
      · exact e.symm
      · exact (hn h).elim
    · rcases h12 with e | ⟨hn, _⟩
      · exact e
      · exact (hn h).elim
  rw [hdir] at hp
  have hrest := List.append_cancel_left hp
  have hlen : e1.sub.length = e2.sub.length := by
    have := congrArg List.length hrest
    simp only [List.length_append, List.length_singleton] at this
    omega
  obtain ⟨hs, hf⟩ := List.append_inj hrest hlen
  exact mkDef_key_names m1 m2 hdir hs (by simpa using hf)

theorem hypP_of_dirs {dirs : List Path} {ac : Bool} {L ts : List Def}
    (hc : dirsCheck dirs ac = .ok ()) (hu : ∀ x, Univ L ts x → FromDirs dirs x) : HypP L ts :=
  ⟨fun x y hx hy hp => pathKey_of_dirs hc (hu x hx) (hu y hy) hp⟩

theorem hyp_of_files {files : List FileEntry} {dirs : List Path} {ac : Bool} {L ts : List Def} (hd : DistinctFileKeys files)
    (hc : dirsCheck dirs ac = .ok ()) (hu : ∀ x, Univ L ts x → FromFiles files dirs x) : Hyp L ts :=
  { toHypP := hypP_of_dirs hc (fun x hx => (hu x hx).fromDirs)
    keyUniq := fun x y hx hy hk => keyUniq_of_files hd (hu x hx) (hu y hy) hk }

theorem mem_dedupPaths {l : List Path} {p : Path} : p ∈ dedupPaths l ↔ p ∈ l := by
  induction l with
  | nil => simp [dedupPaths]
  | cons a r ih =>
    simp only [dedupPaths]
    split
    · rename_i hc
      have hc' : a ∈ r := List.contains_iff_mem.mp hc
      rw [ih, List.mem_cons]
      constructor
      · exact Or.inr
      · rintro (rfl | h)
        · exact hc'
        · exact h
    · rw [List.mem_cons, List.mem_cons, ih]

theorem fromFiles_of_collect {tgt : Bool} {files : List FileEntry} {dirs dirs' : List Path} {ds : List Def}
    (h : collect tgt files dirs = .ok ds) (hsub : ∀ p ∈ dirs, p ∈ dirs') : ∀ x ∈ ds, FromFiles files dirs' x := by
  intro x hx
  obtain ⟨e, he, hd, _, hm⟩ := collect_mem h x hx
  exact ⟨e, he, tgt, hsub _ hd, hm⟩

/-! ### the entry points -/

theorem collect_sorted {tgt : Bool} {files : List FileEntry} {dirs : List Path} {ds : List Def}
    (h : collect tgt files dirs = .ok ds) : SortedByKey Def.key ds := by
  unfold collect at h
  split at h
  · cases h; exact sortDefs_sorted _
  · cases h

theorem sortDefs_keys_of_sorted {ds : List Def} (h : SortedByKey Def.key ds) : (sortDefs ds).map Def.key = ds.map Def.key :=
  sorted_keys_eq ((sortDefs_perm ds).map Def.key) (List.pairwise_map.mpr (sortDefs_sorted ds)) (List.pairwise_map.mpr h)

/-- a successful `read_namespace` with a non-empty target list is a successful `_complete_read_function` whose definition
    objects all come from files under the (accepted) directories -/
theorem readNamespace_inv {files : List FileEntry} {root : Path} {lookups : List Path} {ac au : Bool} {d t : List Ty}
    {p : List Nat} (h : readNamespace files root lookups ac au = ⟨.ok (d, t), p⟩) :
    ∃ ts, collect true files [root] = .ok ts ∧ ((ts = [] ∧ d = [] ∧ t = []) ∨
      ∃ L, collect false files (dedupPaths (lookups ++ [root])) = .ok L ∧
        completeRead au files ts (dedupPaths (lookups ++ [root])) = ⟨.ok (d, t), p⟩ ∧
        dirsCheck (dedupPaths (lookups ++ [root])) ac = .ok () ∧
        ∀ x, Univ L ts x → FromFiles files (dedupPaths (lookups ++ [root])) x) := by
  obtain ⟨hc, ts, hts, he | h⟩ := readNamespace_ok h
  · exact ⟨ts, hts, Or.inl he⟩
  · obtain ⟨L, _, _, hL, _⟩ := completeRead_ok h
    refine ⟨ts, hts, Or.inr ⟨L, hL, h, hc, ?_⟩⟩
    rintro x (hx | hx)
    · exact fromFiles_of_collect hL (fun _ h => h) x hx
    · exact fromFiles_of_collect hts (fun q hq => by
        rw [List.mem_singleton.mp hq]; exact mem_dedupPaths.mpr (by simp)) x hx

/-- the same for `read_files`; the target files lie under the directories, and are files of the enumeration if `hsub` -/
theorem readFiles_inv {files targets : List FileEntry} {roots lookups : List Path} {au : Bool} {d t : List Ty}
    {p : List Nat} {ts : List Def} (hts : mapMDefs true targets = .ok ts)
    (h : readFiles files targets roots lookups au = ⟨.ok (d, t), p⟩) :
    (ts = [] ∧ d = [] ∧ t = []) ∨
    ∃ L, collect false files (dedupPaths (lookups ++ ts.map Def.root ++ roots)) = .ok L ∧
      completeRead au files (sortDefs ts) (dedupPaths (lookups ++ ts.map Def.root ++ roots)) = ⟨.ok (d, t), p⟩ ∧
      dirsCheck (dedupPaths (lookups ++ ts.map Def.root ++ roots)) true = .ok () ∧
      (∀ x, Univ L (sortDefs ts) x → FromDirs (dedupPaths (lookups ++ ts.map Def.root ++ roots)) x) ∧
      ((∀ e ∈ targets, e ∈ files) →
        ∀ x, Univ L (sortDefs ts) x → FromFiles files (dedupPaths (lookups ++ ts.map Def.root ++ roots)) x) := by
  obtain ⟨ts', hts', h⟩ := readFiles_ok h
  cases hts'.symm.trans hts
  rcases h with he | ⟨hc, h⟩
  · exact Or.inl he
  · obtain ⟨L, _, _, hL, _⟩ := completeRead_ok h
    have hroot : ∀ x ∈ sortDefs ts, ∃ e ∈ targets, mkDef true e = .ok x ∧
        e.dir ∈ dedupPaths (lookups ++ ts.map Def.root ++ roots) := by
      intro x hx
      have hx' := mem_sortDefs.mp hx
      obtain ⟨e, he, hm⟩ := mapMDefs_mem hts x hx'
      refine ⟨e, he, hm, ?_⟩
      rw [← (mkDef_path hm).2.1]
      apply mem_dedupPaths.mpr
      simp only [List.mem_append, List.mem_map]
      exact Or.inl (Or.inr ⟨x, hx', rfl⟩)
    refine Or.inr ⟨L, hL, h, hc, ?_, ?_⟩
    · rintro x (hx | hx)
      · exact (fromFiles_of_collect hL (fun _ h => h) x hx).fromDirs
      · obtain ⟨e, _, hm, hdir⟩ := hroot x hx
        exact ⟨e, true, hdir, hm⟩
    · rintro hsub x (hx | hx)
      · exact fromFiles_of_collect hL (fun _ h => h) x hx
      · obtain ⟨e, he, hm, hdir⟩ := hroot x hx
        exact ⟨e, hsub e he, true, hdir, hm⟩

/-- a direct type carries the path, root directory and port-ID of its target file -/
theorem completeRead_direct_paths {au : Bool} {files : List FileEntry} {targets : List Def} {dirs : List Path} {L : List Def}
    {d t : List Ty} {p : List Nat} (hL : collect false files dirs = .ok L) (H : Hyp L targets)
    (h : completeRead au files targets dirs = ⟨.ok (d, t), p⟩) :
    ∀ ty ∈ d, ∃ t0 ∈ targets, ty.key = t0.key ∧ ty.info.path = t0.path ∧ ty.info.root = t0.root ∧ ty.info.fpid = t0.fpid ∧
      Den au L ty t0 := by
  intro ty hty
  have hk := completeRead_direct_keys hL H.toHypP h
  have : ty.key ∈ (sortDefs targets).map Def.key := by rw [← hk]; exact List.mem_map.mpr ⟨ty, hty, rfl⟩
  obtain ⟨t0, ht0, e0⟩ := List.mem_map.mp this
  have ht0' := mem_sortDefs.mp ht0
  obtain ⟨x, hx, hden⟩ := completeRead_good hL H.toHypP h ty (List.mem_append_left _ hty)
  have hu := H.keyUniq x t0 hx (Or.inr ht0') (by rw [← hden.key, e0])
  have hd0 : Den au L ty t0 := by
    have h1 : Den au L ty (untgt x) := hden.retgt false
    rw [hu] at h1
    have h2 := h1.retgt t0.tgt
    exact h2
  obtain ⟨_, _, _, i4, i5, i6⟩ := hd0.info
  exact ⟨t0, ht0', e0.symm, i5, i6, i4, hd0⟩

theorem collect_congr_dirs (tgt : Bool) (files : List FileEntry) {dirs dirs' : List Path} (h : ∀ q, q ∈ dirs ↔ q ∈ dirs') :
    collect tgt files dirs = collect tgt files dirs' := by
  unfold collect
  have : (files.filter fun e => dirs.contains e.dir && isDefinitionFile e.fname) =
      files.filter fun e => dirs'.contains e.dir && isDefinitionFile e.fname := by
    apply List.filter_congr
    intro e _
    have : dirs.contains e.dir = dirs'.contains e.dir := by
      rw [Bool.eq_iff_iff, List.contains_iff_mem, List.contains_iff_mem]; exact h _
    rw [this]
  rw [this]

end Ns
