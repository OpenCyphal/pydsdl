import Model.Expr
/-!
  The character-level lexer of the model inverts the renderer: for every list of well-formed tokens and every spacing,
  `lex (renderToks σ ts) = some ts`.

  Method: every scanner commutes with appending input whose first character it does not react to (`*_ext`), so what
  `lexOne` does on the text of a token does not change when an admissible continuation is appended (`lexOne_ext`).
-/
namespace Ex

/-- the next character, if there is one, is none the scanner reacts to -/
def Stop (q : Char → Bool) (R : List Char) : Prop := ∀ c ∈ R.head?, q c = false

theorem Stop.mono {q q' : Char → Bool} {R : List Char} (h : Stop q R) (hq : ∀ c, q' c = true → q c = true) : Stop q' R := by
  intro c hc
  have := h c hc
  cases h' : q' c with
  | false => rfl
  | true => rw [hq c h'] at this; exact absurd this (by simp)

theorem Stop.nil (q : Char → Bool) : Stop q [] := by intro c hc; simp at hc

theorem Stop.cons {q : Char → Bool} {c : Char} {R : List Char} (h : Stop q (c :: R)) : q c = false := h c (by simp)

/-- append to the rest of a scanner result -/
def Scan.ext (o : Scan) (R : List Char) : Scan := o.map fun x => (x.1, x.2 ++ R)

@[simp] theorem Scan.ext_none (R : List Char) : Scan.ext none R = none := rfl
@[simp] theorem Scan.ext_some (x : List Char × List Char) (R : List Char) : Scan.ext (some x) R = some (x.1, x.2 ++ R) := rfl

/-! ### digit runs -/

theorem headIs_append (p : Char → Bool) (R : List Char) (hR : Stop p R) (r : List Char) : headIs p (r ++ R) = headIs p r := by
  cases r with
  | nil =>
    cases R with
    | nil => rfl
    | cons c R' => simpa [headIs] using hR.cons
  | cons d r' => rfl

theorem scanDigitsTail_ext (p : Char → Bool) (R : List Char) (hR : Stop (fun c => p c || c == '_') R) (s : List Char) :
    scanDigitsTail p (s ++ R) = ((scanDigitsTail p s).1, (scanDigitsTail p s).2 ++ R) := by
  have hRp : Stop p R := hR.mono (fun c h => by simp [h])
  induction s with
  | nil =>
    cases R with
    | nil => simp [scanDigitsTail]
    | cons c R' =>
      have := hR.cons
      simp only [Bool.or_eq_false_iff] at this
      simp [scanDigitsTail, this.1, this.2]
  | cons c r ih =>
    simp only [List.cons_append, scanDigitsTail, headIs_append p R hRp r]
    split <;> simp [ih]

theorem scanDigitsTail_split (p : Char → Bool) (s : List Char) :
    (scanDigitsTail p s).1 ++ (scanDigitsTail p s).2 = s := by
  induction s with
  | nil => simp [scanDigitsTail]
  | cons c r ih =>
    simp only [scanDigitsTail]
    split <;> simp [ih]

theorem scanDigits_ext (p : Char → Bool) (R : List Char) (hR : Stop (fun c => p c || c == '_') R) (s : List Char) :
    scanDigits p (s ++ R) = (scanDigits p s).ext R := by
  cases s with
  | nil =>
    cases R with
    | nil => simp [scanDigits]
    | cons c R' =>
      have := hR.cons
      simp only [Bool.or_eq_false_iff] at this
      simp [scanDigits, this.1]
  | cons c r =>
    by_cases hc : p c <;> simp [scanDigits, hc, scanDigitsTail_ext p R hR r]

theorem scanDigits_split (p : Char → Bool) (s : List Char) (x : List Char × List Char) (h : scanDigits p s = some x) :
    x.1 ++ x.2 = s := by
  cases s with
  | nil => simp [scanDigits] at h
  | cons c r =>
    by_cases hc : p c
    · simp [scanDigits, hc] at h; subst h; simp [scanDigitsTail_split]
    · simp [scanDigits, hc] at h

/-! ### character classes -/

/-- what a number scanner may react to -/
def qNum (c : Char) : Bool := isIdentChar c || c == '.'

theorem isDigitC_ident {c : Char} (h : isDigitC c = true) : isIdentChar c = true := by simp [isIdentChar, h]
theorem isZeroC_digit {c : Char} (h : isZeroC c = true) : isDigitC c = true := by
  simp only [isZeroC, beq_iff_eq] at h; subst h; decide
theorem isNzDigitC_digit {c : Char} (h : isNzDigitC c = true) : isDigitC c = true := by
  simp only [isNzDigitC, isDigitC, Bool.and_eq_true, decide_eq_true_eq] at h ⊢
  exact ⟨Char.le_trans (by decide) h.1, h.2⟩
theorem isBinC_digit {c : Char} (h : isBinC c = true) : isDigitC c = true := by
  simp only [isBinC, Bool.or_eq_true, beq_iff_eq] at h; rcases h with rfl | rfl <;> decide
theorem isOctC_digit {c : Char} (h : isOctC c = true) : isDigitC c = true := by
  simp only [isOctC, isDigitC, Bool.and_eq_true, decide_eq_true_eq] at h ⊢
  exact ⟨h.1, Char.le_trans h.2 (by decide)⟩
theorem isHexC_ident {c : Char} (h : isHexC c = true) : isIdentChar c = true := by
  simp only [isHexC, isIdentChar, isIdentStart, isDigitC, Bool.or_eq_true, Bool.and_eq_true, decide_eq_true_eq] at h ⊢
  rcases h with (h | h) | h
  · right; exact h
  · left; left; left; exact ⟨h.1, Char.le_trans h.2 (by decide)⟩
  · left; left; right; exact ⟨h.1, Char.le_trans h.2 (by decide)⟩

theorem stopNum_of (p : Char → Bool) (hp : ∀ c, p c = true → isIdentChar c = true) {R : List Char} (h : Stop qNum R) :
    Stop (fun c => p c || c == '_') R := by
  refine h.mono fun c hc => ?_
  simp only [Bool.or_eq_true, beq_iff_eq] at hc
  rcases hc with hc | rfl
  · simp [qNum, hp c hc]
  · decide

theorem stopDigit {R : List Char} (h : Stop qNum R) : Stop (fun c => isDigitC c || c == '_') R :=
  stopNum_of isDigitC (fun _ => isDigitC_ident) h

theorem Stop.ne {q : Char → Bool} {c : Char} {R : List Char} (h : Stop q (c :: R)) (x : Char) (hx : q x = true) : c ≠ x := by
  rintro rfl; rw [h.cons] at hx; exact absurd hx (by simp)

/-! ### integer literals -/

theorem scanPrefixed_ne (p : Char → Bool) (lo up : Char) {z : Char} (hz : z ≠ '0') (r : List Char) :
    scanPrefixed p lo up (z :: r) = none := by
  unfold scanPrefixed
  split
  · rename_i heq; exact absurd (List.cons.inj heq).1 hz
  · rfl

theorem scanPrefixed_ext (p : Char → Bool) (hp : ∀ c, p c = true → isIdentChar c = true) (lo up : Char)
    (hlo : isIdentChar lo = true) (hup : isIdentChar up = true)
    (R : List Char) (hR : Stop qNum R) (s : List Char) :
    scanPrefixed p lo up (s ++ R) = (scanPrefixed p lo up s).ext R := by
  have hR' := stopNum_of p hp hR
  match s with
  | [] =>
    cases R with
    | nil => rfl
    | cons c R' => exact scanPrefixed_ne p lo up (hR.ne '0' (by decide)) R'
  | z :: r =>
    by_cases hz : z = '0'
    case neg => rw [List.cons_append, scanPrefixed_ne p lo up hz, scanPrefixed_ne p lo up hz]; rfl
    subst hz
    cases r with
    | nil =>
      cases R with
      | nil => rfl
      | cons c R' =>
        have h1 : c ≠ lo := hR.ne lo (by simp [qNum, hlo])
        have h2 : c ≠ up := hR.ne up (by simp [qNum, hup])
        simp [scanPrefixed, h1, h2]
    | cons c r =>
      by_cases hc : (c == lo || c == up) = true
      · simp only [List.cons_append, scanPrefixed, hc, ↓reduceIte, scanDigitsTail_ext p R hR' r]
        split <;> simp
      · simp [scanPrefixed, hc]

theorem scanDecimal_ext (R : List Char) (hR : Stop qNum R) (s : List Char) :
    scanDecimal (s ++ R) = (scanDecimal s).ext R := by
  cases s with
  | nil =>
    cases R with
    | nil => simp [scanDecimal]
    | cons c R' =>
      have h0 : c ≠ '0' := hR.ne '0' (by decide)
      have h1 : isNzDigitC c = false := by
        cases h : isNzDigitC c with
        | false => rfl
        | true => have := hR.cons; simp [qNum, isDigitC_ident (isNzDigitC_digit h)] at this
      simp [scanDecimal, h0, h1]
  | cons c r =>
    simp only [List.cons_append, scanDecimal]
    split
    · simp [scanDigitsTail_ext isZeroC R (stopNum_of isZeroC (fun _ h => isDigitC_ident (isZeroC_digit h)) hR) r]
    · split
      · simp [scanDigitsTail_ext isDigitC R (stopDigit hR) r]
      · simp

theorem scanInt_ext (R : List Char) (hR : Stop qNum R) (s : List Char) : scanInt (s ++ R) = (scanInt s).ext R := by
  unfold scanInt
  rw [scanPrefixed_ext isBinC (fun _ h => isDigitC_ident (isBinC_digit h)) 'b' 'B' (by decide) (by decide) R hR s,
    scanPrefixed_ext isOctC (fun _ h => isDigitC_ident (isOctC_digit h)) 'o' 'O' (by decide) (by decide) R hR s,
    scanPrefixed_ext isHexC (fun _ h => isHexC_ident h) 'x' 'X' (by decide) (by decide) R hR s,
    scanDecimal_ext R hR s]
  cases scanPrefixed isBinC 'b' 'B' s <;> cases scanPrefixed isOctC 'o' 'O' s <;>
    cases scanPrefixed isHexC 'x' 'X' s <;> simp

/-! ### real literals -/

/-- the alternative `'.' :: r` of a match does not apply -/
theorem dotMatch_ne {α} {b : List Char} (h : ∀ r, b ≠ '.' :: r) (f : List Char → α) (d : α) :
    (match (generalizing := false) b with
      | '.' :: r => f r
      | _ => d) = d := by
  split
  · rename_i r; exact absurd rfl (h r)
  · rfl

theorem not_dot_cons {c : Char} (hc : c ≠ '.') (r r' : List Char) : c :: r ≠ '.' :: r' := fun h => hc (List.cons.inj h).1

/-- no `.` at the head of `b` and none at the head of the continuation: none at the head of `b ++ R` -/
theorem not_dot_append {b R : List Char} (hR : Stop qNum R) (h : ∀ r, b ≠ '.' :: r) : ∀ r, b ++ R ≠ '.' :: r := by
  cases b with
  | nil =>
    cases R with
    | nil => exact fun r hr => nomatch hr
    | cons c R' => exact not_dot_cons (hR.ne '.' (by decide)) R'
  | cons c b' => exact fun r hr => h b' (by rw [(List.cons.inj hr).1])

/-- `match b with | '.' :: r => some (a, r) | _ => none` commutes with appending a continuation that starts with no `.` -/
theorem dotCase_ext {α} (a : α) (R : List Char) (hR : Stop qNum R) (b : List Char) :
    (match b ++ R with
      | '.' :: r => some (a, r)
      | _ => (none : Option (α × List Char))) =
    Option.map (fun x : α × List Char => (x.1, x.2 ++ R))
      (match b with
        | '.' :: r => some (a, r)
        | _ => none) := by
  by_cases h : ∃ r, b = '.' :: r
  · obtain ⟨r, rfl⟩ := h; rfl
  · have h' : ∀ r, b ≠ '.' :: r := fun r hr => h ⟨r, hr⟩
    rw [dotMatch_ne h', dotMatch_ne (not_dot_append hR h')]; rfl

theorem scanFraction_ne {s : List Char} (h : ∀ r, s ≠ '.' :: r) : scanFraction s = none := by
  unfold scanFraction
  exact dotMatch_ne h _ _

theorem scanFraction_ext (R : List Char) (hR : Stop qNum R) (s : List Char) :
    scanFraction (s ++ R) = (scanFraction s).ext R := by
  by_cases h : ∃ r, s = '.' :: r
  · obtain ⟨r, rfl⟩ := h
    simp only [List.cons_append, scanFraction, scanDigits_ext isDigitC R (stopDigit hR) r]
    cases scanDigits isDigitC r <;> rfl
  · have h' : ∀ r, s ≠ '.' :: r := fun r hr => h ⟨r, hr⟩
    rw [scanFraction_ne h', scanFraction_ne (not_dot_append hR h')]; rfl

theorem scanFraction_split (s : List Char) (x : List Char × List Char) (h : scanFraction s = some x) : x.1 ++ x.2 = s := by
  unfold scanFraction at h
  split at h
  · rename_i r
    cases hd : scanDigits isDigitC r with
    | none => simp [hd] at h
    | some y =>
      simp only [hd, Option.some.injEq] at h
      subst h
      simp [scanDigits_split _ _ _ hd]
  · simp at h

theorem scanPoint_ext (R : List Char) (hR : Stop qNum R) (s : List Char) :
    scanPoint (s ++ R) = (scanPoint s).ext R := by
  unfold scanPoint
  rw [scanDigits_ext isDigitC R (stopDigit hR) s]
  cases hd : scanDigits isDigitC s with
  | none => simp [scanFraction_ext R hR s]
  | some x =>
    simp only [Scan.ext_some, scanFraction_ext R hR x.2]
    cases hf : scanFraction x.2 with
    | some y => simp
    | none => simp only [Scan.ext_none]; exact dotCase_ext (x.1 ++ ['.']) R hR x.2

theorem scanPoint_split (s : List Char) (x : List Char × List Char) (h : scanPoint s = some x) : x.1 ++ x.2 = s := by
  unfold scanPoint at h
  cases hd : scanDigits isDigitC s with
  | none => rw [hd] at h; exact scanFraction_split s x h
  | some y =>
    rw [hd] at h
    have hy := scanDigits_split _ _ _ hd
    simp only at h
    cases hf : scanFraction y.2 with
    | some z =>
      simp only [hf, Option.some.injEq] at h
      subst h
      have := scanFraction_split _ _ hf
      simp [← hy, ← this]
    | none =>
      simp only [hf] at h
      split at h
      · rename_i r heq
        simp only [Option.some.injEq] at h; subst h
        simp [← hy, heq]
      · simp at h

theorem scanMantissa_ext (R : List Char) (hR : Stop qNum R) (s : List Char) :
    scanMantissa (s ++ R) = (scanMantissa s).ext R := by
  unfold scanMantissa
  rw [scanPoint_ext R hR s, scanDigits_ext isDigitC R (stopDigit hR) s]
  cases scanPoint s <;> simp

theorem scanMantissa_split (s : List Char) (x : List Char × List Char) (h : scanMantissa s = some x) : x.1 ++ x.2 = s := by
  unfold scanMantissa at h
  cases hp : scanPoint s with
  | some y => simp only [hp, Option.some.injEq] at h; subst h; exact scanPoint_split s y hp
  | none => simp only [hp] at h; exact scanDigits_split _ _ _ h

/-- a sign may follow only where it cannot be taken for the sign of an exponent -/
def SignOk (s R : List Char) : Prop := ∀ c ∈ R.head?, (c = '+' ∨ c = '-') → s ≠ ['e'] ∧ s ≠ ['E']

theorem scanExponent_ext (R : List Char) (hR : Stop qNum R) (s : List Char) (hS : SignOk s R) :
    scanExponent (s ++ R) = (scanExponent s).ext R := by
  have hD := stopDigit hR
  match s with
  | [] =>
    cases R with
    | nil => simp [scanExponent]
    | cons c R' =>
      have h1 : c ≠ 'e' := hR.ne 'e' (by decide)
      have h2 : c ≠ 'E' := hR.ne 'E' (by decide)
      simp [scanExponent, h1, h2]
  | [e] =>
    by_cases he : (e == 'e' || e == 'E') = true
    · cases R with
      | nil => simp [scanExponent]
      | cons c R' =>
        have hcd : isDigitC c = false := by
          have := hD.cons; simp only [Bool.or_eq_false_iff] at this; exact this.1
        by_cases hsg : (c == '+' || c == '-') = true
        · exfalso
          have := hS c (by simp) (by simpa using hsg)
          simp only [Bool.or_eq_true, beq_iff_eq] at he
          rcases he with rfl | rfl
          · exact this.1 rfl
          · exact this.2 rfl
        · simp [scanExponent, he, hsg, scanDigits, hcd]
    · simp [scanExponent, he]
  | e :: sg :: r =>
    by_cases he : (e == 'e' || e == 'E') = true
    · by_cases hsg : (sg == '+' || sg == '-') = true
      · simp only [List.cons_append, scanExponent, he, hsg, ↓reduceIte, scanDigits_ext isDigitC R hD r]
        cases scanDigits isDigitC r <;> simp
      · have := scanDigits_ext isDigitC R hD (sg :: r)
        simp only [List.cons_append] at this
        simp only [List.cons_append, scanExponent, he, hsg, ↓reduceIte, this]
        cases scanDigits isDigitC (sg :: r) <;> simp
    · simp [scanExponent, he]

theorem scanRealExp_ext (R : List Char) (hR : Stop qNum R) (s : List Char)
    (hS : ∀ x, scanMantissa s = some x → SignOk x.2 R) :
    scanRealExp (s ++ R) = (scanRealExp s).ext R := by
  unfold scanRealExp
  rw [scanMantissa_ext R hR s]
  cases hm : scanMantissa s with
  | none => simp
  | some x =>
    have hx := scanMantissa_split s x hm
    simp only [Scan.ext_some, scanExponent_ext R hR x.2 (hS x hm)]
    cases scanExponent x.2 <;> simp

theorem scanReal_ext (R : List Char) (hR : Stop qNum R) (s : List Char)
    (hS : ∀ x, scanMantissa s = some x → SignOk x.2 R) :
    scanReal (s ++ R) = (scanReal s).ext R := by
  unfold scanReal
  rw [scanRealExp_ext R hR s hS, scanPoint_ext R hR s]
  cases scanRealExp s <;> simp

/-! ### numbers as tokens -/

/-- append to the rest of a `lexOne` result -/
def TokRes.ext (o : Option (Tok × List Char)) (R : List Char) : Option (Tok × List Char) := o.map fun x => (x.1, x.2 ++ R)

@[simp] theorem TokRes.ext_none (R : List Char) : TokRes.ext none R = none := rfl
@[simp] theorem TokRes.ext_some (x : Tok × List Char) (R : List Char) : TokRes.ext (some x) R = some (x.1, x.2 ++ R) := rfl

/-! ### an integer literal never leaves a lone `e` behind its mantissa-like prefix -/

theorem scanDigitsTail_chars (p : Char → Bool) (s : List Char) : ∀ c ∈ (scanDigitsTail p s).1, p c = true ∨ c = '_' := by
  induction s with
  | nil => simp [scanDigitsTail]
  | cons a r ih =>
    simp only [scanDigitsTail]
    split
    · rename_i h
      intro c hc
      simp only [List.mem_cons] at hc
      rcases hc with rfl | hc
      · simp only [Bool.or_eq_true, Bool.and_eq_true, beq_iff_eq] at h
        rcases h with h | h
        · exact Or.inl h
        · exact Or.inr h.1
      · exact ih c hc
    · simp

theorem scanPrefixed_shape (p : Char → Bool) (lo up : Char) (s : List Char) (x : List Char × List Char)
    (h : scanPrefixed p lo up s = some x) : ∃ c r, s = '0' :: c :: r ∧ (c = lo ∨ c = up) ∧ x.1 ++ x.2 = s := by
  unfold scanPrefixed at h
  split at h
  · rename_i c r
    split at h
    · rename_i hc
      simp only at h
      split at h
      · simp at h
      · simp only [Option.some.injEq] at h
        subst h
        refine ⟨c, r, rfl, by simpa using hc, ?_⟩
        simp [scanDigitsTail_split]
    · simp at h
  · simp at h

theorem scanDecimal_shape (s : List Char) (x : List Char × List Char) (h : scanDecimal s = some x) :
    (∀ c ∈ x.1, isDigitC c = true ∨ c = '_') ∧ x.1 ++ x.2 = s := by
  cases s with
  | nil => simp [scanDecimal] at h
  | cons a r =>
    simp only [scanDecimal] at h
    split at h
    · rename_i ha
      simp only [Option.some.injEq] at h; subst h
      refine ⟨fun c hc => ?_, by simp [scanDigitsTail_split]⟩
      simp only [List.mem_cons] at hc
      rcases hc with rfl | hc
      · left; rw [beq_iff_eq] at ha; subst ha; decide
      · rcases scanDigitsTail_chars _ _ c hc with h | h
        · exact Or.inl (isZeroC_digit h)
        · exact Or.inr h
    · split at h
      · rename_i ha
        simp only [Option.some.injEq] at h; subst h
        refine ⟨fun c hc => ?_, by simp [scanDigitsTail_split]⟩
        simp only [List.mem_cons] at hc
        rcases hc with rfl | hc
        · exact Or.inl (isNzDigitC_digit ha)
        · exact scanDigitsTail_chars _ _ c hc
      · simp at h

/-- the mantissa scanners stop in front of the base letter of a prefixed integer -/
theorem scanDigits_prefixed (c : Char) (r : List Char) (hc : isDigitC c = false) (hu : c ≠ '_') :
    scanDigits isDigitC ('0' :: c :: r) = some (['0'], c :: r) := by
  have : isDigitC '0' = true := by decide
  simp [scanDigits, this, scanDigitsTail, hc, hu]

theorem scanPoint_prefixed (c : Char) (r : List Char) (hc : isDigitC c = false) (hu : c ≠ '_') (hd : c ≠ '.') :
    scanPoint ('0' :: c :: r) = none := by
  simp only [scanPoint, scanDigits_prefixed c r hc hu, scanFraction_ne (not_dot_cons hd r)]
  exact dotMatch_ne (not_dot_cons hd r) _ _

theorem scanMantissa_prefixed (c : Char) (r : List Char) (hc : isDigitC c = false) (hu : c ≠ '_') (hd : c ≠ '.') :
    scanMantissa ('0' :: c :: r) = some (['0'], c :: r) := by
  simp [scanMantissa, scanPoint_prefixed c r hc hu hd, scanDigits_prefixed c r hc hu]

/-- an integer literal is prefixed (a `0` and a base letter come first) or decimal -/
theorem scanInt_cases (s : List Char) (y : List Char × List Char) (h : scanInt s = some y) :
    (∃ c r, s = '0' :: c :: r ∧ c ∈ ['b', 'B', 'o', 'O', 'x', 'X']) ∨ scanDecimal s = some y := by
  have pre : ∀ (p : Char → Bool) (lo up : Char), lo ∈ ['b', 'B', 'o', 'O', 'x', 'X'] → up ∈ ['b', 'B', 'o', 'O', 'x', 'X'] →
      ∀ z, scanPrefixed p lo up s = some z → ∃ c r, s = '0' :: c :: r ∧ c ∈ ['b', 'B', 'o', 'O', 'x', 'X'] :=
    fun p lo up hlo hup z hz => by
      obtain ⟨c, r, hs, hc, _⟩ := scanPrefixed_shape p lo up s z hz
      exact ⟨c, r, hs, by rcases hc with rfl | rfl <;> assumption⟩
  unfold scanInt at h
  split at h
  · rename_i z hz; exact .inl (pre _ _ _ (by decide) (by decide) z hz)
  · split at h
    · rename_i z hz; exact .inl (pre _ _ _ (by decide) (by decide) z hz)
    · split at h
      · rename_i z hz; exact .inl (pre _ _ _ (by decide) (by decide) z hz)
      · exact .inr h

/-- an integer literal never leaves a lone `e` behind its mantissa-like prefix -/
theorem int_signOk (s : List Char) (y : List Char × List Char) (hi : scanInt s = some y) (hy : y.2 = []) (R : List Char) :
    ∀ x, scanMantissa s = some x → SignOk x.2 R := by
  intro x hm c _ _
  suffices h : ∀ e ∈ ['e', 'E'], x.2 ≠ [e] from ⟨h 'e' (by decide), h 'E' (by decide)⟩
  intro e he hxe
  rcases scanInt_cases s y hi with ⟨c2, r, rfl, hc2⟩ | hd
  · -- prefixed: the mantissa-like prefix is the `0`, and what it leaves starts with the base letter
    have tbl : ∀ c ∈ ['b', 'B', 'o', 'O', 'x', 'X'], isDigitC c = false ∧ c ≠ '_' ∧ c ≠ '.' ∧ c ∉ ['e', 'E'] := by decide
    obtain ⟨h1, h2, h3, h4⟩ := tbl c2 hc2
    rw [scanMantissa_prefixed c2 r h1 h2 h3] at hm
    cases hm
    exact h4 ((List.cons.inj hxe).1 ▸ he)
  · -- decimal: digits and separators only, but the lone `e` would be its last character
    obtain ⟨hall, hsplit⟩ := scanDecimal_shape s y hd
    rw [hy, List.append_nil] at hsplit
    have hmem : e ∈ y.1 := by rw [hsplit, ← scanMantissa_split s x hm, hxe]; simp
    have tbl : ∀ e ∈ ['e', 'E'], ¬ (isDigitC e = true ∨ e = '_') := by decide
    exact tbl e he (hall e hmem)

/-- … nor does a real literal: if the exponent scanner failed on a lone `e`, the literal is in point notation and
    its mantissa is the whole text -/
theorem real_signOk (s : List Char) (y : List Char × List Char) (hr : scanReal s = some y) (hy : y.2 = []) (R : List Char) :
    ∀ x, scanMantissa s = some x → SignOk x.2 R := by
  intro x hm c _ _
  suffices h : ∀ e ∈ ['e', 'E'], x.2 ≠ [e] from ⟨h 'e' (by decide), h 'E' (by decide)⟩
  intro e he hxe
  have hexp : scanExponent x.2 = none := by
    have tbl : ∀ e ∈ ['e', 'E'], scanExponent [e] = none := by decide
    rw [hxe]; exact tbl e he
  have h1 : scanRealExp s = none := by simp [scanRealExp, hm, hexp]
  have h2 : scanPoint s = some y := by simpa [scanReal, h1] using hr
  have h3 : scanMantissa s = some y := by simp [scanMantissa, h2]
  rw [hm] at h3
  simp only [Option.some.injEq] at h3
  rw [h3, hy] at hxe
  cases hxe

theorem lexNumber_ext (R : List Char) (hR : Stop qNum R) (s : List Char)
    (hS : ∀ x, scanMantissa s = some x → SignOk x.2 R) :
    lexNumber (s ++ R) = TokRes.ext (lexNumber s) R := by
  unfold lexNumber
  rw [scanReal_ext R hR s hS, scanInt_ext R hR s]
  cases scanReal s with
  | some x => simp
  | none =>
    cases scanInt s with
    | some x => simp
    | none =>
      simp only [Scan.ext_none]
      exact dotCase_ext Tok.dot R hR s

/-! ### words -/

theorem scanWord_ext (R : List Char) (hR : Stop isIdentChar R) (s : List Char) :
    scanWord (s ++ R) = ((scanWord s).1, (scanWord s).2 ++ R) := by
  induction s with
  | nil =>
    cases R with
    | nil => simp [scanWord]
    | cons c R' => simp [scanWord, hR.cons]
  | cons c r ih =>
    simp only [List.cons_append, scanWord]
    split <;> simp [ih]

theorem dropPrefix_ext (w : List Char) (hw : ∀ c ∈ w, isIdentChar c = true) (R : List Char) (hR : Stop isIdentChar R)
    (s : List Char) : dropPrefix w (s ++ R) = (dropPrefix w s).map (· ++ R) := by
  induction w generalizing s with
  | nil => simp [dropPrefix]
  | cons x w ih =>
    cases s with
    | nil =>
      cases R with
      | nil => simp [dropPrefix]
      | cons c R' =>
        have : x ≠ c := fun h => (hR.ne x (hw x (by simp))) h.symm
        simp [dropPrefix, this]
    | cons y r =>
      simp only [List.cons_append, dropPrefix]
      split
      · exact ih (fun c hc => hw c (by simp [hc])) r
      · rfl

theorem nzDigitNext_ext (R : List Char) (hR : Stop isIdentChar R) (o : Option (List Char)) :
    nzDigitNext (o.map (· ++ R)) = nzDigitNext o := by
  cases o with
  | none => rfl
  | some r =>
    cases r with
    | cons c r' => rfl
    | nil =>
      cases R with
      | nil => rfl
      | cons c R' =>
        simp only [Option.map_some, List.nil_append, nzDigitNext]
        cases h : isNzDigitC c with
        | false => rfl
        | true => have := hR.cons; rw [isDigitC_ident (isNzDigitC_digit h)] at this; exact absurd this (by simp)

theorem typePrefix_ext (R : List Char) (hR : Stop isIdentChar R) (s : List Char) : typePrefix (s ++ R) = typePrefix s := by
  unfold typePrefix
  rw [dropPrefix_ext _ (by decide) R hR s, dropPrefix_ext _ (by decide) R hR s, dropPrefix_ext _ (by decide) R hR s,
    dropPrefix_ext _ (by decide) R hR s, dropPrefix_ext _ (by decide) R hR s, dropPrefix_ext _ (by decide) R hR s,
    dropPrefix_ext _ (by decide) R hR s]
  simp only [nzDigitNext_ext R hR, Option.isSome_map]

theorem lexWord_ext (R : List Char) (hR : Stop isIdentChar R) (s : List Char) :
    lexWord (s ++ R) = TokRes.ext (lexWord s) R := by
  unfold lexWord
  rw [typePrefix_ext R hR s, dropPrefix_ext _ (by decide) R hR s, dropPrefix_ext _ (by decide) R hR s,
    scanWord_ext R hR s]
  split
  · simp
  · cases dropPrefix ['t', 'r', 'u', 'e'] s with
    | some r => simp
    | none =>
      cases dropPrefix ['f', 'a', 'l', 's', 'e'] s with
      | some r => simp
      | none => simp

/-! ### strings -/

theorem scanStrBody_ext (q : Char) (R : List Char) (s : List Char) : ∀ (esc : Bool) (x : List Char × List Char),
    scanStrBody q esc s = some x → scanStrBody q esc (s ++ R) = some (x.1, x.2 ++ R) := by
  induction s with
  | nil => intro esc x h; cases esc <;> simp [scanStrBody] at h
  | cons c r ih =>
    intro esc x h
    cases esc with
    | true =>
      simp only [scanStrBody] at h ⊢
      simp only [List.cons_append, scanStrBody]
      split at h
      · simp at h
      · rename_i hc
        simp only [hc, Bool.false_eq_true, ↓reduceIte]
        cases hr : scanStrBody q false r with
        | none => simp [hr] at h
        | some y =>
          simp only [hr, Option.some.injEq] at h
          subst h
          simp [ih false y hr]
    | false =>
      simp only [scanStrBody] at h
      simp only [List.cons_append, scanStrBody]
      split at h
      · rename_i hc
        simp only [Option.some.injEq] at h; subst h
        simp [hc]
      · rename_i hc
        simp only [hc, Bool.false_eq_true, ↓reduceIte]
        cases hr : scanStrBody q (c == '\\') r with
        | none => simp [hr] at h
        | some y =>
          simp only [hr, Option.some.injEq] at h
          subst h
          simp [ih _ y hr]

/-! ### `lexOne`: which alternative applies is decided by the first character -/

/-- token classes by the alternative of `lexOne` that produces them -/
inductive TokClass where
  | op | num | str | word
  deriving DecidableEq

def Tok.cls : Tok → TokClass
  | .sym _ | .lp | .rp | .lb | .rb | .comma => .op
  | .lit (.int _) | .lit (.real _) | .dot => .num
  | .lit (.str _) => .str
  | .lit (.bool _) | .id _ => .word

theorem lookup_mem {α β : Type} [BEq α] [LawfulBEq α] (l : List (α × β)) (a : α) (b : β) (h : l.lookup a = some b) :
    (a, b) ∈ l := by
  obtain ⟨l₁, l₂, rfl, _⟩ := List.lookup_eq_some_iff.mp h
  simp

theorem lookup_none {α β : Type} [BEq α] [LawfulBEq α] (l : List (α × β)) (a : α) (h : ∀ p ∈ l, p.1 ≠ a) :
    l.lookup a = none :=
  List.lookup_eq_none_iff.mpr fun p hp => bne_iff_ne.mpr (h p hp).symm

theorem tok1_cls (c : Char) (t : Tok) (h : tok1 c = some t) : t.cls = .op := by
  have hall : ∀ p ∈ tok1Table, p.2.cls = .op := by decide
  exact hall _ (lookup_mem _ _ _ h)

theorem lexSym_cls (s : List Char) (x : Tok × List Char) (h : lexSym s = some x) : x.1.cls = .op := by
  have one : ∀ c r, (tok1 c).map (fun t => (t, r)) = some x → x.1.cls = .op := fun c r h => by
    obtain ⟨t, ht, rfl⟩ := Option.map_eq_some_iff.mp h
    exact tok1_cls c t ht
  unfold lexSym at h
  split at h
  · cases h
  · exact one _ _ h
  · split at h
    · cases h; rfl
    · exact one _ _ h

theorem lexNumber_cls (s : List Char) (x : Tok × List Char) (h : lexNumber s = some x) : x.1.cls = .num := by
  unfold lexNumber at h
  split at h
  · cases h; rfl
  · split at h
    · cases h; rfl
    · split at h
      · cases h; rfl
      · cases h

theorem lexWord_cls (s : List Char) (x : Tok × List Char) (h : lexWord s = some x) : x.1.cls = .word := by
  unfold lexWord at h
  split at h
  · cases h
  · split at h
    · cases h; rfl
    · split at h
      · cases h; rfl
      · cases h; rfl

/-- no operator or punctuation starts with this character -/
def OpFree (c : Char) : Prop := tok1 c = none ∧ ∀ d, sym2 c d = none

theorem opFree_of_first (c : Char) (h1 : ∀ p ∈ tok1Table, p.1 ≠ c) (h2 : ∀ p ∈ sym2Table, p.1.1 ≠ c) : OpFree c :=
  ⟨lookup_none _ _ h1, fun d => lookup_none _ _ fun p hp heq => h2 p hp (by rw [heq])⟩

theorem opFree_of (c : Char) (h : (isIdentChar c || c == '.' || c == '\'' || c == '"') = true) : OpFree c := by
  have h1 : ∀ p ∈ tok1Table, (isIdentChar p.1 || p.1 == '.' || p.1 == '\'' || p.1 == '"') = false := by decide +kernel
  have h2 : ∀ p ∈ sym2Table, (isIdentChar p.1.1 || p.1.1 == '.' || p.1.1 == '\'' || p.1.1 == '"') = false := by decide +kernel
  refine opFree_of_first c (fun p hp heq => ?_) (fun p hp heq => ?_)
  · have := h1 p hp; rw [heq, h] at this; cases this
  · have := h2 p hp; rw [heq, h] at this; cases this

theorem lexSym_none (c : Char) (r : List Char) (h : OpFree c) : lexSym (c :: r) = none := by
  cases r with
  | nil => simp [lexSym, h.1]
  | cons d r' => simp [lexSym, h.1, h.2 d]

theorem identStart_not_digit {c : Char} (h : isIdentStart c = true) : isDigitC c = false := by
  cases hd : isDigitC c with
  | false => rfl
  | true =>
    simp only [isDigitC, Bool.and_eq_true, decide_eq_true_eq] at hd
    simp only [isIdentStart, Bool.or_eq_true, Bool.and_eq_true, decide_eq_true_eq, beq_iff_eq] at h
    rcases h with (h | h) | h
    · exact absurd (Char.le_trans h.1 hd.2) (by decide)
    · exact absurd (Char.le_trans h.1 hd.2) (by decide)
    · subst h; exact absurd hd.2 (by decide)

theorem lexOne_number (c : Char) (r : List Char) (hc : (isDigitC c || c == '.') = true) :
    lexOne (c :: r) = lexNumber (c :: r) := by
  have hop : OpFree c := opFree_of c (by
    simp only [Bool.or_eq_true, beq_iff_eq] at hc
    rcases hc with hc | rfl
    · simp [isDigitC_ident hc]
    · decide)
  simp [lexOne, lexSym_none c r hop, hc]

theorem quote_not_num {c : Char} (hq : (c == '\'' || c == '"') = true) : (isDigitC c || c == '.') = false := by
  simp only [Bool.or_eq_true, beq_iff_eq] at hq
  rcases hq with rfl | rfl <;> decide

theorem lexOne_string (c : Char) (r : List Char) (hq : (c == '\'' || c == '"') = true) :
    lexOne (c :: r) = match scanStrBody c false r with
      | some x => some (.lit (.str (String.ofList (c :: x.1))), x.2)
      | none => none := by
  have hop : OpFree c := opFree_of c (by
    simp only [Bool.or_eq_true, beq_iff_eq] at hq
    rcases hq with rfl | rfl <;> decide)
  simp only [lexOne, lexSym_none c r hop, quote_not_num hq, hq, Bool.false_eq_true, ↓reduceIte]
  rfl

theorem identStart_not_num {c : Char} (h : isIdentStart c = true) : (isDigitC c || c == '.') = false := by
  rw [identStart_not_digit h, Bool.false_or]
  cases hd : c == '.' with
  | false => rfl
  | true => rw [beq_iff_eq] at hd; subst hd; exact absurd h (by decide)

theorem identStart_not_quote {c : Char} (h : isIdentStart c = true) : (c == '\'' || c == '"') = false := by
  cases hq : (c == '\'' || c == '"') with
  | false => rfl
  | true =>
    simp only [Bool.or_eq_true, beq_iff_eq] at hq
    rcases hq with rfl | rfl <;> exact absurd h (by decide)

theorem lexOne_word (c : Char) (r : List Char) (hc : isIdentStart c = true) : lexOne (c :: r) = lexWord (c :: r) := by
  have hop : OpFree c := opFree_of c (by simp [isIdentChar, hc])
  simp [lexOne, lexSym_none c r hop, identStart_not_num hc, identStart_not_quote hc, hc]

/-- the alternative of `lexOne` that produced a token -/
theorem lexOne_inv (c : Char) (r : List Char) (x : Tok × List Char) (h : lexOne (c :: r) = some x) :
    (x.1.cls = .op ∧ lexSym (c :: r) = some x) ∨
    (x.1.cls = .num ∧ (isDigitC c || c == '.') = true ∧ lexNumber (c :: r) = some x) ∨
    (x.1.cls = .str ∧ (c == '\'' || c == '"') = true ∧
      ∃ y, scanStrBody c false r = some y ∧ x = (.lit (.str (String.ofList (c :: y.1))), y.2)) ∨
    (x.1.cls = .word ∧ isIdentStart c = true ∧ lexWord (c :: r) = some x) := by
  cases hs : lexSym (c :: r) with
  | some y =>
    have : lexOne (c :: r) = some y := by simp [lexOne, hs]
    rw [this] at h; cases h
    exact Or.inl ⟨lexSym_cls _ _ hs, rfl⟩
  | none =>
    by_cases hn : (isDigitC c || c == '.') = true
    · rw [lexOne_number c r hn] at h
      exact Or.inr (Or.inl ⟨lexNumber_cls _ _ h, hn, h⟩)
    · by_cases hq : (c == '\'' || c == '"') = true
      · rw [lexOne_string c r hq] at h
        cases hy : scanStrBody c false r with
        | none => simp [hy] at h
        | some y =>
          simp only [hy, Option.some.injEq] at h
          subst h
          exact Or.inr (Or.inr (Or.inl ⟨rfl, hq, y, rfl, rfl⟩))
      · by_cases hi : isIdentStart c = true
        · rw [lexOne_word c r hi] at h
          exact Or.inr (Or.inr (Or.inr ⟨lexWord_cls _ _ h, hi, h⟩))
        · simp [lexOne, hs, hn, hq, hi] at h

/-! ### a token followed by an admissible continuation -/

/-- the continuation does not change what the terminal of `t` matches -/
def Follow (t : Tok) (R : List Char) : Prop := ∀ c ∈ R.head?, t.canFollow c = true

theorem lexOne_of_lexSym (s : List Char) (x : Tok × List Char) (h : lexSym s = some x) : lexOne s = some x := by
  simp [lexOne, h]

/-- the two operator tables and `canFollow` agree: after a one-character operator no character may follow that would
    make a two-character operator of it -/
theorem canFollow_sym2 : ∀ p ∈ sym2Table, ∀ q ∈ tok1Table, q.1 = p.1.1 → q.2.canFollow p.1.2 = false := by decide +kernel

theorem lexSym_ext (c : Char) (r : List Char) (t : Tok) (h : lexSym (c :: r) = some (t, [])) (R : List Char) (hR : Follow t R) :
    lexSym (c :: r ++ R) = some (t, R) := by
  cases r with
  | nil =>
    have h1 : tok1 c = some t := by
      cases ht : tok1 c with
      | none => rw [lexSym, ht] at h; cases h
      | some u => rw [lexSym, ht] at h; cases h; rfl
    cases R with
    | nil => exact h
    | cons d R' =>
      have h2 : sym2 c d = none := by
        cases hs : sym2 c d with
        | none => rfl
        | some sy =>
          have := canFollow_sym2 _ (lookup_mem _ _ _ hs) _ (lookup_mem _ _ _ h1) rfl
          rw [hR d rfl] at this; cases this
      simp [lexSym, h1, h2]
  | cons d r' =>
    cases hs : sym2 c d with
    | some sy =>
      simp only [lexSym, hs, Option.some.injEq, Prod.mk.injEq] at h
      simp [lexSym, hs, h.1, h.2]
    | none =>
      cases ht : tok1 c <;> simp [lexSym, hs, ht] at h

theorem lexOne_ext_dot (R : List Char) (hR : Follow .dot R) : lexOne ('.' :: R) = some (.dot, R) := by
  rw [lexOne_number '.' R (by decide)]
  have hd : scanDigits isDigitC R = none := by
    cases R with
    | nil => rfl
    | cons c R' =>
      have : isDigitC c = false := by simpa [Tok.canFollow] using hR c rfl
      simp [scanDigits, this]
  have h0 : scanDigits isDigitC ('.' :: R) = none := by simp [scanDigits]; decide
  have hf : scanFraction ('.' :: R) = none := by simp [scanFraction, hd]
  have hp : scanPoint ('.' :: R) = none := by simp [scanPoint, h0, hf]
  have hr : scanReal ('.' :: R) = none := by simp [scanReal, scanRealExp, scanMantissa, hp, h0]
  have hi : scanInt ('.' :: R) = none := by
    simp [scanInt, scanPrefixed_ne, scanDecimal]; decide
  simp [lexNumber, hr, hi]

theorem lexNumber_int (s : List Char) (n : String) (rest : List Char)
    (h : lexNumber s = some (.lit (.int n), rest)) : ∃ y, scanInt s = some y ∧ y.2 = rest := by
  unfold lexNumber at h
  split at h
  · simp at h
  · split at h
    · rename_i y hy
      simp only [Option.some.injEq, Prod.mk.injEq] at h
      exact ⟨y, hy, h.2⟩
    · split at h <;> simp at h

theorem lexNumber_real (s : List Char) (n : String) (rest : List Char)
    (h : lexNumber s = some (.lit (.real n), rest)) : ∃ y, scanReal s = some y ∧ y.2 = rest := by
  unfold lexNumber at h
  split at h
  · rename_i y hy
    simp only [Option.some.injEq, Prod.mk.injEq] at h
    exact ⟨y, hy, h.2⟩
  · split at h
    · simp at h
    · split at h <;> simp at h

/-- a number literal: nothing that could extend a number may follow, and the text leaves no lone `e` behind -/
theorem follow_num {t : Tok} {s R : List Char} (hl : lexNumber s = some (t, [])) (ht : t ≠ .dot) (hR : Follow t R) :
    Stop qNum R ∧ ∀ x, scanMantissa s = some x → SignOk x.2 R := by
  have hq : ∀ c, (!isIdentChar c && c != '.') = true → qNum c = false := fun c h => by
    simp only [Bool.and_eq_true, Bool.not_eq_true', bne_iff_ne] at h
    simp [qNum, h.1, h.2]
  cases t with
  | lit l =>
    cases l with
    | int n =>
      obtain ⟨y, hy1, hy2⟩ := lexNumber_int _ _ _ hl
      exact ⟨fun c hc => hq c (hR c hc), int_signOk s y hy1 hy2 R⟩
    | real n =>
      obtain ⟨y, hy1, hy2⟩ := lexNumber_real _ _ _ hl
      exact ⟨fun c hc => hq c (hR c hc), real_signOk s y hy1 hy2 R⟩
    | _ => cases lexNumber_cls _ _ hl
  | dot => exact absurd rfl ht
  | _ => cases lexNumber_cls _ _ hl

/-- a name or `true` / `false`: no name character may follow -/
theorem follow_word {t : Tok} {s R : List Char} (hl : lexWord s = some (t, [])) (hR : Follow t R) : Stop isIdentChar R := by
  intro c hc
  have := hR c hc
  cases t with
  | lit l =>
    cases l with
    | bool b => simpa [Tok.canFollow] using this
    | _ => cases lexWord_cls _ _ hl
  | id n => simpa [Tok.canFollow] using this
  | _ => cases lexWord_cls _ _ hl

/-- **a well-formed token is read back from its text, whatever admissible continuation follows** -/
theorem lexOne_ext (t : Tok) (ht : t.ok = true) (R : List Char) (hR : Follow t R) : lexOne (t.text ++ R) = some (t, R) := by
  have h0 : lexOne t.text = some (t, []) := of_decide_eq_true ht
  cases htx : t.text with
  | nil => rw [htx] at h0; cases h0
  | cons c r =>
    rw [htx] at h0
    rcases lexOne_inv c r _ h0 with ⟨_, hl⟩ | ⟨_, hn, hl⟩ | ⟨_, hq, y, hy, hxy⟩ | ⟨_, hi, hl⟩
    · exact lexOne_of_lexSym _ _ (lexSym_ext c r t hl R hR)
    · by_cases hd : t = .dot
      · subst hd
        obtain ⟨rfl, rfl⟩ : c = '.' ∧ r = [] := by simpa [Tok.text] using htx.symm
        exact lexOne_ext_dot R hR
      · obtain ⟨hstop, hS⟩ := follow_num hl hd hR
        rw [List.cons_append, lexOne_number c (r ++ R) hn, ← List.cons_append, lexNumber_ext R hstop (c :: r) hS, hl]
        rfl
    · obtain ⟨rfl, hy2⟩ := Prod.mk.inj hxy
      rw [List.cons_append, lexOne_string c (r ++ R) hq, scanStrBody_ext c R r false y hy, ← hy2]
      rfl
    · rw [List.cons_append, lexOne_word c (r ++ R) hi, ← List.cons_append, lexWord_ext R (follow_word hl hR) (c :: r), hl]
      rfl

/-! ### blanks -/

theorem dropBlanks_blankRun (bs : List Bool) (s : List Char) : dropBlanks (blankRun bs ++ s) = dropBlanks s := by
  induction bs with
  | nil => rfl
  | cons b bs ih =>
    cases b <;> simpa [blankRun, dropBlanks, isBlank] using ih

theorem blankRun_head (bs : List Bool) (s : List Char) (c : Char) (hc : c ∈ (blankRun bs ++ s).head?) (hne : bs ≠ []) :
    isBlank c = true := by
  cases bs with
  | nil => exact absurd rfl hne
  | cons b bs =>
    cases b <;> simp [blankRun] at hc <;> subst hc <;> decide

theorem lexOne_blank (c : Char) (r : List Char) (hc : isBlank c = true) : lexOne (c :: r) = none := by
  have h : OpFree c ∧ (isDigitC c || c == '.') = false ∧ (c == '\'' || c == '"') = false ∧ isIdentStart c = false := by
    simp only [isBlank, Bool.or_eq_true, beq_iff_eq] at hc
    rcases hc with rfl | rfl <;> exact ⟨opFree_of_first _ (by decide) (by decide), by decide, by decide, by decide⟩
  simp [lexOne, lexSym_none c r h.1, h.2.1, h.2.2.1, h.2.2.2]

/-- the text of a well-formed token starts with a character that is no blank -/
theorem Tok.ok_text {t : Tok} (ht : t.ok = true) : ∃ c r, t.text = c :: r ∧ isBlank c = false := by
  have h0 : lexOne t.text = some (t, []) := by simpa [Tok.ok] using ht
  cases htx : t.text with
  | nil => rw [htx] at h0; simp [lexOne, lexSym] at h0
  | cons c r =>
    refine ⟨c, r, rfl, ?_⟩
    cases hb : isBlank c with
    | false => rfl
    | true => rw [htx, lexOne_blank c r hb] at h0; cases h0

theorem canFollow_blank (t : Tok) (c : Char) (hc : isBlank c = true) : t.canFollow c = true := by
  have h : isIdentChar c = false ∧ isDigitC c = false ∧ c ≠ '.' ∧ c ≠ '*' ∧ c ≠ '=' ∧ c ≠ '|' ∧ c ≠ '&' := by
    simp only [isBlank, Bool.or_eq_true, beq_iff_eq] at hc
    rcases hc with rfl | rfl <;> decide
  cases t with
  | lit l => cases l <;> simp [Tok.canFollow, h]
  | sym s => cases s <;> simp [Tok.canFollow, h]
  | _ => simp [Tok.canFollow, h]

theorem lexF_space (f : Nat) (s : List Char) : lexF f (' ' :: s) = lexF f s := by
  cases f with
  | zero => rfl
  | succ f => simp [lexF, dropBlanks, isBlank]

/-! ### the lexer inverts the renderer -/

/-- the glue is at most one space -/
theorem lexF_glue (σ : Spacing) (i : Nat) (t : Tok) (ts : List Tok) (f : Nat) (s : List Char) :
    lexF f (glue σ i t ts ++ s) = lexF f s := by
  cases ts with
  | nil => rfl
  | cons u us =>
    simp only [glue]
    split
    · exact lexF_space f s
    · rfl

/-- what the renderer puts behind the text of a token does not extend its terminal: a blank, or the first character of the
    next token where no blank is needed, or nothing -/
theorem follow_render (σ : Spacing) (i : Nat) (t : Tok) (ts : List Tok) (hok : ∀ u ∈ ts, u.ok = true) :
    Follow t (glue σ i t ts ++ renderFrom σ (i+1) ts) := by
  intro c hc
  by_cases hσ : σ (i+1) = []
  case neg =>
    -- blanks are asked for: no glue, and they come first
    have hg : glue σ i t ts = [] := by cases ts <;> simp [glue, hσ]
    rw [hg, List.nil_append] at hc
    cases ts with
    | nil => exact canFollow_blank t c (blankRun_head (σ (i+1)) [] c (by simpa [renderFrom] using hc) hσ)
    | cons u us =>
      rw [renderFrom, List.append_assoc, List.append_assoc] at hc
      exact canFollow_blank t c (blankRun_head (σ (i+1)) _ c hc hσ)
  cases ts with
  | nil => simp [glue, renderFrom, hσ, blankRun] at hc
  | cons u us =>
    obtain ⟨cu, ru, hux, _⟩ := Tok.ok_text (hok u List.mem_cons_self)
    by_cases hnb : needsBlank t u = true
    · obtain rfl : ' ' = c := by simpa [glue, hσ, hnb] using hc
      exact canFollow_blank t ' ' (by decide)
    · obtain rfl : cu = c := by simpa [glue, hσ, hnb, renderFrom, blankRun, hux] using hc
      simpa [needsBlank, hux] using hnb

theorem lexF_render (σ : Spacing) : ∀ (ts : List Tok) (i f : Nat), (∀ t ∈ ts, t.ok = true) →
    (renderFrom σ i ts).length + 1 ≤ f → lexF f (renderFrom σ i ts) = some ts := by
  intro ts
  induction ts with
  | nil =>
    intro i f _ hf
    obtain ⟨f', rfl⟩ : ∃ f', f = f' + 1 := ⟨f - 1, by omega⟩
    have := dropBlanks_blankRun (σ i) []
    simp only [List.append_nil] at this
    simp [renderFrom, lexF, this, dropBlanks]
  | cons t ts ih =>
    intro i f hok hf
    obtain ⟨f', rfl⟩ : ∃ f', f = f' + 1 := ⟨f - 1, by omega⟩
    have hok' : ∀ u ∈ ts, u.ok = true := fun u hu => hok u (List.mem_cons_of_mem _ hu)
    have ht := hok t List.mem_cons_self
    obtain ⟨c, r, htx, hcb⟩ := Tok.ok_text ht
    have hlex := lexOne_ext t ht _ (follow_render σ i t ts hok')
    have hrender : renderFrom σ i (t :: ts) = blankRun (σ i) ++ (c :: r ++ (glue σ i t ts ++ renderFrom σ (i+1) ts)) := by
      simp only [renderFrom, List.append_assoc, htx]
    have hlen : (renderFrom σ (i+1) ts).length + 1 ≤ f' := by
      rw [hrender] at hf
      simp only [List.length_append, List.length_cons] at hf
      omega
    rw [htx] at hlex
    rw [hrender, lexF, dropBlanks_blankRun]
    simp only [List.cons_append, dropBlanks, hcb, Bool.false_eq_true, ↓reduceIte] at hlex ⊢
    simp only [hlex, lexF_glue, ih (i+1) f' hok' hlen]

/-- **The lexer inverts the renderer**: whatever blanks are put between the tokens. -/
theorem lex_render (σ : Spacing) (ts : List Tok) (hok : ∀ t ∈ ts, t.ok = true) : lex (renderToks σ ts) = some ts :=
  lexF_render σ ts 0 _ hok (Nat.le_refl _)

end Ex
