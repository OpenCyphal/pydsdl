import Proofs.BlsLists
import Mathlib.Data.Fintype.Card
import Mathlib.Data.ZMod.Basic
/-! Sumset stabilisation in a finite commutative monoid and its consequences in `ZMod d`:
    the `equivalent_k` reductions of `RepetitionOperator.modulo` / `RangeRepetitionOperator.modulo`. -/
open scoped Pointwise
namespace Bls

section Stab
variable {G : Type*} [AddCommMonoid G] [DecidableEq G]

theorem nsmul_mono_succ (T : Finset G) (h0 : (0:G) ∈ T) (j : ℕ) : j • T ⊆ (j+1) • T := by
  rw [succ_nsmul]
  exact Finset.subset_add_left _ h0

theorem stable_succ (T : Finset G) (j : ℕ) (h : j • T = (j+1) • T) : (j+1) • T = (j+2) • T := by
  rw [succ_nsmul T (j+1), ← h, ← succ_nsmul, ← h]

theorem stable_forever (T : Finset G) (j : ℕ) (h : j • T = (j+1) • T) : ∀ m, j ≤ m → m • T = j • T := by
  intro m hm
  induction m, hm using Nat.le_induction with
  | base => rfl
  | succ m hm ih => rw [succ_nsmul, ih, ← succ_nsmul, ← h]

theorem stable_or_card [Fintype G] (T : Finset G) (h0 : (0:G) ∈ T) (j : ℕ) :
    j • T = (j+1) • T ∨ j + 1 ≤ (j • T).card := by
  induction j with
  | zero => right; simp
  | succ j ih =>
    by_cases hj : j • T = (j+1) • T
    · exact .inl (stable_succ T j hj)
    · have := ih.resolve_left hj
      have := Finset.card_lt_card (Finset.ssubset_iff_subset_ne.mpr ⟨nsmul_mono_succ T h0 j, hj⟩)
      exact .inr (by omega)

/-- In a finite commutative monoid the chain of sumsets `m • T` (with `0 ∈ T`) is constant from `|G| - 1` on. -/
theorem stabilise [Fintype G] (T : Finset G) (h0 : (0:G) ∈ T) (m : ℕ) (hm : Fintype.card G - 1 ≤ m) :
    m • T = (Fintype.card G - 1) • T := by
  have hpos : 0 < Fintype.card G := Fintype.card_pos_iff.mpr ⟨0⟩
  refine stable_forever T _ ((stable_or_card T h0 _).elim id fun h => ?_) m hm
  -- a sumset with `|G|` elements is everything, and so is the next one
  have huniv : (Fintype.card G - 1) • T = Finset.univ :=
    (Finset.card_eq_iff_eq_univ _).mp (le_antisymm (Finset.card_le_univ _) (by omega))
  exact le_antisymm (nsmul_mono_succ T h0 _) (huniv ▸ Finset.subset_univ _)
/-- `⋃_{j ≤ K} j • U = K • (U ∪ {0})` -/
theorem biUnion_nsmul (U : Finset G) (K : ℕ) :
    (Finset.range (K+1)).biUnion (fun j => j • U) = K • (insert 0 U) := by
  induction K with
  | zero => simp
  | succ K ih =>
    rw [succ_nsmul, ← ih]
    ext y
    simp only [Finset.mem_biUnion, Finset.mem_range, Finset.mem_add, Finset.mem_insert]
    constructor
    · rintro ⟨j, hj, hy⟩
      by_cases hjK : j < K + 1
      · exact ⟨y, ⟨j, hjK, hy⟩, 0, Or.inl rfl, by simp⟩
      · have : j = K + 1 := by omega
        subst this
        rw [succ_nsmul, Finset.mem_add] at hy
        obtain ⟨a, ha, b, hb, rfl⟩ := hy
        exact ⟨a, ⟨K, by omega, ha⟩, b, Or.inr hb, rfl⟩
    · rintro ⟨a, ⟨j, hj, ha⟩, b, hb, rfl⟩
      rcases hb with rfl | hb
      · exact ⟨j, by omega, by simpa using ha⟩
      · exact ⟨j + 1, by omega, by rw [succ_nsmul]; exact Finset.add_mem_add ha hb⟩

end Stab

section ZModFacts
variable {d : ℕ} [NeZero d]

/-- `RepetitionOperator.modulo`: `min(k, d + k % d)` copies give the same residues as `k` copies. -/
theorem nsmul_equivK (U : Finset (ZMod d)) (hU : U.Nonempty) (k : ℕ) : equivK k d • U = k • U := by
  unfold equivK
  rcases Nat.le_total k (d + k % d) with h | h
  · rw [Nat.min_eq_left h]
  · rw [Nat.min_eq_right h]
    obtain ⟨t, ht⟩ := hU
    -- translate so that 0 belongs to the set: `U = {t} + T` with `0 ∈ T`, hence `m • U = {m • t} + m • T`
    have h0 : (0 : ZMod d) ∈ {-t} + U := by
      simpa using Finset.add_mem_add (Finset.mem_singleton_self (-t)) ht
    have hsplit : ∀ m : ℕ, m • U = {m • t} + m • ({-t} + U) := fun m => by
      rw [← Finset.nsmul_singleton, ← nsmul_add, ← add_assoc, Finset.singleton_add_singleton, add_neg_cancel,
        Finset.singleton_zero, zero_add]
    have hd : 0 < d := Nat.pos_of_ne_zero (NeZero.ne d)
    have ht' : (d + k % d) • t = k • t := by
      rw [add_nsmul, ← Nat.cast_smul_eq_nsmul (ZMod d) d, ZMod.natCast_self, zero_smul, zero_add,
        ← Nat.cast_smul_eq_nsmul (ZMod d), ZMod.natCast_mod, Nat.cast_smul_eq_nsmul]
    rw [hsplit, hsplit k, ht', stabilise _ h0 _ (by rw [ZMod.card]; omega), stabilise _ h0 k (by rw [ZMod.card]; omega)]

/-- `RangeRepetitionOperator.modulo`: ranging over `0..min(k, d + k % d)` copies gives the same residues as `0..k`. -/
theorem biUnion_equivK (U : Finset (ZMod d)) (k : ℕ) :
    (Finset.range (equivK k d + 1)).biUnion (fun j => j • U) = (Finset.range (k + 1)).biUnion (fun j => j • U) := by
  rw [biUnion_nsmul, biUnion_nsmul]
  exact nsmul_equivK (insert 0 U) ⟨0, Finset.mem_insert_self _ _⟩ k

end ZModFacts

/-! Casting sets of naturals to `ZMod d` and back. -/

def castd (d : ℕ) (S : Finset ℕ) : Finset (ZMod d) := S.image (fun x : ℕ => (x : ZMod d))

theorem castd_add (d : ℕ) (A B : Finset ℕ) : castd d (A + B) = castd d A + castd d B :=
  Finset.image_add (Nat.castAddMonoidHom (ZMod d))

theorem castd_nsmul (d : ℕ) (A : Finset ℕ) (k : ℕ) : castd d (k • A) = k • castd d A :=
  Finset.image_nsmul (Nat.castAddMonoidHom (ZMod d)) A k

theorem castd_sum (d : ℕ) (l : List (Finset ℕ)) : castd d l.sum = (l.map (castd d)).sum :=
  map_list_sum (Finset.imageAddMonoidHom (Nat.castAddMonoidHom (ZMod d))) l

theorem castd_union (d : ℕ) (A B : Finset ℕ) : castd d (A ∪ B) = castd d A ∪ castd d B := by
  unfold castd; exact Finset.image_union _ _

theorem castd_biUnion (d : ℕ) {ι : Type*} [DecidableEq ι] (s : Finset ι) (f : ι → Finset ℕ) :
    castd d (s.biUnion f) = s.biUnion (fun i => castd d (f i)) := by
  unfold castd; rw [Finset.biUnion_image]

/-- Reducing modulo `d` first does not change the image in `ZMod d`. -/
theorem castd_image_mod (d : ℕ) (S : Finset ℕ) : castd d (S.image (· % d)) = castd d S := by
  unfold castd
  rw [Finset.image_image]
  exact Finset.image_congr fun x _ => ZMod.natCast_mod x d

theorem castd_map_mod {α : Type*} (d : ℕ) (f : α → ℕ) (l : List α) :
    castd d (l.map fun x => f x % d).toFinset = castd d (l.map f).toFinset := by
  have : (l.map fun x => f x % d) = (l.map f).map (· % d) := by rw [List.map_map]; rfl
  rw [this, toFinset_map, castd_image_mod]

/-- Padding the residues modulo `lcm(a, d)` gives the same residues modulo `d` as padding the set itself. -/
theorem castd_pad_mod_lcm (a d : ℕ) (ha : 1 ≤ a) (S : Finset ℕ) :
    castd d ((S.image (· % Nat.lcm a d)).image (padTo a)) = castd d (S.image (padTo a)) := by
  unfold castd
  rw [Finset.image_image, Finset.image_image, Finset.image_image]
  exact Finset.image_congr fun x _ => (ZMod.natCast_eq_natCast_iff' _ _ _).mpr (padTo_mod_lcm a d x ha)

/-- A list of residues `< d` is, as a set, recovered from its image in `ZMod d`. -/
theorem toFinset_eq_image_mod (d : ℕ) [NeZero d] (l : List ℕ) (S : Finset ℕ) (hlt : ∀ x ∈ l, x < d)
    (h : castd d l.toFinset = castd d S) : l.toFinset = S.image (· % d) := by
  have val : ∀ A : Finset ℕ, A.image (· % d) = (castd d A).image ZMod.val := fun A => by
    unfold castd
    rw [Finset.image_image]
    exact Finset.image_congr fun x _ => (ZMod.val_natCast d x).symm
  rw [val, ← h, ← val]
  ext x
  simp only [Finset.mem_image, List.mem_toFinset]
  constructor
  · intro hx; exact ⟨x, hx, Nat.mod_eq_of_lt (hlt x hx)⟩
  · rintro ⟨y, hy, rfl⟩; rwa [Nat.mod_eq_of_lt (hlt y hy)]

end Bls
