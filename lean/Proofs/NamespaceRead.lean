import Proofs.NamespaceC09
/-! Lemmas about the recursive reader that are shared by C09 / C10 / C19: `Ty` equality is lawful, what a stand-alone
    type says about its definition, and how one `read` extends the book-keeping state (cache, visited). -/
namespace Ns

/-! ### `Ty.beq` is equality -/

mutual
theorem Ty.beq_eq : ∀ (a b : Ty), Ty.beq a b = true → a = b
  | .mk i1 n1, .mk i2 n2, h => by
    simp only [Ty.beq, Bool.and_eq_true, beq_iff_eq] at h
    rw [h.1, Ty.beqs_eq n1 n2 h.2]
theorem Ty.beqs_eq : ∀ (a b : List Ty), Ty.beqs a b = true → a = b
  | [], [], _ => rfl
  | a :: as, b :: bs, h => by
    simp only [Ty.beqs, Bool.and_eq_true] at h
    rw [Ty.beq_eq a b h.1, Ty.beqs_eq as bs h.2]
  | [], _ :: _, h => by simp [Ty.beqs] at h
  | _ :: _, [], h => by simp [Ty.beqs] at h
end

mutual
theorem Ty.beq_refl : ∀ (a : Ty), Ty.beq a a = true
  | .mk i n => by simp only [Ty.beq, Bool.and_eq_true, beq_self_eq_true, true_and]; exact Ty.beqs_refl n
theorem Ty.beqs_refl : ∀ (a : List Ty), Ty.beqs a a = true
  | [] => rfl
  | a :: as => by simp only [Ty.beqs, Bool.and_eq_true]; exact ⟨Ty.beq_refl a, Ty.beqs_refl as⟩
end

instance : LawfulBEq Ty where
  eq_of_beq {a b} h := Ty.beq_eq a b h
  rfl {a} := Ty.beq_refl a

instance : DecidableEq Ty := fun a b =>
  if h : Ty.beq a b = true then isTrue (Ty.beq_eq a b h)
  else isFalse (fun e => h (e ▸ Ty.beq_refl a))

/-! ### what a type says about the definition it was built from -/

theorem Den.info {au : Bool} {Lb : List Def} {t : Ty} {d : Def} (h : Den au Lb t d) :
    t.info.name = d.name ∧ t.info.major = d.major ∧ t.info.minor = d.minor ∧ t.info.fpid = d.fpid ∧
      t.info.path = d.path ∧ t.info.root = d.root := by
  cases t with
  | mk info nested =>
    simp only [Den] at h
    obtain ⟨_, _, _, _, _, _, ha⟩ := h
    obtain ⟨_, _, hf⟩ := assemble_ok ha
    rw [finalize_ok hf]
    exact ⟨rfl, rfl, rfl, rfl, rfl, rfl⟩

theorem Den.key {au : Bool} {Lb : List Def} {t : Ty} {d : Def} (h : Den au Lb t d) : t.key = d.key := by
  obtain ⟨h1, h2, h3, _⟩ := h.info
  simp [Ty.key, TyInfo.key, Def.key, h1, h2, h3]

theorem RefsTo.retgt {Lb : List Def} {d : Def} (b : Bool) : ∀ {stmts : List Stmt} {xs : List Def},
    RefsTo Lb d stmts xs → RefsTo Lb { d with tgt := b } stmts xs
  | [], _, h => h
  | .ref r :: rest, _, h => by
    simp only [RefsTo] at h ⊢
    obtain ⟨x, xs', e, hx, h'⟩ := h
    exact ⟨x, xs', e, hx, RefsTo.retgt b h'⟩
  | .prim _ :: rest, _, h => by simp only [RefsTo] at h ⊢; exact RefsTo.retgt b h
  | .print _ :: rest, _, h => by simp only [RefsTo] at h ⊢; exact RefsTo.retgt b h
  | .bad :: rest, _, h => by simp only [RefsTo] at h ⊢; exact RefsTo.retgt b h

theorem assemble_retgt (au : Bool) (d : Def) (b : Bool) (sh1 : List (Option Nat)) (n1 : List Ty)
    (resp : Option (Mode × List (Option Nat) × List Ty)) :
    assemble au { d with tgt := b } sh1 n1 resp = assemble au d sh1 n1 resp := by
  cases resp <;> rfl

/-- the flag that tells target objects from lookup objects plays no role in the type -/
theorem Den.retgt {au : Bool} {Lb : List Def} {t : Ty} {d : Def} (b : Bool) (h : Den au Lb t d) :
    Den au Lb t { d with tgt := b } := by
  cases t with
  | mk info nested =>
    simp only [Den] at h ⊢
    obtain ⟨hg, xs1, xs2, h1, h2, h3, h4⟩ := h
    refine ⟨hg, xs1, xs2, h1.retgt b, ?_, h3, ?_⟩
    · cases hr : d.text.resp with
      | none => simp only [hr] at h2 ⊢; exact h2
      | some rs => simp only [hr] at h2 ⊢; exact h2.retgt b
    · rw [assemble_retgt]; exact h4

/-! ### how one `read` extends the state -/

def okB {α : Type} : Except Err α → Bool
  | .ok _ => true
  | .error _ => false

/-- `Ext L st st' k`: `st'` is `st` after some reads against (sublists of) `L`: the cache and the list of visited
    definitions only grow, every newly visited definition is a member of `L`, every nested type of a newly cached type
    is itself cached for a visited definition, and - when `k`, i.e. the reads succeeded - every newly visited definition
    is cached. -/
def Ext (L : List Def) (st st' : St) (k : Bool) : Prop :=
  ∃ c v, st'.cache = c ++ st.cache ∧ st'.visited = st.visited ++ v ∧ (∀ x ∈ v, x ∈ L) ∧
    (∀ x t, (x, t) ∈ c → ∀ n ∈ t.nested, ∃ x' ∈ st'.visited, (x', n) ∈ st'.cache) ∧
    (k = true → ∀ x ∈ v, ∃ t, (x, t) ∈ st'.cache)

theorem Ext.refl (L : List Def) (st : St) (k : Bool) : Ext L st st k :=
  ⟨[], [], by simp, by simp, by simp, by simp, by simp⟩

theorem Ext.weaken {L : List Def} {a b : St} {k : Bool} (h : Ext L a b k) : Ext L a b false := by
  obtain ⟨c, v, h1, h2, h3, h4, _⟩ := h
  exact ⟨c, v, h1, h2, h3, h4, by simp⟩

theorem Ext.mono {L L' : List Def} {a b : St} {k : Bool} (hL : ∀ x ∈ L, x ∈ L') (h : Ext L a b k) : Ext L' a b k := by
  obtain ⟨c, v, h1, h2, h3, h4, h5⟩ := h
  exact ⟨c, v, h1, h2, fun x hx => hL x (h3 x hx), h4, h5⟩

theorem Ext.of_eq {L : List Def} {a a' b : St} {k : Bool} (hc : a.cache = a'.cache) (hv : a.visited = a'.visited)
    (h : Ext L a b k) : Ext L a' b k := by
  obtain ⟨c, v, h1, h2, h3, h4, h5⟩ := h
  exact ⟨c, v, by rw [← hc]; exact h1, by rw [← hv]; exact h2, h3, h4, h5⟩

theorem Ext.cache_sub {L : List Def} {a b : St} {k : Bool} (h : Ext L a b k) {p : Def × Ty} (hp : p ∈ a.cache) : p ∈ b.cache := by
  obtain ⟨c, v, h1, _⟩ := h
  rw [h1]; exact List.mem_append_right _ hp

theorem Ext.visited_sub {L : List Def} {a b : St} {k : Bool} (h : Ext L a b k) {x : Def} (hx : x ∈ a.visited) : x ∈ b.visited := by
  obtain ⟨c, v, _, h2, _⟩ := h
  rw [h2]; exact List.mem_append_left _ hx

theorem Ext.trans {L : List Def} {a b c : St} {k1 k2 : Bool} (h1 : Ext L a b k1) (h2 : Ext L b c k2) : Ext L a c (k1 && k2) := by
  have hcs := fun p (hp : p ∈ b.cache) => h2.cache_sub hp
  have hvs := fun x (hx : x ∈ b.visited) => h2.visited_sub hx
  obtain ⟨c1, v1, e1, f1, m1, g1, s1⟩ := h1
  obtain ⟨c2, v2, e2, f2, m2, g2, s2⟩ := h2
  refine ⟨c2 ++ c1, v1 ++ v2, by rw [e2, e1, List.append_assoc], by rw [f2, f1, List.append_assoc], ?_, ?_, ?_⟩
  · intro x hx
    rcases List.mem_append.mp hx with hx | hx
    · exact m1 x hx
    · exact m2 x hx
  · intro x t hxt n hn
    rcases List.mem_append.mp hxt with hxt | hxt
    · exact g2 x t hxt n hn
    · obtain ⟨x', hx', hc'⟩ := g1 x t hxt n hn
      exact ⟨x', hvs x' hx', hcs _ hc'⟩
  · intro hk x hx
    simp only [Bool.and_eq_true] at hk
    rcases List.mem_append.mp hx with hx | hx
    · obtain ⟨t, ht⟩ := s1 hk.1 x hx
      exact ⟨t, hcs _ ht⟩
    · exact s2 hk.2 x hx

/-- the step `visited := visited ++ [x]` followed by reads after which `x` is cached -/
theorem Ext.visit {L : List Def} {st st1 : St} {k : Bool} {x : Def} (hx : x ∈ L)
    (h : Ext L { st with visited := st.visited ++ [x] } st1 k) (hk : k = true → ∃ t, (x, t) ∈ st1.cache) : Ext L st st1 k := by
  obtain ⟨c, v, h1, h2, h3, h4, h5⟩ := h
  refine ⟨c, x :: v, h1, by rw [h2]; simp, ?_, h4, ?_⟩
  · intro y hy
    rcases List.mem_cons.mp hy with rfl | hy
    · exact hx
    · exact h3 y hy
  · intro hk' y hy
    rcases List.mem_cons.mp hy with rfl | hy
    · exact hk hk'
    · exact h5 hk' y hy

/-- the step `cache := (d, T) :: cache` -/
theorem Ext.cacheAdd {L : List Def} {st st' : St} {d : Def} {T : Ty} (h : Ext L st st' true)
    (hn : ∀ n ∈ T.nested, ∃ x' ∈ st'.visited, (x', n) ∈ st'.cache) :
    Ext L st { st' with cache := (d, T) :: st'.cache } true := by
  obtain ⟨c, v, h1, h2, h3, h4, h5⟩ := h
  refine ⟨(d, T) :: c, v, by simp [h1], h2, h3, ?_, ?_⟩
  · intro x t hxt n hn'
    rcases List.mem_cons.mp hxt with e | hxt
    · cases e
      obtain ⟨x', hx', hc'⟩ := hn n hn'
      exact ⟨x', hx', List.mem_cons_of_mem _ hc'⟩
    · obtain ⟨x', hx', hc'⟩ := h4 x t hxt n hn'
      exact ⟨x', hx', List.mem_cons_of_mem _ hc'⟩
  · intro hk x hx
    obtain ⟨t, ht⟩ := h5 hk x hx
    exact ⟨t, List.mem_cons_of_mem _ ht⟩

/-- what a reader of dependencies must satisfy -/
def RdSpec (L : List Def) (x : Def) (s : St) (out : Res Ty) : Prop :=
  Ext L s out.2 (okB out.1) ∧ ∀ t, out.1 = .ok t → (x, t) ∈ out.2.cache

/-- every collected nested type is cached for a visited definition -/
def NestedCached (ns : List Ty) (st : St) : Prop := ∀ n ∈ ns, ∃ x' ∈ st.visited, (x', n) ∈ st.cache

theorem NestedCached.ext {L : List Def} {ns : List Ty} {a b : St} {k : Bool} (h : NestedCached ns a) (he : Ext L a b k) :
    NestedCached ns b := by
  intro n hn
  obtain ⟨x', hx', hc'⟩ := h n hn
  exact ⟨x', he.visited_sub hx', he.cache_sub hc'⟩

theorem runStmts_ext {L : List Def} (d : Def) (rd : (x : Def) → x ∈ L → St → Res Ty)
    (hrd : ∀ x hx s, RdSpec L x s (rd x hx s)) :
    ∀ (stmts : List Stmt) (st : St),
      Ext L st (runStmts L d rd stmts st).2 (okB (runStmts L d rd stmts st).1) ∧
      ∀ sh ns, (runStmts L d rd stmts st).1 = .ok (sh, ns) → NestedCached ns (runStmts L d rd stmts st).2 := by
  intro stmts
  induction stmts with
  | nil =>
    intro st
    simp only [runStmts]
    exact ⟨Ext.refl _ _ _, fun sh ns h => by cases h; intro n hn; cases hn⟩
  | cons s rest ih =>
    intro st
    cases s with
    | prim b =>
      simp only [runStmts]
      have := ih st
      split
      · rename_i sh ns st' heq
        rw [heq] at this
        exact ⟨this.1, fun sh' ns' h => by cases h; exact this.2 sh ns rfl⟩
      · rename_i e st' heq
        rw [heq] at this
        exact ⟨this.1, fun _ _ h => by cases h⟩
    | print n =>
      simp only [runStmts]
      have := ih { st with prints := st.prints ++ [n] }
      exact ⟨this.1.of_eq rfl rfl, this.2⟩
    | bad =>
      simp only [runStmts]
      exact ⟨Ext.refl _ _ _, fun _ _ h => by cases h⟩
    | ref r =>
      simp only [runStmts]
      split
      · exact ⟨Ext.refl _ _ _, fun _ _ h => by cases h⟩
      · rename_i x hres
        have hsp := hrd x (resolve_mem hres) { st with visited := st.visited ++ [x] }
        split
        · rename_i e st1 heq
          rw [heq] at hsp
          exact ⟨Ext.visit (resolve_mem hres) hsp.1 (by simp [okB]), fun _ _ h => by cases h⟩
        · rename_i t st1 heq
          rw [heq] at hsp
          have hv : Ext L st st1 true := Ext.visit (resolve_mem hres) hsp.1 (fun _ => ⟨t, hsp.2 t rfl⟩)
          split
          · exact ⟨hv.weaken, fun _ _ h => by cases h⟩
          · have := ih st1
            split
            · rename_i sh ns st2 heq2
              rw [heq2] at this
              refine ⟨by simpa [okB] using hv.trans this.1, fun sh' ns' h => ?_⟩
              cases h
              intro n hn
              rcases List.mem_cons.mp hn with rfl | hn
              · have hx1 : x ∈ st1.visited := hsp.1.visited_sub (by simp)
                exact ⟨x, this.1.visited_sub hx1, this.1.cache_sub (hsp.2 _ rfl)⟩
              · exact this.2 sh ns rfl n hn
            · rename_i e st2 heq2
              rw [heq2] at this
              exact ⟨by simpa using hv.trans this.1, fun _ _ h => by cases h⟩

theorem readBody_ext (au : Bool) {L : List Def} (d : Def) (rd : (x : Def) → x ∈ L → St → Res Ty)
    (hrd : ∀ x hx s, RdSpec L x s (rd x hx s)) (st : St) :
    Ext L st (readBody au L d rd st).2 (okB (readBody au L d rd st).1) ∧
      ∀ t, (readBody au L d rd st).1 = .ok t → NestedCached t.nested (readBody au L d rd st).2 := by
  unfold readBody
  split
  · exact ⟨Ext.refl _ _ _, fun _ h => by cases h⟩
  · have h1 := runStmts_ext d rd hrd d.text.req.stmts st
    split
    · rename_i e st1 heq
      rw [heq] at h1
      exact ⟨h1.1, fun _ h => by cases h⟩
    · rename_i sh1 n1 st1 heq
      rw [heq] at h1
      have hn1 := h1.2 sh1 n1 rfl
      split
      · refine ⟨?_, fun t ht => ?_⟩
        · cases assemble au d sh1 n1 none
          · exact h1.1.weaken
          · exact h1.1
        · simp only at ht
          rw [(assemble_nested ht).trans (List.append_nil _)]; exact hn1
      · rename_i rs hresp
        have h2 := runStmts_ext d rd hrd rs.stmts st1
        split
        · rename_i e st2 heq2
          rw [heq2] at h2
          exact ⟨by simpa [okB] using h1.1.trans h2.1, fun _ h => by cases h⟩
        · rename_i sh2 n2 st2 heq2
          rw [heq2] at h2
          have h12 : Ext L st st2 true := by simpa [okB] using h1.1.trans h2.1
          refine ⟨?_, fun t ht => ?_⟩
          · cases assemble au d sh1 n1 (some (rs.mode, sh2, n2))
            · exact h12.weaken
            · exact h12
          · simp only at ht
            rw [show t.nested = n1 ++ n2 from assemble_nested ht]
            intro n hn'
            rcases List.mem_append.mp hn' with hn' | hn'
            · exact (hn1.ext h2.1) n hn'
            · exact h2.2 sh2 n2 rfl n hn'

theorem dropKey_sub {L : List Def} {d x : Def} (h : x ∈ dropKey L d) : x ∈ L := (List.mem_filter.mp h).1

/-- One `read`: the state is extended as described by `Ext`; on success the result is in the cache. -/
theorem readObj_ext (au : Bool) (L : List Def) (d : Def) (st : St) : RdSpec L d st (readObj au L d st) := by
  induction L, d, st using readObj.induct au with
  | case1 L d st t ht =>
    rw [readObj]; simp only [ht]
    exact ⟨Ext.refl _ _ _, fun t' h => by cases h; exact lookup_mem ht⟩
  | case2 L d st hn t st' hb ih =>
    have hbody := readBody_ext au d (fun x hx s => readObj au (dropKey L d) x s) (fun x hx s => ih x hx s) st
    rw [readObj]; simp only [hn, hb]
    rw [hb] at hbody
    refine ⟨?_, fun t' h => by cases h; simp⟩
    exact Ext.cacheAdd (hbody.1.mono fun x hx => dropKey_sub hx) (hbody.2 t rfl)
  | case3 L d st hn e st' hb ih =>
    have hbody := readBody_ext au d (fun x hx s => readObj au (dropKey L d) x s) (fun x hx s => ih x hx s) st
    rw [readObj]; simp only [hn, hb]
    rw [hb] at hbody
    exact ⟨hbody.1.mono fun x hx => dropKey_sub hx, fun t' h => by cases h⟩

/-! ### everything a successful read visits is nested in its result -/

/-- `t` is one of `roots` or nested, at some depth, in one of them -/
inductive NestReach (roots : List Ty) : Ty → Prop where
  | root {y : Ty} : y ∈ roots → NestReach roots y
  | step {y n : Ty} : NestReach roots y → n ∈ y.nested → NestReach roots n

theorem NestReach.mono {r r' : List Ty} {t : Ty} (h : NestReach r t) (hs : ∀ y ∈ r, NestReach r' y) : NestReach r' t := by
  induction h with
  | root hy => exact hs _ hy
  | step _ hn ih => exact NestReach.step ih hn

theorem NestReach.of_nested {T t : Ty} {r : List Ty} (hT : NestReach r T) (h : NestReach T.nested t) : NestReach r t :=
  h.mono fun _ hy => NestReach.step hT hy

/-- on success every newly visited definition is cached with a type nested below the result -/
def ReachSpec (s : St) (out : Res Ty) : Prop :=
  ∀ T st', out = (.ok T, st') → ∀ y ∈ st'.visited, y ∈ s.visited ∨ ∃ t, (y, t) ∈ st'.cache ∧ NestReach T.nested t

theorem runStmts_reach {L : List Def} (d : Def) (rd : (x : Def) → x ∈ L → St → Res Ty)
    (hrd : ∀ x hx s, RdSpec L x s (rd x hx s)) (hrr : ∀ x hx s, ReachSpec s (rd x hx s)) :
    ∀ (stmts : List Stmt) (st : St) sh ns st', runStmts L d rd stmts st = (.ok (sh, ns), st') →
      ∀ y ∈ st'.visited, y ∈ st.visited ∨ ∃ t, (y, t) ∈ st'.cache ∧ NestReach ns t := by
  intro stmts
  induction stmts with
  | nil =>
    intro st sh ns st' h y hy
    simp only [runStmts] at h
    cases h
    exact Or.inl hy
  | cons s rest ih =>
    intro st sh ns st' h
    cases s with
    | prim b =>
      simp only [runStmts] at h
      split at h
      · rename_i sh0 ns0 st0 heq
        cases h
        exact ih st _ _ _ heq
      · cases h
    | print n =>
      simp only [runStmts] at h
      exact ih { st with prints := st.prints ++ [n] } sh ns st' h
    | bad => simp only [runStmts] at h; cases h
    | ref r =>
      simp only [runStmts] at h
      split at h
      · cases h
      · rename_i x hres
        have hsp := hrd x (resolve_mem hres) { st with visited := st.visited ++ [x] }
        have hrs := hrr x (resolve_mem hres) { st with visited := st.visited ++ [x] }
        split at h
        · cases h
        · rename_i t st1 heq
          rw [heq] at hsp
          split at h
          · cases h
          · have hex := runStmts_ext d rd hrd rest st1
            split at h
            · rename_i sh0 ns0 st2 heq2
              cases h
              rw [heq2] at hex
              have h2 := ih st1 _ _ _ heq2
              intro y hy
              rcases h2 y hy with h1 | ⟨t', hc', hr'⟩
              · rcases hrs t st1 heq y h1 with h0 | ⟨t', hc', hr'⟩
                · simp only [List.mem_append, List.mem_singleton] at h0
                  rcases h0 with h0 | rfl
                  · exact Or.inl h0
                  · exact Or.inr ⟨t, hex.1.cache_sub (hsp.2 t rfl), NestReach.root (by simp)⟩
                · exact Or.inr ⟨t', hex.1.cache_sub hc', NestReach.of_nested (NestReach.root (by simp)) hr'⟩
              · exact Or.inr ⟨t', hc', hr'.mono fun z hz => NestReach.root (List.mem_cons_of_mem _ hz)⟩
            · cases h

theorem readBody_reach (au : Bool) {L : List Def} (d : Def) (rd : (x : Def) → x ∈ L → St → Res Ty)
    (hrd : ∀ x hx s, RdSpec L x s (rd x hx s)) (hrr : ∀ x hx s, ReachSpec s (rd x hx s)) (st : St) :
    ReachSpec st (readBody au L d rd st) := by
  intro T st' hT
  unfold readBody at hT
  split at hT
  · cases hT
  · split at hT
    · cases hT
    · rename_i sh1 n1 st1 heq
      have h1 := runStmts_reach d rd hrd hrr d.text.req.stmts st _ _ _ heq
      split at hT
      · rename_i hresp
        injection hT with hT1 hT2
        subst hT2
        rw [(assemble_nested hT1).trans (List.append_nil _)]; exact h1
      · rename_i rs hresp
        have hex := runStmts_ext d rd hrd rs.stmts st1
        split at hT
        · cases hT
        · rename_i sh2 n2 st2 heq2
          have h2 := runStmts_reach d rd hrd hrr rs.stmts st1 _ _ _ heq2
          rw [heq2] at hex
          injection hT with hT1 hT2
          subst hT2
          rw [show T.nested = n1 ++ n2 from assemble_nested hT1]
          intro y hy
          rcases h2 y hy with h0 | ⟨t', hc', hr'⟩
          · rcases h1 y h0 with h00 | ⟨t', hc', hr'⟩
            · exact Or.inl h00
            · exact Or.inr ⟨t', hex.1.cache_sub hc', hr'.mono fun z hz => NestReach.root (List.mem_append_left _ hz)⟩
          · exact Or.inr ⟨t', hc', hr'.mono fun z hz => NestReach.root (List.mem_append_right _ hz)⟩

theorem readObj_reach (au : Bool) (L : List Def) (d : Def) (st : St) : ReachSpec st (readObj au L d st) := by
  induction L, d, st using readObj.induct au with
  | case1 L d st t ht =>
    rw [readObj]; simp only [ht]
    intro T st' h y hy
    cases h
    exact Or.inl hy
  | case2 L d st hn t st' hb ih =>
    have hbody := readBody_reach au d (fun x hx s => readObj au (dropKey L d) x s)
      (fun x hx s => (readObj_ext au (dropKey L d) x s)) (fun x hx s => ih x hx s) st
    rw [readObj]; simp only [hn, hb]
    intro T st'' hT y hy
    cases hT
    rcases hbody t st' hb y hy with h0 | ⟨t', hc', hr'⟩
    · exact Or.inl h0
    · exact Or.inr ⟨t', List.mem_cons_of_mem _ hc', hr'⟩
  | case3 L d st hn e st' hb ih =>
    rw [readObj]; simp only [hn, hb]
    intro T st'' hT; cases hT

end Ns
