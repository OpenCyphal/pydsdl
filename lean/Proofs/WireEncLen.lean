import Proofs.WireLen
/-! The encoder depends on the offset only modulo 8, and the length of every encoding of a valid value is an
    element of the length set of its type. -/
namespace Wire

theorem encRep_congr {f : Val → Nat → List Bool} (hf : ∀ v o o', o % 8 = o' % 8 → f v o = f v o') :
    ∀ (vs : List Val) (o o' : Nat), o % 8 = o' % 8 → encRep f vs o = encRep f vs o'
  | [], _, _, _ => rfl
  | v :: vs, o, o', h => by
      simp only [encRep]
      rw [hf v o o' h, encRep_congr hf vs _ _ (add_mod_congr (f v o').length h)]

theorem padTail_congr (b : List Bool) {o o' : Nat} (h : o % 8 = o' % 8) : padTail o b = padTail o' b := by
  unfold padTail
  rw [padLen_congr _ _ 8 (add_mod_congr b.length h)]

theorem enc_prim_congr {t : Ty} (hp : t.isPrim = true) (v : Val) (o o' : Nat) : enc t v o = enc t v o' := by
  cases t <;> cases hp <;> cases v <;> rfl

theorem wrapDelim_congr (m : Mode) {body : Nat → List Bool} {o o' : Nat} (h : body o = body o') :
    wrapDelim m o body = wrapDelim m o' body := by
  cases m
  · exact h
  · rfl

mutual
theorem enc_congr : ∀ (t : Ty) (v : Val) (o o' : Nat), o % 8 = o' % 8 → enc t v o = enc t v o'
  | .bool | .uint _ _ | .sint _ _ | .float _ _ | .byte | .utf8 | .void _ => fun v o o' _ =>
      enc_prim_congr rfl v o o'
  | .farr e cap => fun v o o' h => by
      cases v <;> try rfl
      exact encRep_congr (enc_congr e) _ o o' h
  | .varr e cap => fun v o o' h => by
      cases v <;> try rfl
      exact congrArg (_ ++ ·) (encRep_congr (enc_congr e) _ _ _ (add_mod_congr _ h))
  | .struct fs m => fun v o o' h => by
      cases v <;> try rfl
      rw [enc_struct, enc_struct]
      refine wrapDelim_congr m ?_
      simp only [enc, wrapDelim]
      rw [encFields_congr fs _ o o' h, padTail_congr _ h]
  | .union fs m => fun v o o' h => by
      cases v <;> try rfl
      rw [enc_union, enc_union]
      refine wrapDelim_congr m ?_
      simp only [enc, wrapDelim]
      rw [encVariant_congr fs _ _ _ _ (add_mod_congr _ h), padTail_congr _ h]
theorem encFields_congr : ∀ (ts : List Ty) (vs : List Val) (o o' : Nat), o % 8 = o' % 8 →
    encFields ts vs o = encFields ts vs o'
  | [] => fun _ _ _ _ => rfl
  | t :: ts => fun vs o o' h => by
      cases vs <;> try rfl
      simp only [encFields]
      rw [padLen_congr o o' _ (mod_align_of_mod8 t h), enc_congr t _ _ _ (add_mod_congr _ h),
        encFields_congr ts _ _ _ (add_mod_congr _ (add_mod_congr _ h))]
theorem encVariant_congr : ∀ (ts : List Ty) (n : Nat) (v : Val) (o o' : Nat), o % 8 = o' % 8 →
    encVariant ts n v o = encVariant ts n v o'
  | [], _ => fun _ _ _ _ => rfl
  | t :: _, 0 => enc_congr t
  | _ :: ts, n+1 => encVariant_congr ts n
end

/-! ### lengths -/

theorem encRep_len {f : Val → Nat → List Bool} {p : Nat → Prop} {a : Nat}
    (hp : ∀ x, p x → x % a = 0) :
    ∀ (vs : List Val) (o : Nat), (∀ v ∈ vs, ∀ o, o % a = 0 → p (f v o).length) → o % a = 0 →
      RepLen p vs.length (encRep f vs o).length
  | [] => fun _ _ _ => by simp [encRep, RepLen]
  | v :: vs => fun o hf ho => by
      simp only [encRep, List.length_cons, List.length_append, RepLen]
      have h1 := hf v (List.mem_cons_self ..) o ho
      exact ⟨_, _, h1, encRep_len hp vs _ (fun w hw => hf w (List.mem_cons_of_mem _ hw))
        (add_mod_zero ho (hp _ h1)), rfl⟩

theorem padTail_length (o : Nat) (b : List Bool) : (padTail o b).length = b.length + padLen (o + b.length) 8 := by
  simp [padTail]

theorem padLen_add_of_mod8 {o : Nat} (x a : Nat) (ha : a = 1 ∨ a = 8) (h : o % 8 = 0) :
    padLen (o + x) a = padLen x a := by
  apply padLen_congr
  rcases ha with rfl | rfl
  · simp [Nat.mod_one]
  · rw [Nat.add_mod, h, Nat.zero_add, Nat.mod_mod]

theorem wrapDelim_delimited_length (x o : Nat) (body : Nat → List Bool) :
    (wrapDelim (.delimited x) o body).length = headerBits + (body 0).length := by
  simp [wrapDelim]

mutual
theorem enc_len : ∀ (t : Ty) (v : Val) (o : Nat), t.wf = true → valid t v = true → o % t.align = 0 →
    HasLen t (enc t v o).length
  | .bool | .uint _ _ | .sint _ _ | .float _ _ | .byte | .utf8 | .void _ => fun v o hw hv _ => by
      obtain ⟨b, hb, _, he⟩ := enc_prim rfl hw hv
      rw [he o, hb]
      exact (hasLen_prim rfl).mpr rfl
  | .farr e cap => fun v o hw hv ho => by
      obtain ⟨vs, rfl, rfl, hvs⟩ := valid_farr.mp hv
      have hwe := (wf_farr.mp hw).1
      exact encRep_len (fun x => hasLen_mod e x hwe) vs o (fun w hw' o' => enc_len e w o' hwe (hvs w hw')) ho
  | .varr e cap => fun v o hw hv ho => by
      obtain ⟨vs, rfl, hl, hvs, _⟩ := valid_varr.mp hv
      have hwe := (wf_varr.mp hw).1
      simp only [enc, HasLen, List.length_append, natBits_length]
      exact ⟨vs.length, _, hl, encRep_len (fun x => hasLen_mod e x hwe) vs _
        (fun w hw' o' => enc_len e w o' hwe (hvs w hw')) (add_mod_zero ho (mod_align_zero e (lenBits_mod8 cap))), rfl⟩
  | .struct fs m => fun v o hw hv ho => by
      obtain ⟨vs, rfl, hvs⟩ := valid_struct.mp hv
      have hs : ∀ o, o % 8 = 0 → HasLen (.struct fs .sealed) (enc (.struct fs .sealed) (.recd vs) o).length := by
        intro o ho
        simp only [enc, wrapDelim, HasLen, padTail_length]
        exact ⟨_, encFields_len fs vs o 0 (wf_struct.mp hw).1 hvs ho, by
          rw [Nat.zero_add, Nat.add_zero, padLen_add_of_mod8 _ 8 (Or.inr rfl) ho]⟩
      rw [enc_struct]
      cases m with
      | sealed => exact hs o ho
      | delimited x =>
        rw [wrapDelim_delimited_length]
        exact hasLen_of_inner (t := .struct fs (.delimited x)) rfl hw (hs 0 rfl)
  | .union fs m => fun v o hw hv ho => by
      obtain ⟨tag, w, rfl, hvs⟩ := valid_union.mp hv
      have hs : ∀ o, o % 8 = 0 → HasLen (.union fs .sealed) (enc (.union fs .sealed) (.var tag w) o).length := by
        intro o ho
        simp only [enc, wrapDelim, HasLen, padTail_length, List.length_append, natBits_length]
        exact ⟨_, encVariant_len fs tag w _ (wf_union.mp hw).1 hvs (add_mod_zero ho (tagBits_mod8 _)), by
          rw [padLen_add_of_mod8 _ 8 (Or.inr rfl) ho]⟩
      rw [enc_union]
      cases m with
      | sealed => exact hs o ho
      | delimited x =>
        rw [wrapDelim_delimited_length]
        exact hasLen_of_inner (t := .union fs (.delimited x)) rfl hw (hs 0 rfl)
theorem encFields_len : ∀ (ts : List Ty) (vs : List Val) (o acc : Nat), wfFields ts = true →
    validFields ts vs = true → o % 8 = 0 →
    FieldsLen ts acc (acc + (encFields ts vs (o + acc)).length)
  | [] => fun vs o acc _ hv _ => by
      rw [validFields_nil.mp hv]
      rfl
  | t :: ts => fun vs o acc hw hv ho => by
      obtain ⟨v, vs, rfl, hvt, hvs⟩ := validFields_cons.mp hv
      obtain ⟨hwt, _, hwts⟩ := wfFields_cons.mp hw
      have hp : padLen (o + acc) t.align = padLen acc t.align := padLen_add_of_mod8 _ _ (align_cases t) ho
      simp only [encFields, FieldsLen, List.length_append, zeros_length, hp]
      refine ⟨_, enc_len t v _ hwt hvt (hp ▸ padLen_dvd (o + acc) t.align (align_pos t)), ?_⟩
      have := encFields_len ts vs o (acc + padLen acc t.align + (enc t v (o + acc + padLen acc t.align)).length)
        hwts hvs ho
      simpa only [Nat.add_assoc] using this
theorem encVariant_len : ∀ (ts : List Ty) (n : Nat) (v : Val) (o : Nat), wfFields ts = true →
    validVariant ts n v = true → o % 8 = 0 → VariantLen ts (encVariant ts n v o).length
  | [], _ => fun _ _ _ hv _ => by cases hv
  | t :: _, 0 => fun v o hw hv ho =>
      Or.inl (enc_len t v o (wfFields_cons.mp hw).1 hv (mod_align_zero t ho))
  | _ :: ts, n+1 => fun v o hw hv ho =>
      Or.inr (encVariant_len ts n v o (wfFields_cons.mp hw).2.2 hv ho)
end

/-- the encoding of a valid value keeps the alignment of what follows -/
theorem enc_length_mod (t : Ty) (v : Val) (o : Nat) (hw : t.wf = true) (hv : valid t v = true)
    (ho : o % t.align = 0) : (enc t v o).length % t.align = 0 :=
  hasLen_mod t _ hw (enc_len t v o hw hv ho)

end Wire
