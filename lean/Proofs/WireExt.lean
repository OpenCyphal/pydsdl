import Proofs.WireBasic
/-! Zero extension: appending zero bits to the readable window never changes a successful decoding
    (`_BitReader` reads zeros past the end anyway); the only way the two can differ is a delimiter header
    that does not fit into the shorter window. -/
namespace Wire

/-- extension relation: same offset, window extended by some zeros -/
def Ext (r r' : R) : Prop := r'.off = r.off ∧ ∃ k, r'.s = r.s ++ zeros k

theorem Ext.refl (r : R) : Ext r r := ⟨rfl, 0, by simp [zeros]⟩

theorem zeros_drop (k n : Nat) : (zeros k).drop n = zeros (k - n) := by simp [zeros]

theorem Ext.read {r r' : R} (h : Ext r r') (n : Nat) :
    (r'.read n).1 = (r.read n).1 ∧ Ext (r.read n).2 (r'.read n).2 := by
  obtain ⟨ho, k, hs⟩ := h
  refine ⟨by simp [R.read, hs, takeZ_ext], by simp [R.read, ho], ?_⟩
  simp only [R.read, hs, List.drop_append, zeros_drop]
  exact ⟨_, rfl⟩

theorem Ext.alignTo {r r' : R} (h : Ext r r') (a : Nat) : Ext (r.alignTo a) (r'.alignTo a) := by
  obtain ⟨ho, k, hs⟩ := h
  refine ⟨by simp [R.alignTo, ho], ?_⟩
  simp only [R.alignTo, hs, ho, List.drop_append, zeros_drop]
  exact ⟨_, rfl⟩

/-- The outcomes of a decoding step on a window and on its zero extension: the same value, leaving windows
    that are again related; or the same error; except that the shorter window may fail on a delimiter header
    whatever the longer one does.  Stability under extension and its converse are the two readings of this. -/
inductive ExtSim {α : Type} : Except Err (α × R) → Except Err (α × R) → Prop
  | ok (a : α) {q q' : R} : Ext q q' → ExtSim (.ok (a, q)) (.ok (a, q'))
  | error (e : Err) : ExtSim (.error e) (.error e)
  | header (x' : Except Err (α × R)) : ExtSim (.error .delimiterHeader) x'

theorem ExtSim.refl {α : Type} : ∀ x : Except Err (α × R), ExtSim x x
  | .ok (a, q) => .ok a (Ext.refl q)
  | .error e => .error e

theorem ExtSim.bind {α β : Type} {x x' : Except Err (α × R)} {k k' : α × R → Except Err (β × R)}
    (h : ExtSim x x') (hk : ∀ a q q', Ext q q' → ExtSim (k (a, q)) (k' (a, q'))) :
    ExtSim (x >>= k) (x' >>= k') := by
  cases h with
  | ok a hq => exact hk a _ _ hq
  | error e => exact .error e
  | header x' => exact .header _

theorem ExtSim.stable {α : Type} {x x' : Except Err (α × R)} (h : ExtSim x x') {a : α} {q : R}
    (hx : x = .ok (a, q)) : ∃ q', x' = .ok (a, q') ∧ Ext q q' := by
  cases h with
  | ok b hq => cases hx; exact ⟨_, rfl, hq⟩
  | error e => cases hx
  | header x' => cases hx

theorem ExtSim.conv {α : Type} {x x' : Except Err (α × R)} (h : ExtSim x x') {a : α} {q' : R}
    (hx : x' = .ok (a, q')) : (∃ q, x = .ok (a, q) ∧ Ext q q') ∨ x = .error .delimiterHeader := by
  cases h with
  | ok b hq => cases hx; exact Or.inl ⟨_, rfl, hq⟩
  | error e => cases hx
  | header x' => exact Or.inr rfl

theorem decRep_extSim {f : R → Except Err (Val × R)} (hf : ∀ r r', Ext r r' → ExtSim (f r) (f r')) :
    ∀ (n : Nat) (r r' : R), Ext r r' → ExtSim (decRep f n r) (decRep f n r')
  | 0, _, _, h => .ok [] h
  | n+1, r, r', h => by
      simp only [decRep]
      exact (hf r r' h).bind fun v q q' hq =>
        (decRep_extSim hf n q q' hq).bind fun vs _ _ hp => .ok (v :: vs) hp

/-- the header is read alike; if the announced payload fits the shorter window, both sub-readers get the same
    window, and the parents continue behind it -/
theorem unwrapDelim_extSim {body : R → Except Err (Val × R)}
    (hb : ∀ r r', Ext r r' → ExtSim (body r) (body r')) (m : Mode) (r r' : R) (h : Ext r r') :
    ExtSim (unwrapDelim m r body) (unwrapDelim m r' body) := by
  cases m with
  | sealed => exact hb r r' h
  | delimited x =>
    simp only [unwrapDelim]
    obtain ⟨hbits, ho, k, hs⟩ := h.read headerBits
    rw [hbits]
    split
    · exact .header _
    · rename_i hc
      simp only [shorter_iff, decide_eq_true_eq, Nat.not_lt] at hc
      rw [if_neg (by rw [shorter_iff, hs]; simp; omega), hs, ho, List.take_append_of_le_length hc]
      exact (ExtSim.refl _).bind fun v _ _ _ => .ok v ⟨rfl, k, List.drop_append_of_le_length hc⟩

mutual
theorem dec_extSim : ∀ (t : Ty) (r r' : R), Ext r r' → ExtSim (dec t r) (dec t r')
  | .bool, r, r', h | .uint _ _, r, r', h | .sint _ _, r, r', h | .float _ _, r, r', h | .byte, r, r', h
  | .utf8, r, r', h => by
      simp only [dec, (h.read _).1]
      exact .ok _ (h.read _).2
  | .void _, r, r', h => by
      simp only [dec]
      exact .ok _ (h.read _).2
  | .farr e cap, r, r', h => by
      simp only [dec]
      exact (decRep_extSim (dec_extSim e) cap r r' h).bind fun vs _ _ hq => .ok _ hq
  | .varr e cap, r, r', h => by
      simp only [dec]
      have hr := h.read (lenBits cap)
      rw [hr.1]
      split
      · exact .error _
      · refine (decRep_extSim (dec_extSim e) _ _ _ hr.2).bind fun vs _ _ hq => ?_
        dsimp only
        split
        · exact .error _
        · exact .ok _ hq
  | .struct fs m, r, r', h => by
      simp only [dec]
      exact unwrapDelim_extSim
        (fun q q' hq => (decFields_extSim fs q q' hq).bind fun vs _ _ hp => .ok _ (hp.alignTo 8)) m r r' h
  | .union fs m, r, r', h => by
      simp only [dec]
      refine unwrapDelim_extSim (fun q q' hq => ?_) m r r' h
      have hr := hq.read (tagBits fs.length)
      simp only [hr.1]
      exact (decVariant_extSim fs _ _ _ hr.2).bind fun v _ _ hp => .ok _ (hp.alignTo 8)
theorem decFields_extSim : ∀ (ts : List Ty) (r r' : R), Ext r r' → ExtSim (decFields ts r) (decFields ts r')
  | [], _, _, h => .ok [] h
  | t :: ts, r, r', h => by
      simp only [decFields]
      exact (dec_extSim t _ _ (h.alignTo t.align)).bind fun v q q' hq =>
        (decFields_extSim ts q q' hq).bind fun vs _ _ hp => .ok (v :: vs) hp
theorem decVariant_extSim : ∀ (ts : List Ty) (n : Nat) (r r' : R), Ext r r' →
    ExtSim (decVariant ts n r) (decVariant ts n r')
  | [], _, _, _, _ => .error _
  | t :: _, 0, r, r', h => by simp only [decVariant]; exact dec_extSim t r r' h
  | _ :: ts, n+1, r, r', h => by simp only [decVariant]; exact decVariant_extSim ts n r r' h
end

/-! ### stability of a successful decoding under zero extension -/

theorem dec_ext (t : Ty) (r r' : R) (v : Val) (q : R) (h : Ext r r') (hd : dec t r = .ok (v, q)) :
    ∃ q', dec t r' = .ok (v, q') ∧ Ext q q' :=
  (dec_extSim t r r' h).stable hd

theorem decFields_ext : ∀ (ts : List Ty) (r r' : R) (vs : List Val) (q : R), Ext r r' →
    decFields ts r = .ok (vs, q) → ∃ q', decFields ts r' = .ok (vs, q') ∧ Ext q q' :=
  fun ts r r' _ _ h hd => (decFields_extSim ts r r' h).stable hd

theorem decVariant_ext : ∀ (ts : List Ty) (n : Nat) (r r' : R) (v : Val) (q : R), Ext r r' →
    decVariant ts n r = .ok (v, q) → ∃ q', decVariant ts n r' = .ok (v, q') ∧ Ext q q' :=
  fun ts n r r' _ _ h hd => (decVariant_extSim ts n r r' h).stable hd

end Wire
