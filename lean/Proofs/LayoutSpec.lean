import Proofs.BlsMinMax
import Model.Layout
/-!
  Lemmas about the layout model that do not need the Specification side: induction over (well-formed) type trees,
  the widths of the implicit prefix / tag, alignment.
-/
open scoped Pointwise
namespace Layout
open Bls

/-- Induction over type trees. -/
theorem Ty.induct {P : Ty → Prop}
    (prim : ∀ n, P (.prim n)) (void : ∀ n, P (.void n))
    (farr : ∀ e cap, P e → P (.farr e cap)) (varr : ∀ e cap, P e → P (.varr e cap))
    (struct : ∀ fs, (∀ f ∈ fs, P f) → P (.struct fs)) (union : ∀ fs, (∀ f ∈ fs, P f) → P (.union fs))
    (delim : ∀ inner ext, P inner → P (.delim inner ext)) : ∀ t, P t := by
  intro t
  exact Ty.rec (motive_1 := P) (motive_2 := fun fs => ∀ f ∈ fs, P f)
    prim void (fun e cap ih => farr e cap ih) (fun e cap ih => varr e cap ih)
    (fun fs ih => struct fs ih) (fun fs ih => union fs ih) (fun i e ih => delim i e ih)
    (by intro f hf; cases hf)
    (fun f fs ihf ihfs => by
      intro x hx
      rcases List.mem_cons.mp hx with rfl | hx
      · exact ihf
      · exact ihfs x hx) t

theorem wfList_iff (fs : List Ty) : wfList fs = true ↔ ∀ f ∈ fs, f.wf = true := by
  induction fs with
  | nil => simp [wfList]
  | cons f fs ih => simp [wfList, ih]

theorem blsList_eq (fs : List Ty) : blsList fs = fs.map Ty.bls := by
  induction fs with
  | nil => simp [blsList]
  | cons f fs ih => simp [blsList, ih]

theorem exists_cons_cons {α : Type*} {l : List α} (h : 2 ≤ l.length) : ∃ a b t, l = a :: b :: t := by
  match l, h with
  | a :: b :: t, _ => exact ⟨a, b, t, rfl⟩

/-- A union has at least two variants, which is the third clause of `aggUnion`. -/
theorem aggUnion_of_two_le {fs : List Ty} (h : 2 ≤ fs.length) :
    aggUnion fs = .cat [.leaf [tagBits fs], .uni (blsList fs)] := by
  obtain ⟨f, g, fs, rfl⟩ := exists_cons_cons h
  rw [aggUnion]

/-! ### What `Ty.wf` says, constructor by constructor -/

theorem Ty.wf_farr {e : Ty} {cap : ℕ} : (Ty.farr e cap).wf = true ↔ e.wf = true ∧ 1 ≤ cap := by
  simp [Ty.wf]

theorem Ty.wf_varr {e : Ty} {cap : ℕ} : (Ty.varr e cap).wf = true ↔ e.wf = true ∧ 1 ≤ cap ∧ lenBits e cap ≤ 64 := by
  simp [Ty.wf, and_assoc]

theorem Ty.wf_struct {fs : List Ty} : (Ty.struct fs).wf = true ↔ ∀ f ∈ fs, f.wf = true := by
  rw [Ty.wf, wfList_iff]

theorem Ty.wf_union {fs : List Ty} :
    (Ty.union fs).wf = true ↔ (∀ f ∈ fs, f.wf = true) ∧ 2 ≤ fs.length ∧ tagBits fs ≤ 64 := by
  simp [Ty.wf, wfList_iff, and_assoc]

theorem Ty.wf_delim {inner : Ty} {ext : ℕ} :
    (Ty.delim inner ext).wf = true ↔ inner.wf = true ∧ ((∃ fs, inner = .struct fs) ∨ ∃ fs, inner = .union fs) ∧
      ext % inner.align = 0 ∧ inner.bls.max ≤ ext := by
  cases inner <;> simp [Ty.wf, and_assoc]

/-- Induction over the type trees the constructors accept: every case comes with what `Ty.wf` says about its node. -/
theorem Ty.wf_induct {P : Ty → Prop}
    (prim : ∀ n, P (.prim n)) (void : ∀ n, P (.void n))
    (farr : ∀ e cap, e.wf = true → 1 ≤ cap → P e → P (.farr e cap))
    (varr : ∀ e cap, e.wf = true → 1 ≤ cap → lenBits e cap ≤ 64 → P e → P (.varr e cap))
    (struct : ∀ fs, (∀ f ∈ fs, f.wf = true) → (∀ f ∈ fs, P f) → P (.struct fs))
    (union : ∀ fs, (∀ f ∈ fs, f.wf = true) → 2 ≤ fs.length → tagBits fs ≤ 64 → (∀ f ∈ fs, P f) → P (.union fs))
    (delim : ∀ inner ext, (Ty.delim inner ext).wf = true → inner.wf = true → P inner → P (.delim inner ext)) :
    ∀ t : Ty, t.wf = true → P t := by
  intro t
  induction t using Ty.induct with
  | prim n => exact fun _ => prim n
  | void n => exact fun _ => void n
  | farr e cap ih => exact fun h => farr e cap (wf_farr.mp h).1 (wf_farr.mp h).2 (ih (wf_farr.mp h).1)
  | varr e cap ih =>
    intro h
    obtain ⟨he, hc, hl⟩ := wf_varr.mp h
    exact varr e cap he hc hl (ih he)
  | struct fs ih => exact fun h => struct fs (wf_struct.mp h) fun f hf => ih f hf (wf_struct.mp h f hf)
  | union fs ih =>
    intro h
    obtain ⟨hf, h2, ht⟩ := wf_union.mp h
    exact union fs hf h2 ht fun f hf' => ih f hf' (hf f hf')
  | delim inner ext ih => exact fun h => delim inner ext h (wf_delim.mp h).1 (ih (wf_delim.mp h).1)

/-! ### Widths of the implicit prefix / tag -/

theorem bitLength_le_iff (n k : ℕ) : bitLength n ≤ k ↔ n < 2 ^ k := by
  unfold bitLength
  split
  · next h => subst h; simp
  · next h =>
    rw [Nat.succ_le_iff, Nat.log2_lt h]

theorem nextPow2Aux_eq (x k : ℕ) (hk : x ≤ 2 ^ k) (hmin : ∀ j < k, 2 ^ j < x) (f e : ℕ) (he : e ≤ k) (hf : k ≤ e + f) :
    nextPow2Aux x f (2 ^ e) = 2 ^ k := by
  induction f generalizing e with
  | zero => rw [show e = k by omega]; rfl
  | succ f ih =>
    rw [nextPow2Aux]
    split
    · next hle => rw [show e = k from Nat.le_antisymm he (Nat.not_lt.mp fun hlt => absurd (hmin e hlt) (by omega))]
    · next hnle =>
      have hlt : e < k := Nat.lt_of_le_of_ne he fun h => hnle (h ▸ hk)
      rw [← Nat.pow_succ']
      exact ih (e + 1) hlt (by omega)

/-- `nextPow2 x` is the least power of two that is `≥ x`. -/
theorem nextPow2_eq (x k : ℕ) (hk : x ≤ 2 ^ k) (hmin : k = 0 ∨ 2 ^ (k - 1) < x) : nextPow2 x = 2 ^ k := by
  have hmin' : ∀ j < k, 2 ^ j < x := fun j hj =>
    lt_of_le_of_lt (Nat.pow_le_pow_right (by omega) (by omega)) (hmin.resolve_left (by omega))
  refine nextPow2Aux_eq x k hk hmin' x 0 (Nat.zero_le k) ?_
  rcases hmin with rfl | h
  · omega
  · have := @Nat.lt_two_pow_self (k - 1); omega

theorem le_nextPow2 (x : ℕ) : x ≤ nextPow2 x := by
  have h : ∃ k, x ≤ 2 ^ k := ⟨x, Nat.lt_two_pow_self.le⟩
  have hmin : Nat.find h = 0 ∨ 2 ^ (Nat.find h - 1) < x :=
    (Nat.eq_zero_or_pos _).imp_right fun hp => Nat.not_le.mp (Nat.find_min h (Nat.sub_one_lt_of_lt hp))
  rw [nextPow2_eq x _ (Nat.find_spec h) hmin]
  exact Nat.find_spec h

theorem nextPow2_table (b : ℕ) (h8 : 8 ≤ b) (h64 : b ≤ 64) :
    nextPow2 b = if b ≤ 8 then 8 else if b ≤ 16 then 16 else if b ≤ 32 then 32 else 64 := by
  split_ifs
  · exact nextPow2_eq b 3 (by omega) (.inr (by omega))
  · exact nextPow2_eq b 4 (by omega) (.inr (by omega))
  · exact nextPow2_eq b 5 (by omega) (.inr (by omega))
  · exact nextPow2_eq b 6 (by omega) (.inr (by omega))

/-- The smallest of the standard widths 8/16/32/64 whose unsigned range holds `x` (`none`: does not fit 64 bits). -/
def smallestStd (x : ℕ) : Option ℕ :=
  if x < 2 ^ 8 then some 8 else if x < 2 ^ 16 then some 16 else if x < 2 ^ 32 then some 32
  else if x < 2 ^ 64 then some 64 else none

/-- `stdWidth n = 2 ^ j` as soon as `n` needs more than `2 ^ (j - 1)` bits (or `j = 3`) and fits `2 ^ j` bits. -/
theorem stdWidth_eq (n j : ℕ) (hj : 3 ≤ j) (hlo : j = 3 ∨ 2 ^ 2 ^ (j - 1) ≤ n) (hhi : n < 2 ^ 2 ^ j) :
    stdWidth n = 2 ^ j := by
  have h8 : 2 ^ 3 ≤ 2 ^ j := Nat.pow_le_pow_right (by omega) hj
  refine nextPow2_eq _ j (Nat.max_le.mpr ⟨h8, (bitLength_le_iff n _).mpr hhi⟩) (.inr ?_)
  rcases hlo with rfl | hlo
  · exact lt_of_lt_of_le (by decide) (Nat.le_max_left _ _)
  · have hb : ¬ bitLength n ≤ 2 ^ (j - 1) := fun h => Nat.not_lt.mpr hlo ((bitLength_le_iff n _).mp h)
    exact lt_of_lt_of_le (Nat.not_le.mp hb) (Nat.le_max_right _ _)

/-- The standard widths are `2 ^ j` for `j = 3..6`; `2 ^ j` is chosen when `x` fits `2 ^ j` bits and no fewer. -/
theorem smallestStd_cases (x : ℕ) :
    (∃ j ∈ [3, 4, 5, 6], (j = 3 ∨ 2 ^ 2 ^ (j - 1) ≤ x) ∧ x < 2 ^ 2 ^ j ∧ smallestStd x = some (2 ^ j)) ∨
    (2 ^ 64 ≤ x ∧ smallestStd x = none) := by
  unfold smallestStd
  by_cases h8 : x < 2 ^ 8
  · exact .inl ⟨3, by decide, .inl rfl, h8, if_pos h8⟩
  rw [if_neg h8]
  by_cases h16 : x < 2 ^ 16
  · exact .inl ⟨4, by decide, .inr (Nat.not_lt.mp h8), h16, if_pos h16⟩
  rw [if_neg h16]
  by_cases h32 : x < 2 ^ 32
  · exact .inl ⟨5, by decide, .inr (Nat.not_lt.mp h16), h32, if_pos h32⟩
  rw [if_neg h32]
  by_cases h64 : x < 2 ^ 64
  · exact .inl ⟨6, by decide, .inr (Nat.not_lt.mp h32), h64, if_pos h64⟩
  · exact .inr ⟨Nat.not_lt.mp h64, if_neg h64⟩

theorem stdWidth_gt (n : ℕ) (h : 2 ^ 64 ≤ n) : 64 < stdWidth n := by
  have h1 : ¬ bitLength n ≤ 64 := fun h' => Nat.not_lt.mpr h ((bitLength_le_iff n 64).mp h')
  have h2 := le_nextPow2 (max 8 (bitLength n))
  have h3 := Nat.le_max_right 8 (bitLength n)
  unfold stdWidth; omega

/-- The library's width computation agrees with the Specification's table wherever the table has an entry, and
    exceeds 64 bits where it has none. -/
theorem stdWidth_cases (n : ℕ) :
    (∃ w ∈ [8, 16, 32, 64], smallestStd n = some w ∧ stdWidth n = w) ∨ (smallestStd n = none ∧ 64 < stdWidth n) := by
  rcases smallestStd_cases n with ⟨j, hj, hlo, hhi, hs⟩ | ⟨h, hs⟩
  · exact .inl ⟨2 ^ j, (by decide : ∀ j ∈ [3, 4, 5, 6], 2 ^ j ∈ [8, 16, 32, 64]) j hj, hs,
      stdWidth_eq n j ((by decide : ∀ j ∈ [3, 4, 5, 6], 3 ≤ j) j hj) hlo hhi⟩
  · exact .inr ⟨hs, stdWidth_gt n h⟩

theorem stdWidth_mem (n : ℕ) (h : stdWidth n ≤ 64) : stdWidth n ∈ [8, 16, 32, 64] := by
  rcases stdWidth_cases n with ⟨w, hw, _, he⟩ | ⟨_, hgt⟩
  · rwa [he]
  · omega

/-! ### Alignment -/

theorem maxAlign_le (fs : List Ty) (h : ∀ f ∈ fs, f.align = 1 ∨ f.align = 8) : maxAlign fs ≤ 8 := by
  induction fs with
  | nil => simp [maxAlign]
  | cons f fs ih =>
    simp only [maxAlign]
    have := h f (by simp)
    have := ih fun x hx => h x (by simp [hx])
    omega

/-- Every alignment requirement is 1 (bit-level types and their arrays) or 8 (composites and their arrays). -/
theorem align_cases : ∀ t : Ty, t.align = 1 ∨ t.align = 8 := by
  intro t
  induction t using Ty.induct with
  | prim n => left; rfl
  | void n => left; rfl
  | farr e cap ih => simpa [Ty.align] using ih
  | varr e cap ih => simpa [Ty.align] using ih
  | struct fs ih => right; simp only [Ty.align]; have := maxAlign_le fs ih; omega
  | union fs ih => right; simp only [Ty.align]; have := maxAlign_le fs ih; omega
  | delim inner ext ih => simpa [Ty.align] using ih

theorem one_le_align (t : Ty) : 1 ≤ t.align := by
  rcases align_cases t with h | h <;> omega

theorem comp_align (fs : List Ty) : max 8 (maxAlign fs) = 8 := by
  have := maxAlign_le fs fun f _ => align_cases f
  omega

/-- A delimited type wraps a sealed composite, which is byte aligned. -/
theorem delim_inner_align {inner : Ty} {ext : ℕ} (h : (Ty.delim inner ext).wf = true) : inner.align = 8 := by
  obtain ⟨_, ⟨fs, rfl⟩ | ⟨fs, rfl⟩, _⟩ := Ty.wf_delim.mp h <;> exact comp_align fs

theorem composite_align (t : Ty) (h : t.wf = true) (hc : t.isComposite = true) : t.align = 8 := by
  cases t with
  | struct fs => exact comp_align fs
  | union fs => exact comp_align fs
  | delim inner ext => rw [Ty.align]; exact delim_inner_align h
  | _ => simp [Ty.isComposite] at hc

end Layout
