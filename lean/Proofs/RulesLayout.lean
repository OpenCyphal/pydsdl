import Proofs.LayoutAlign
import Proofs.RulesSpec
import Proofs.RulesArith
/-!
  Bridge from the extent rule of C05 to the layout model of C02.

  `Model/Rules.lean` computes the longest representation of a schema (`structMax`, `unionMax`, `Ty.maxBits`) by its own
  arithmetic.  Here every type of the rules model is translated into the layout model (`Model/Layout.lean`), and it is
  proved, for all schemas, that the number the extent rule compares against is `bit_length_set.max` of the translated
  sealed composite — the maximum of the length set that C02 proves to be the Specification's.

  A referenced composite is known to the rules model only by `CompInfo.maxBits`; the translation is therefore relative
  to an interpretation `ρ : CompInfo → Layout.Ty` of the references, and the theorems hold for EVERY interpretation that
  is `Faithful` (a well-formed Layout composite whose `bit_length_set.max` is the recorded `maxBits`).  `standIn` is
  one faithful interpretation whenever `8 ∣ maxBits`, so the hypotheses are satisfiable.
-/
namespace Rules
open Bls

/-! ### the translation -/

def Scalar.toLayout (ρ : CompInfo → Layout.Ty) : Scalar → Layout.Ty
  | .bool => .prim 1
  | .byte => .prim 8
  | .utf8 => .prim 8
  | .uint w _ => .prim w
  | .int w _ => .prim w
  | .float w _ => .prim w
  | .void w => .void w
  | .comp i => ρ i

def Ty.toLayout (ρ : CompInfo → Layout.Ty) : Ty → Layout.Ty
  | .scalar s => s.toLayout ρ
  | .fixedArr e cap => .farr (e.toLayout ρ) cap.toNat
  | .varArr e cap => .varr (e.toLayout ρ) cap.toNat

/-- the field types of a schema in order (paddings are void fields, constants are not fields) -/
def RSchema.fieldTys (sc : RSchema) : List Ty := (sc.attrs.filter RAttr.isField).map RAttr.ty

/-- the schema as a sealed composite of the layout model -/
def RSchema.toLayout (ρ : CompInfo → Layout.Ty) (sc : RSchema) : Layout.Ty :=
  if sc.union then .union (sc.fieldTys.map (Ty.toLayout ρ)) else .struct (sc.fieldTys.map (Ty.toLayout ρ))

/-- `ρ` interprets the reference `i` faithfully: a composite the layout constructors accept whose longest
    representation is the recorded one -/
structure Faithful (ρ : CompInfo → Layout.Ty) (i : CompInfo) : Prop where
  wf : (ρ i).wf = true
  composite : (ρ i).isComposite = true
  max : (ρ i).bls.max = i.maxBits

/-- a sealed structure with the given longest representation: `maxBits / 8` bytes (no field at all for 0) -/
def standIn (i : CompInfo) : Layout.Ty :=
  .struct (if i.maxBits = 0 then [] else [.farr (.prim 8) (i.maxBits / 8)])

theorem bpadTo_eq (a x : Nat) : Bls.padTo a x = Rules.padTo a x := rfl

theorem standIn_faithful (i : CompInfo) (h : 8 ∣ i.maxBits) : Faithful standIn i := by
  obtain ⟨k, hk⟩ := h
  by_cases h0 : i.maxBits = 0
  · refine ⟨?_, rfl, ?_⟩
    · simp [standIn, h0, Layout.Ty.wf, Layout.wfList]
    · simp only [standIn, h0, if_true, Layout.Ty.bls, Layout.aggStruct, Op.max, maxL, List.foldl_nil, Layout.comp_align,
        bpadTo_eq]
      exact padTo_of_dvd 8 0 (by omega) (Nat.dvd_zero 8)
  · have hk1 : 1 ≤ i.maxBits / 8 := by omega
    refine ⟨?_, rfl, ?_⟩
    · simp [standIn, h0, Layout.Ty.wf, Layout.wfList, hk1]
    · simp only [standIn, h0, if_false, Layout.Ty.bls, Layout.aggStruct, Layout.aggStructFrom, Op.max, maxL,
        List.foldl_nil, Layout.comp_align, bpadTo_eq]
      rw [padTo_of_dvd 8 _ (by omega) ⟨i.maxBits / 8, rfl⟩]
      omega

/-! ### hypotheses -/

def Scalar.RefsOk (ρ : CompInfo → Layout.Ty) : Scalar → Prop
  | .comp i => Faithful ρ i
  | _ => True

/-- what the constructors of the real library demand of a field type: the constructor checks of the rules model
    (widths, capacity ≥ 1), a variable-length capacity that fits the 64-bit length prefix, and references interpreted
    faithfully -/
def Ty.LayoutOk (ρ : CompInfo → Layout.Ty) : Ty → Prop
  | .scalar s => Spec.WidthOk s ∧ s.RefsOk ρ
  | .fixedArr e cap => Spec.WidthOk e ∧ e.RefsOk ρ ∧ 1 ≤ cap
  | .varArr e cap => Spec.WidthOk e ∧ e.RefsOk ρ ∧ 1 ≤ cap ∧ cap < 2 ^ 64

structure RSchema.LayoutOk (ρ : CompInfo → Layout.Ty) (sc : RSchema) : Prop where
  fields : ∀ t ∈ sc.fieldTys, t.LayoutOk ρ
  arity : sc.union = true → 2 ≤ sc.fieldTys.length ∧ sc.fieldTys.length ≤ 2 ^ 64

/-! ### scalars -/

theorem Scalar.toLayout_wf (ρ : CompInfo → Layout.Ty) (s : Scalar) (hw : Spec.WidthOk s) (hr : s.RefsOk ρ) :
    (s.toLayout ρ).wf = true := by
  cases s with
  | comp i => exact hr.wf
  | float w c | int w c | uint w c | void w =>
    simp only [Spec.WidthOk] at hw
    simp only [Scalar.toLayout, Layout.Ty.wf, Bool.and_eq_true, decide_eq_true_eq]; omega
  | _ => simp [Scalar.toLayout, Layout.Ty.wf]

theorem Scalar.toLayout_align (ρ : CompInfo → Layout.Ty) (s : Scalar) (hr : s.RefsOk ρ) :
    (s.toLayout ρ).align = s.align := by
  cases s with
  | comp i => exact Layout.composite_align _ hr.wf hr.composite
  | _ => rfl

theorem Scalar.toLayout_max (ρ : CompInfo → Layout.Ty) (s : Scalar) (hr : s.RefsOk ρ) :
    (s.toLayout ρ).bls.max = s.maxBits := by
  cases s with
  | comp i => exact hr.max
  | _ => simp [Scalar.toLayout, Layout.Ty.bls, Op.max, maxL, Scalar.maxBits]

theorem Scalar.align_cases (s : Scalar) : s.align = 1 ∨ s.align = 8 := by
  cases s <;> simp [Scalar.align]

/-! ### the width of the implicit length prefix / union tag -/

theorem stdWidth_eq (n : Nat) (h : n < 2 ^ 64) : Layout.stdWidth n = pow2ceil8 (bitLength n) := by
  have hb : bitLength n ≤ 64 := (bitLength_le_iff n 64).mpr h
  have e : Layout.bitLength n = bitLength n := rfl
  unfold Layout.stdWidth
  rw [e, Layout.nextPow2_table _ (Nat.le_max_left _ _) (Nat.max_le.mpr ⟨by omega, hb⟩)]
  unfold pow2ceil8
  simp only [Nat.max_le, Nat.reduceLeDiff, true_and, if_pos hb]

/-! ### types -/

theorem Ty.align_cases (t : Ty) : t.align = 1 ∨ t.align = 8 := by
  cases t <;> exact Scalar.align_cases _

theorem Ty.toLayout_align (ρ : CompInfo → Layout.Ty) (t : Ty) (h : t.LayoutOk ρ) : (t.toLayout ρ).align = t.align := by
  cases t with
  | scalar s => exact Scalar.toLayout_align ρ s h.2
  | fixedArr e _ | varArr e _ => exact Scalar.toLayout_align ρ e h.2.1

theorem Ty.toLayout_wf (ρ : CompInfo → Layout.Ty) (t : Ty) (h : t.LayoutOk ρ) : (t.toLayout ρ).wf = true := by
  cases t with
  | scalar s => exact Scalar.toLayout_wf ρ s h.1 h.2
  | fixedArr e cap =>
    obtain ⟨hw, hr, hc⟩ := h
    simp only [Ty.toLayout, Layout.Ty.wf, Bool.and_eq_true, decide_eq_true_eq]
    exact ⟨Scalar.toLayout_wf ρ e hw hr, by omega⟩
  | varArr e cap =>
    obtain ⟨hw, hr, hc, hlt⟩ := h
    have hn : cap.toNat < 2 ^ 64 := by omega
    simp only [Ty.toLayout, Layout.Ty.wf, Bool.and_eq_true, decide_eq_true_eq]
    refine ⟨⟨Scalar.toLayout_wf ρ e hw hr, by omega⟩, ?_⟩
    unfold Layout.lenBits
    rw [stdWidth_eq _ hn, Scalar.toLayout_align ρ e hr]
    have := pow2ceil8_le _ hn
    have := Scalar.align_cases e
    omega

/-- the longest representation of a type as the rules model computes it is `bit_length_set.max` of its translation -/
theorem Ty.toLayout_max (ρ : CompInfo → Layout.Ty) (t : Ty) (h : t.LayoutOk ρ) : (t.toLayout ρ).bls.max = t.maxBits := by
  cases t with
  | scalar s => exact Scalar.toLayout_max ρ s h.2
  | fixedArr e cap =>
    simp only [Ty.toLayout, Layout.Ty.bls, Op.max, Ty.maxBits, Scalar.toLayout_max ρ e h.2.1]
  | varArr e cap =>
    obtain ⟨hw, hr, hc, hlt⟩ := h
    have hn : cap.toNat < 2 ^ 64 := by omega
    simp only [Ty.toLayout, Layout.Ty.bls, Op.max, sumMax, maxL, List.foldl_nil, Ty.maxBits, Scalar.toLayout_max ρ e hr,
      Layout.lenBits, stdWidth_eq _ hn, Scalar.toLayout_align ρ e hr, Nat.add_zero]

/-! ### structures -/

theorem aggStructFrom_max (ρ : CompInfo → Layout.Ty) (fs : List Ty) (h : ∀ t ∈ fs, t.LayoutOk ρ) (acc : Op) :
    (Layout.aggStructFrom acc (fs.map (Ty.toLayout ρ))).max =
      fs.foldl (fun off t => padTo t.align off + t.maxBits) acc.max := by
  induction fs generalizing acc with
  | nil => simp [Layout.aggStructFrom]
  | cons f fs ih =>
    simp only [List.map_cons, Layout.aggStructFrom, List.foldl_cons]
    rw [ih (fun t ht => h t (by simp [ht]))]
    congr 1
    simp only [Op.max, sumMax, Nat.add_zero, Ty.toLayout_align ρ f (h f (by simp)),
      Ty.toLayout_max ρ f (h f (by simp)), bpadTo_eq]

theorem structMax_eq (ρ : CompInfo → Layout.Ty) (fs : List Ty) (h : ∀ t ∈ fs, t.LayoutOk ρ) :
    structMax fs = (Layout.Ty.struct (fs.map (Ty.toLayout ρ))).bls.max := by
  simp only [Layout.Ty.bls, Op.max, Layout.comp_align, bpadTo_eq, structMax]
  congr 1
  cases fs with
  | nil => simp [Layout.aggStruct, Op.max, maxL]
  | cons f fs =>
    simp only [List.map_cons, Layout.aggStruct, List.foldl_cons]
    rw [aggStructFrom_max ρ fs (fun t ht => h t (by simp [ht])), Ty.toLayout_max ρ f (h f (by simp))]
    have h0 : padTo f.align 0 = 0 := by
      rcases Ty.align_cases f with ha | ha <;> rw [ha] <;> rfl
    rw [h0, Nat.zero_add]

/-! ### unions -/

theorem foldl_max_align (ρ : CompInfo → Layout.Ty) (fs : List Ty) (h : ∀ t ∈ fs, t.LayoutOk ρ) (x : Nat) :
    (fs.map Ty.align).foldl Nat.max x = max x (Layout.maxAlign (fs.map (Ty.toLayout ρ))) := by
  induction fs generalizing x with
  | nil => simp [Layout.maxAlign]
  | cons f fs ih =>
    simp only [List.map_cons, List.foldl_cons, Layout.maxAlign]
    rw [ih (fun t ht => h t (by simp [ht])), Ty.toLayout_align ρ f (h f (by simp))]
    show max (max x f.align) _ = _
    omega

theorem foldl_max_bits (ρ : CompInfo → Layout.Ty) (fs : List Ty) (h : ∀ t ∈ fs, t.LayoutOk ρ) (x : Nat) :
    (fs.map Ty.maxBits).foldl Nat.max x = max x (maxMax (Layout.blsList (fs.map (Ty.toLayout ρ)))) := by
  induction fs generalizing x with
  | nil => simp [Layout.blsList, maxMax]
  | cons f fs ih =>
    simp only [List.map_cons, List.foldl_cons, Layout.blsList, maxMax]
    rw [ih (fun t ht => h t (by simp [ht])), Ty.toLayout_max ρ f (h f (by simp))]
    show max (max x f.maxBits) _ = _
    omega

/-- the union tag of the rules model is `UnionType._compute_tag_bit_length` of the layout model -/
theorem tag_eq (ρ : CompInfo → Layout.Ty) (fs : List Ty) (h : ∀ t ∈ fs, t.LayoutOk ρ) (hl : fs.length ≤ 2 ^ 64)
    (h1 : 1 ≤ fs.length) :
    (fs.map Ty.align).foldl Nat.max (pow2ceil8 (bitLength (fs.length - 1))) = Layout.tagBits (fs.map (Ty.toLayout ρ)) := by
  rw [foldl_max_align ρ fs h]
  unfold Layout.tagBits
  rw [List.length_map, stdWidth_eq _ (by omega)]

theorem unionMax_eq (ρ : CompInfo → Layout.Ty) (fs : List Ty) (h : ∀ t ∈ fs, t.LayoutOk ρ) (h2 : 2 ≤ fs.length)
    (hl : fs.length ≤ 2 ^ 64) :
    unionMax fs = (Layout.Ty.union (fs.map (Ty.toLayout ρ))).bls.max := by
  -- with at least two variants the aggregate is the tag followed by the union of the variants
  have hagg : (Layout.aggUnion (fs.map (Ty.toLayout ρ))).max =
      Layout.tagBits (fs.map (Ty.toLayout ρ)) + maxMax (Layout.blsList (fs.map (Ty.toLayout ρ))) := by
    match fs, h2 with
    | f :: g :: fs, _ => simp only [List.map_cons, Layout.aggUnion, Op.max, sumMax, maxL, List.foldl_nil, Nat.add_zero]
  simp only [unionMax, tag_eq ρ fs h hl (by omega), foldl_max_bits ρ fs h 0, Nat.zero_max, Layout.Ty.bls, Op.max,
    Layout.comp_align, bpadTo_eq, hagg]

theorem union_toLayout_wf (ρ : CompInfo → Layout.Ty) (fs : List Ty) (h : ∀ t ∈ fs, t.LayoutOk ρ) (h2 : 2 ≤ fs.length)
    (hl : fs.length ≤ 2 ^ 64) : (Layout.Ty.union (fs.map (Ty.toLayout ρ))).wf = true := by
  simp only [Layout.Ty.wf, Bool.and_eq_true, decide_eq_true_eq, Layout.wfList_iff, List.length_map]
  refine ⟨⟨?_, h2⟩, ?_⟩
  · intro x hx
    obtain ⟨t, ht, rfl⟩ := List.mem_map.mp hx
    exact Ty.toLayout_wf ρ t (h t ht)
  · unfold Layout.tagBits
    rw [List.length_map, stdWidth_eq _ (by omega)]
    have := pow2ceil8_le (fs.length - 1) (by omega)
    have := Layout.maxAlign_le (fs.map (Ty.toLayout ρ)) fun f _ => Layout.align_cases f
    omega

theorem struct_toLayout_wf (ρ : CompInfo → Layout.Ty) (fs : List Ty) (h : ∀ t ∈ fs, t.LayoutOk ρ) :
    (Layout.Ty.struct (fs.map (Ty.toLayout ρ))).wf = true := by
  simp only [Layout.Ty.wf, Layout.wfList_iff]
  intro x hx
  obtain ⟨t, ht, rfl⟩ := List.mem_map.mp hx
  exact Ty.toLayout_wf ρ t (h t ht)

/-! ### schemas -/

theorem Spec.longest_eq (sc : RSchema) :
    Spec.longest sc = if sc.union then unionMax sc.fieldTys else structMax sc.fieldTys := rfl

theorem RSchema.toLayout_wf (ρ : CompInfo → Layout.Ty) (sc : RSchema) (h : sc.LayoutOk ρ) : (sc.toLayout ρ).wf = true := by
  unfold RSchema.toLayout
  cases hu : sc.union
  · exact struct_toLayout_wf ρ _ h.fields
  · obtain ⟨h2, hl⟩ := h.arity hu
    exact union_toLayout_wf ρ _ h.fields h2 hl

/-- the number the extent rule compares against is `bit_length_set.max` of the translated sealed composite -/
theorem longest_eq_bls_max (ρ : CompInfo → Layout.Ty) (sc : RSchema) (h : sc.LayoutOk ρ) :
    Spec.longest sc = (sc.toLayout ρ).bls.max := by
  rw [Spec.longest_eq]
  unfold RSchema.toLayout
  cases hu : sc.union
  · exact structMax_eq ρ _ h.fields
  · obtain ⟨h2, hl⟩ := h.arity hu
    exact unionMax_eq ρ _ h.fields h2 hl

/-- … hence the greatest element of the Specification's length set of that composite (`den_bls` is C02) -/
theorem longest_is_greatest (ρ : CompInfo → Layout.Ty) (sc : RSchema) (h : sc.LayoutOk ρ) :
    Spec.longest sc ∈ Layout.specLens (sc.toLayout ρ) ∧ ∀ l ∈ Layout.specLens (sc.toLayout ρ), l ≤ Spec.longest sc := by
  have hw := RSchema.toLayout_wf ρ sc h
  rw [longest_eq_bls_max ρ sc h, ← Layout.den_bls _ hw]
  exact max_exact _ (Layout.bls_wf _ hw)

end Rules
