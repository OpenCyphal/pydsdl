import Proofs.WireRelaxed
/-! Relaxed mode is a conservative extension of strict mode: an input that `coerce` accepts as it stands
    (explicit form) is a fixed point of `normalize`, so `serialize … relaxed=true` returns the same bytes. -/
namespace Wire

mutual
/-- every dict that is read against a structure has pairwise distinct keys (as every Python dict has) -/
def DistinctKeys : Ty → Inp → Prop
  | .farr e _, x =>
      match x with
      | .list xs => ∀ y ∈ xs, DistinctKeys e y
      | _ => True
  | .varr e _, x =>
      match x with
      | .list xs => ∀ y ∈ xs, DistinctKeys e y
      | _ => True
  | .struct fs _, x =>
      match x with
      | .dict kvs => (kvs.map Prod.fst).Nodup ∧ ∀ kv ∈ kvs, DistinctKeysField fs kv.1 kv.2
      | _ => True
  | .union fs _, x =>
      match x with
      | .dict kvs => ∀ kv ∈ kvs, DistinctKeysField fs kv.1 kv.2
      | _ => True
  | _, _ => True
def DistinctKeysField : List Ty → Nat → Inp → Prop
  | [], _, _ => True
  | t :: _, 0, x => DistinctKeys t x
  | _ :: ts, k+1, x => DistinctKeysField ts k x
end

theorem mapKvs_fix {f : Nat → Inp → Except Err Inp} :
    ∀ (kvs : List (Nat × Inp)), (∀ kv ∈ kvs, f kv.1 kv.2 = .ok kv.2) → mapKvs f kvs = .ok kvs
  | [], _ => rfl
  | (k, x) :: rest, h => by
      simp only [mapKvs, bind_ok]
      exact ⟨x, h (k, x) (by simp), rest, mapKvs_fix rest (fun kv hkv => h kv (by simp [hkv])), rfl⟩

theorem mapInps_fix {f : Inp → Except Err Inp} :
    ∀ (xs : List Inp), (∀ x ∈ xs, f x = .ok x) → mapInps f xs = .ok xs
  | [], _ => rfl
  | x :: xs, h => by
      simp only [mapInps, bind_ok]
      exact ⟨x, h x (by simp), xs, mapInps_fix xs (fun x' hx' => h x' (by simp [hx'])), rfl⟩

theorem coerceList_mem {f : Inp → Except Err Val} :
    ∀ (xs : List Inp) (vs : List Val), coerceList f xs = .ok vs → ∀ x ∈ xs, ∃ v, f x = .ok v
  | [], _, _, x, hx => by cases hx
  | x0 :: xs, vs, h, x, hx => by
      simp only [coerceList, bind_ok] at h
      obtain ⟨v, hv, vs', hvs, _⟩ := h
      rcases List.mem_cons.mp hx with rfl | hx
      · exact ⟨v, hv⟩
      · exact coerceList_mem xs vs' hvs x hx

theorem seqOf_list {e : Ty} {xs xs' : List Inp} (h : seqOf e (.list xs) = .ok xs') : xs' = xs := by
  cases e <;> simp only [seqOf] at h <;> cases h <;> rfl

theorem lookupKey_of_mem : ∀ (kvs : List (Nat × Inp)) (kv : Nat × Inp), (kvs.map Prod.fst).Nodup → kv ∈ kvs →
    lookupKey kv.1 kvs = some kv.2
  | [], _, _, h => by cases h
  | (k', x') :: rest, kv, hnd, h => by
      simp only [List.map_cons, List.nodup_cons] at hnd
      simp only [lookupKey]
      rcases List.mem_cons.mp h with rfl | h
      · simp
      · have hne : kv.1 ≠ k' := by
          intro hc
          exact hnd.1 (hc ▸ List.mem_map_of_mem (f := Prod.fst) h)
        simp only [beq_iff_eq, hne, if_false]
        exact lookupKey_of_mem rest kv hnd.2 h

/-- a present non-padding field is coerced -/
theorem coerceFields_present : ∀ (ts : List Ty) (i : Nat) (kvs : List (Nat × Inp)) (vs : List Val),
    coerceFields ts i kvs = .ok vs → ∀ (j : Nat) (t : Ty) (x : Inp), ts[j]? = some t → t.isVoid = false →
      lookupKey (i + j) kvs = some x → ∃ v, coerce t x = .ok v
  | [], _, _, _, _, j, t, _, hj, _, _ => by simp at hj
  | t0 :: ts, i, kvs, vs, h, j, t, x, hj, hv, hk => by
      simp only [coerceFields, bind_ok] at h
      obtain ⟨v, hv0, vs', hvs, _⟩ := h
      cases j with
      | zero =>
        simp only [List.getElem?_cons_zero, Option.some.injEq] at hj
        subst hj
        simp only [Nat.add_zero] at hk
        simp only [hv, Bool.false_eq_true, if_false, hk] at hv0
        exact ⟨v, hv0⟩
      | succ j =>
        simp only [List.getElem?_cons_succ] at hj
        exact coerceFields_present ts (i+1) kvs vs' hvs j t x hj hv (by rw [← hk]; congr 1; omega)

theorem coerceVariant_present : ∀ (ts : List Ty) (k : Nat) (x : Inp) (v : Val), coerceVariant ts k x = .ok v →
    ∃ t, ts[k]? = some t ∧ coerce t x = .ok v
  | [], _, _, _, h => by simp [coerceVariant] at h
  | t :: _, 0, x, v, h => by simp only [coerceVariant] at h; exact ⟨t, by simp, h⟩
  | _ :: ts, k+1, x, v, h => by
      simp only [coerceVariant] at h
      simpa using coerceVariant_present ts k x v h

theorem mem_nonPad : ∀ (ts : List Ty) (i j : Nat), isField ts j = true → (i + j) ∈ nonPad ts i
  | [], _, j, h => by simp [isField] at h
  | t :: ts, i, 0, h => by
      simp only [isField, List.getElem?_cons_zero, Bool.not_eq_true'] at h
      simp [nonPad, h]
  | t :: ts, i, j+1, h => by
      have h' : isField ts j = true := by simpa [isField] using h
      have := mem_nonPad ts (i+1) j h'
      have e : i + 1 + j = i + (j + 1) := by omega
      rw [e] at this
      simp only [nonPad]
      split
      · exact this
      · exact List.mem_cons_of_mem _ this

theorem not_bareDict_of_fields (fs : List Ty) (kvs : List (Nat × Inp))
    (h : kvs.all (fun kv => isField fs kv.1) = true) : ¬ bareDict fs kvs := by
  rintro ⟨k, hk, hb⟩
  simp only [Bool.and_eq_true, Bool.not_eq_true', List.isEmpty_eq_false_iff] at hb
  cases kvs with
  | nil => exact hb.1 rfl
  | cons kv rest =>
    simp only [List.all_cons, Bool.and_eq_true] at h
    have := mem_nonPad fs 0 kv.1 h.1
    rw [hk, Nat.zero_add, List.mem_singleton] at this
    simp [hasKey, this] at hb

mutual
theorem normalize_strict : ∀ (t : Ty) (x : Inp) (v : Val), DistinctKeys t x → coerce t x = .ok v →
    normalize t x = .ok x
  | .bool, x, _, _, _ | .uint _ _, x, _, _, _ | .sint _ _, x, _, _, _ | .float _ _, x, _, _, _
  | .byte, x, _, _, _ | .utf8, x, _, _, _ | .void _, x, _, _, _ => by simp only [normalize]
  | .farr e cap, x, v, hd, h | .varr e cap, x, v, hd, h => by
      cases x with
      | list xs =>
        simp only [DistinctKeys] at hd
        simp only [coerce, bind_ok] at h
        obtain ⟨xs', hseq, h⟩ := h
        obtain rfl := seqOf_list hseq
        split at h
        · cases h
        · simp only [bind_ok] at h
          obtain ⟨vs, hvs, _⟩ := h
          simp only [normalize, bind_ok]
          refine ⟨xs', mapInps_fix xs' (fun y hy => ?_), rfl⟩
          obtain ⟨w, hw⟩ := coerceList_mem xs' vs hvs y hy
          exact normalize_strict e y w (hd y hy) hw
      | _ => simp only [normalize]
  | .struct fs m, x, v, hd, h => by
      cases x with
      | dict kvs =>
        simp only [DistinctKeys] at hd
        simp only [coerce] at h
        split at h
        · rename_i hall
          simp only [bind_ok] at h
          obtain ⟨vs, hvs, _⟩ := h
          rw [norm_struct_dict fs m kvs (not_bareDict_of_fields fs kvs hall)]
          simp only [bind_ok]
          refine ⟨kvs, mapKvs_fix kvs (fun kv hkv => ?_), rfl⟩
          have hf : isField fs kv.1 = true := (List.all_eq_true.mp hall) kv hkv
          have hl := lookupKey_of_mem kvs kv hd.1 hkv
          refine normField_strict fs kv.1 kv.2 (hd.2 kv hkv) (fun t ht hv => ?_)
          exact coerceFields_present fs 0 kvs vs hvs kv.1 t kv.2 ht hv (by rw [Nat.zero_add]; exact hl)
        · cases h
      | _ => simp [coerce] at h
  | .union fs m, x, v, hd, h => by
      simp only [coerce] at h
      split at h
      · rename_i k y
        simp only [DistinctKeys] at hd
        split at h
        · rename_i hk
          simp only [bind_ok] at h
          obtain ⟨w, hw, _⟩ := h
          obtain ⟨t, ht, hc⟩ := coerceVariant_present fs k y w hw
          simp only [normalize, hk, if_true, bind_ok]
          refine ⟨y, normField_strict fs k y (hd (k, y) (by simp)) (fun t' ht' _ => ?_), rfl⟩
          rw [ht] at ht'
          cases ht'
          exact ⟨w, hc⟩
        · cases h
      · cases h
theorem normField_strict : ∀ (ts : List Ty) (k : Nat) (x : Inp), DistinctKeysField ts k x →
    (∀ t, ts[k]? = some t → t.isVoid = false → ∃ v, coerce t x = .ok v) → normField ts k x = .ok x
  | [], _, _, _, _ => by simp only [normField]
  | t :: ts, 0, x, hd, h => by
      simp only [DistinctKeysField] at hd
      simp only [normField]
      split
      · rfl
      · rename_i hv
        obtain ⟨v, hv'⟩ := h t (by simp) (by simpa using hv)
        exact normalize_strict t x v hd hv'
  | _ :: ts, k+1, x, hd, h => by
      simp only [DistinctKeysField] at hd
      simp only [normField]
      exact normField_strict ts k x hd (fun t ht hv => h t (by simpa using ht) hv)
end

end Wire
