import Proofs.WireExt
/-! Converse of zero extension: if the zero-extended window decodes, the original window decodes to the same
    value, unless a delimiter header does not fit into the original window (`DelimiterHeaderError`). -/
namespace Wire

theorem dec_extConv (t : Ty) (r r' : R) (v : Val) (q' : R) (h : Ext r r') (hd : dec t r' = .ok (v, q')) :
    (∃ q, dec t r = .ok (v, q) ∧ Ext q q') ∨ dec t r = .error .delimiterHeader :=
  (dec_extSim t r r' h).conv hd

theorem decFields_extConv : ∀ (ts : List Ty) (r r' : R) (vs : List Val) (q' : R), Ext r r' →
    decFields ts r' = .ok (vs, q') →
    (∃ q, decFields ts r = .ok (vs, q) ∧ Ext q q') ∨ decFields ts r = .error .delimiterHeader :=
  fun ts r r' _ _ h hd => (decFields_extSim ts r r' h).conv hd

theorem decVariant_extConv : ∀ (ts : List Ty) (n : Nat) (r r' : R) (v : Val) (q' : R), Ext r r' →
    decVariant ts n r' = .ok (v, q') →
    (∃ q, decVariant ts n r = .ok (v, q) ∧ Ext q q') ∨ decVariant ts n r = .error .delimiterHeader :=
  fun ts n r r' _ _ h hd => (decVariant_extSim ts n r r' h).conv hd

end Wire
