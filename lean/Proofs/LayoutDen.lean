import Proofs.LayoutSpec
/-! `specLens`: the Specification's set of serialized lengths of a type, and `den (T.bls) = specLens T`. -/
open scoped Pointwise
namespace Layout
open Bls

/-- Standard width that holds `x` (0 when none does; excluded by `Ty.wf`). -/
def stdOf (x : ℕ) : ℕ := (smallestStd x).getD 0

mutual
/-- The set of bit lengths of the serialized representations of a type, per the Specification:
    * a primitive / void of width `n` has the single length `n`;
    * a fixed array is `cap` elements back to back; a variable array is the implicit length prefix (smallest
      standard width holding the capacity, not below the element alignment) followed by `0..cap` elements;
    * a structure is its fields in order, each preceded by padding to its alignment, the whole padded to a byte;
    * a union is the tag (smallest standard width holding the largest variant index) followed by one variant,
      padded to a byte;
    * a delimited composite is the 32-bit header followed by any whole number of bytes up to its extent. -/
def specLens : Ty → Finset ℕ
  | .prim n => {n}
  | .void n => {n}
  | .farr e cap => cap • specLens e
  | .varr e cap => {max (stdOf cap) e.align} + (Finset.range (cap + 1)).biUnion fun j => j • specLens e
  | .struct fs => (specSeq {0} fs).image (padTo 8)
  | .union fs => (({max (stdOf (fs.length - 1)) 8} : Finset ℕ) + specUnion fs).image (padTo 8)
  | .delim _ ext => (Finset.range (ext / 8 + 1)).image fun i => 32 + 8 * i
def specSeq (acc : Finset ℕ) : List Ty → Finset ℕ
  | [] => acc
  | f :: fs => specSeq (acc.image (padTo f.align) + specLens f) fs
def specUnion : List Ty → Finset ℕ
  | [] => ∅
  | f :: fs => specLens f ∪ specUnion fs
end

theorem padTo_zero (a : ℕ) (ha : 1 ≤ a) : padTo a 0 = 0 := by
  unfold padTo
  rw [Nat.zero_add, Nat.div_eq_of_lt (by omega)]
  simp

/-- `cat [a, b]` denotes the sum of the two sets. -/
theorem den_cat2 (a b : Op) : den (.cat [a, b]) = den a + den b := by
  rw [den, denSum, denSum, denSum, Finset.singleton_zero, add_zero]

theorem den_leaf1 (n : ℕ) : den (.leaf [n]) = {n} := by rw [den]; rfl

theorem stdWidth_eq_stdOf (n : ℕ) (h : stdWidth n ≤ 64) : stdWidth n = stdOf n ∧ stdOf n ∈ [8, 16, 32, 64] := by
  rcases stdWidth_cases n with ⟨w, hw, hs, he⟩ | ⟨_, hgt⟩
  · rw [stdOf, hs, he]; exact ⟨rfl, hw⟩
  · omega

theorem lenBits_eq (e : Ty) (cap : ℕ) (h : lenBits e cap ≤ 64) : lenBits e cap = max (stdOf cap) e.align := by
  rw [lenBits, (stdWidth_eq_stdOf cap (le_trans (Nat.le_max_left _ _) h)).1]

theorem tagBits_eq (fs : List Ty) (h : tagBits fs ≤ 64) : tagBits fs = max (stdOf (fs.length - 1)) 8 := by
  obtain ⟨he, hm⟩ := stdWidth_eq_stdOf (fs.length - 1) (le_trans (Nat.le_max_left _ _) h)
  have := maxAlign_le fs fun f _ => align_cases f
  have h8 : 8 ≤ stdOf (fs.length - 1) := (by decide : ∀ w ∈ [8, 16, 32, 64], 8 ≤ w) _ hm
  rw [tagBits, he]
  omega

theorem tagBits_mem (fs : List Ty) (h : tagBits fs ≤ 64) : tagBits fs ∈ [8, 16, 32, 64] := by
  obtain ⟨_, hm⟩ := stdWidth_eq_stdOf (fs.length - 1) (le_trans (Nat.le_max_left _ _) h)
  rwa [tagBits_eq fs h, Nat.max_eq_left ((by decide : ∀ w ∈ [8, 16, 32, 64], 8 ≤ w) _ hm)]

theorem den_aggStructFrom (fs : List Ty) (ih : ∀ f ∈ fs, den f.bls = specLens f) (acc : Op) :
    den (aggStructFrom acc fs) = specSeq (den acc) fs := by
  induction fs generalizing acc with
  | nil => rw [aggStructFrom, specSeq]
  | cons f fs ihfs =>
    rw [aggStructFrom, specSeq, ihfs (fun x hx => ih x (List.mem_cons_of_mem _ hx)), den_cat2, den,
      ih f List.mem_cons_self]

theorem den_aggStruct (fs : List Ty) (ih : ∀ f ∈ fs, den f.bls = specLens f) :
    den (aggStruct fs) = specSeq {0} fs := by
  cases fs with
  | nil => rw [aggStruct, specSeq, den_leaf1]
  | cons f fs =>
    rw [aggStruct, specSeq, den_aggStructFrom fs (fun x hx => ih x (List.mem_cons_of_mem _ hx)), Finset.image_singleton,
      padTo_zero _ (one_le_align f), ih f List.mem_cons_self, Finset.singleton_zero, zero_add]

theorem denUnion_blsList (fs : List Ty) (ih : ∀ f ∈ fs, den f.bls = specLens f) :
    denUnion (blsList fs) = specUnion fs := by
  induction fs with
  | nil => rw [blsList, denUnion, specUnion]
  | cons f fs ihfs =>
    rw [blsList, denUnion, specUnion, ih f List.mem_cons_self, ihfs fun x hx => ih x (List.mem_cons_of_mem _ hx)]

theorem nsmul_singleton_nat (j a : ℕ) : j • ({a} : Finset ℕ) = {a * j} := by
  rw [Finset.nsmul_singleton, smul_eq_mul, Nat.mul_comm]

/-- The bit length set expression the library builds for a type denotes the Specification's length set. -/
theorem den_bls : ∀ t : Ty, t.wf = true → den t.bls = specLens t :=
  Ty.wf_induct
    (prim := fun n => by rw [Ty.bls, den_leaf1, specLens])
    (void := fun n => by rw [Ty.bls, den_leaf1, specLens])
    (farr := fun e cap _ _ ih => by rw [Ty.bls, den, ih, specLens])
    (varr := fun e cap _ _ hl ih => by rw [Ty.bls, den_cat2, den_leaf1, den, ih, lenBits_eq e cap hl, specLens])
    (struct := fun fs _ ih => by rw [Ty.bls, den, comp_align, den_aggStruct fs ih, specLens])
    (union := fun fs _ h2 ht ih => by
      rw [Ty.bls, den, comp_align, aggUnion_of_two_le h2, den_cat2, den_leaf1, den, denUnion_blsList _ ih, tagBits_eq _ ht,
        specLens])
    (delim := fun inner ext h _ _ => by
      rw [Ty.bls, den_cat2, den_leaf1, den, hdrBits, delim_inner_align h, specLens]
      ext y
      simp only [den_leaf1, nsmul_singleton_nat, Finset.mem_add, Finset.mem_singleton, Finset.mem_biUnion, Finset.mem_range,
        Finset.mem_image]
      constructor
      · rintro ⟨_, rfl, _, ⟨j, hj, rfl⟩, rfl⟩
        exact ⟨j, hj, rfl⟩
      · rintro ⟨i, hi, rfl⟩
        exact ⟨_, rfl, _, ⟨i, hi, rfl⟩, rfl⟩)
end Layout
