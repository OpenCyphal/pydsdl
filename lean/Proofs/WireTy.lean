import Proofs.WireBasic
/-! What every recursion over the types of the codec needs: an induction principle in which the seven primitive
    types are one case and a delimited composite follows from its sealed twin `Ty.inner`; the codec of the
    primitive types, which all read `maxLen` bits and map them to a value (`Ty.ofBits`); and what `wf`,
    `valid`, `enc` and `dec` say constructor by constructor. -/
namespace Wire

def Ty.isPrim : Ty → Bool
  | .farr _ _ | .varr _ _ | .struct _ _ | .union _ _ => false
  | _ => true

/-- Induction over types: the primitive types are one case, the members of a sealed composite come with their
    hypothesis, and a delimited composite follows from its sealed twin. -/
theorem Ty.induct {P : Ty → Prop}
    (prim : ∀ t, t.isPrim = true → P t)
    (farr : ∀ e cap, P e → P (.farr e cap))
    (varr : ∀ e cap, P e → P (.varr e cap))
    (struct : ∀ fs, (∀ t ∈ fs, P t) → P (.struct fs .sealed))
    (union : ∀ fs, (∀ t ∈ fs, P t) → P (.union fs .sealed))
    (delim : ∀ t, t.isDelimited = true → P t.inner → P t) : ∀ t, P t := by
  refine @Ty.rec P (fun fs => ∀ t ∈ fs, P t) (prim _ rfl) (fun _ _ => prim _ rfl) (fun _ _ => prim _ rfl)
    (fun _ _ => prim _ rfl) (prim _ rfl) (prim _ rfl) (fun _ => prim _ rfl) farr varr ?_ ?_ ?_ ?_
  · intro fs m ih
    cases m with
    | sealed => exact struct fs ih
    | delimited x => exact delim _ rfl (struct fs ih)
  · intro fs m ih
    cases m with
    | sealed => exact union fs ih
    | delimited x => exact delim _ rfl (union fs ih)
  · intro t ht; cases ht
  · intro t ts iht ihts u hu
    rcases List.mem_cons.mp hu with rfl | hu
    · exact iht
    · exact ihts u hu

/-! ### two's complement -/

theorem pow_pos_int (n : Nat) : (0:Int) < (2:Int)^n := Int.pow_pos (by decide)

theorem natCast_lt_two_pow {x n : Nat} (h : x < 2^n) : (x : Int) < (2:Int)^n := by
  have := Int.ofNat_lt.mpr h
  rwa [Int.natCast_pow] at this

/-- for `n ≥ 1`, the powers `2^(n-1)` and `2^n` over `Nat` and over `Int` as one variable and its double -/
theorem two_pow_split (n : Nat) (hn : 1 ≤ n) :
    ∃ H : Nat, 0 < H ∧ 2^(n-1) = H ∧ 2^n = 2 * H ∧ (2:Int)^(n-1) = H ∧ (2:Int)^n = 2 * (H:Int) := by
  obtain ⟨m, rfl⟩ : ∃ m, n = m + 1 := ⟨n - 1, by omega⟩
  refine ⟨2^m, Nat.two_pow_pos m, rfl, by rw [Nat.pow_succ, Nat.mul_comm], by simp, ?_⟩
  rw [Int.pow_succ, Int.mul_comm]
  simp

theorem toTwos_lt (n : Nat) (i : Int) : toTwos n i < 2^n := by
  rw [toTwos, Int.toNat_lt (Int.emod_nonneg i (Int.ne_of_gt (pow_pos_int n))), Int.natCast_pow]
  exact Int.emod_lt_of_pos i (pow_pos_int n)

theorem toTwos_of_range (n : Nat) (i : Int) (h0 : 0 ≤ i) (h1 : i < (2:Int)^n) : (toTwos n i : Int) = i := by
  rw [toTwos, Int.emod_eq_of_lt h0 h1, Int.toNat_of_nonneg h0]

theorem ofTwos_range (n raw : Nat) (hn : 1 ≤ n) (h : raw < 2^n) :
    -((2:Int)^(n-1)) ≤ ofTwos n raw ∧ ofTwos n raw < (2:Int)^(n-1) := by
  obtain ⟨H, _, e1, e2, e3, e4⟩ := two_pow_split n hn
  rw [e2] at h
  simp only [ofTwos, e1, e3, e4]
  omega

theorem ofTwos_toTwos (n : Nat) (i : Int) (hn : 1 ≤ n) (h0 : -((2:Int)^(n-1)) ≤ i) (h1 : i < (2:Int)^(n-1)) :
    ofTwos n (toTwos n i) = i := by
  obtain ⟨H, _, e1, _, e3, e4⟩ := two_pow_split n hn
  rw [e3] at h0 h1
  simp only [ofTwos, toTwos, e1, e4]
  -- the residue of `i` modulo `2H` is `i` or `i + 2H`
  by_cases hi : 0 ≤ i
  · rw [Int.emod_eq_of_lt hi (by omega)]
    omega
  · rw [← Int.add_emod_right, Int.emod_eq_of_lt (by omega) (by omega)]
    omega

theorem ofTwos_zero (n : Nat) : ofTwos n 0 = 0 := by
  rw [ofTwos, if_neg (Nat.not_le.mpr (Nat.two_pow_pos (n-1)))]
  rfl

/-! ### primitive types -/

/-- the value a primitive type makes of the `maxLen` bits it reads -/
def Ty.ofBits : Ty → List Bool → Val
  | .bool, b => .bool (bitsNat b != 0)
  | .sint n _, b => .int (ofTwos n (bitsNat b))
  | .float _ _, b => .flt (bitsNat b)
  | .void _, _ => .unit
  | _, b => .int (bitsNat b)

theorem dec_prim {t : Ty} (hp : t.isPrim = true) (r : R) :
    dec t r = .ok (t.ofBits (takeZ t.maxLen r.s), ⟨r.off + t.maxLen, r.s.drop t.maxLen⟩) := by
  cases t <;> first | rfl | cases hp

/-- a primitive type reads exactly its `maxLen` bits -/
theorem dec_prim_append {t : Ty} (hp : t.isPrim = true) {b : List Bool} (hb : b.length = t.maxLen) (o : Nat)
    (junk : List Bool) : dec t ⟨o, b ++ junk⟩ = .ok (t.ofBits b, ⟨o + b.length, junk⟩) := by
  rw [dec_prim hp, ← hb, takeZ_append_left, List.drop_left]

theorem bitsNat_toTwos (n : Nat) (i : Int) (h0 : 0 ≤ i) (h1 : i < (2:Int)^n) :
    (bitsNat (natBits n (toTwos n i)) : Int) = i := by
  rw [bitsNat_natBits _ _ (toTwos_lt n i), toTwos_of_range n i h0 h1]

theorem wf_sint {n : Nat} {c : Cast} : (Ty.sint n c).wf = true ↔ 2 ≤ n ∧ n ≤ 64 ∧ c = .sat := by
  simp [Ty.wf, and_assoc]

theorem enc_prim {t : Ty} (hp : t.isPrim = true) (hw : t.wf = true) {v : Val} (hv : valid t v = true) :
    ∃ b, b.length = t.maxLen ∧ t.ofBits b = v ∧ ∀ o, enc t v o = b := by
  cases t <;> cases hp <;> cases v <;> try cases hv
  next b => exact ⟨[b], rfl, by cases b <;> rfl, fun _ => rfl⟩
  next n c i =>
    simp only [valid, Bool.and_eq_true, decide_eq_true_eq] at hv
    exact ⟨_, natBits_length _ _, congrArg Val.int (bitsNat_toTwos n i hv.1 hv.2), fun _ => rfl⟩
  next n c i =>
    simp only [valid, Bool.and_eq_true, decide_eq_true_eq] at hv
    refine ⟨natBits n (toTwos n i), natBits_length _ _, congrArg Val.int ?_, fun _ => rfl⟩
    rw [bitsNat_natBits _ _ (toTwos_lt n i), ofTwos_toTwos n i (Nat.le_of_succ_le (wf_sint.mp hw).1) hv.1 hv.2]
  next n c b =>
    simp only [valid, decide_eq_true_eq] at hv
    exact ⟨_, natBits_length _ _, congrArg Val.flt (bitsNat_natBits _ _ hv), fun _ => rfl⟩
  next i =>
    simp only [valid, Bool.and_eq_true, decide_eq_true_eq] at hv
    exact ⟨_, natBits_length _ _, congrArg Val.int (bitsNat_toTwos 8 i hv.1 hv.2), fun _ => rfl⟩
  next i =>
    simp only [valid, Bool.and_eq_true, decide_eq_true_eq] at hv
    exact ⟨_, natBits_length _ _, congrArg Val.int (bitsNat_toTwos 8 i hv.1 hv.2), fun _ => rfl⟩
  next n => exact ⟨zeros n, zeros_length n, rfl, fun _ => rfl⟩

theorem valid_ofBits {t : Ty} (hp : t.isPrim = true) (hw : t.wf = true) {b : List Bool} (hb : b.length = t.maxLen) :
    valid t (t.ofBits b) = true := by
  have hlt := bitsNat_lt b
  rw [hb] at hlt
  cases t <;> cases hp <;> simp only [Ty.ofBits, valid, Ty.maxLen, Bool.and_eq_true, decide_eq_true_eq] at hlt ⊢
  next n c => exact ⟨Int.natCast_nonneg _, natCast_lt_two_pow hlt⟩
  next n c =>
    exact ofTwos_range n _ (Nat.le_of_succ_le (wf_sint.mp hw).1) hlt
  next => exact hlt
  next => exact ⟨Int.natCast_nonneg _, Int.ofNat_lt.mpr hlt⟩
  next => exact ⟨Int.natCast_nonneg _, Int.ofNat_lt.mpr hlt⟩

theorem ofBits_zeros {t : Ty} (hp : t.isPrim = true) (n : Nat) : t.ofBits (zeros n) = dflt t := by
  cases t <;> cases hp <;> simp [Ty.ofBits, dflt, ofTwos_zero]

theorem dflt_valid_prim {t : Ty} (hp : t.isPrim = true) (hw : t.wf = true) : valid t (dflt t) = true :=
  ofBits_zeros hp t.maxLen ▸ valid_ofBits hp hw (zeros_length _)

theorem align_prim {t : Ty} (hp : t.isPrim = true) : t.align = 1 := by
  cases t <;> first | rfl | cases hp

/-! ### `wf` and `valid`, constructor by constructor -/

theorem wf_farr {e : Ty} {cap : Nat} :
    (Ty.farr e cap).wf = true ↔ e.wf = true ∧ 1 ≤ cap ∧ e.isVoid = false ∧ e.isUtf8 = false := by
  simp [Ty.wf, and_assoc]

theorem wf_varr {e : Ty} {cap : Nat} :
    (Ty.varr e cap).wf = true ↔ e.wf = true ∧ 1 ≤ cap ∧ cap < 2^64 ∧ e.isVoid = false := by
  simp [Ty.wf, and_assoc]

theorem wf_struct {fs : List Ty} {m : Mode} :
    (Ty.struct fs m).wf = true ↔ wfFields fs = true ∧ modeOk m (Ty.struct fs .sealed).maxLen = true := by
  simp [Ty.wf]

theorem wf_union {fs : List Ty} {m : Mode} :
    (Ty.union fs m).wf = true ↔ wfFields fs = true ∧ noVoid fs = true ∧ 2 ≤ fs.length ∧ fs.length ≤ 2^64 ∧
      modeOk m (Ty.union fs .sealed).maxLen = true := by
  simp [Ty.wf, and_assoc]

theorem wfFields_cons {t : Ty} {ts : List Ty} :
    wfFields (t :: ts) = true ↔ t.wf = true ∧ t.standalone = true ∧ wfFields ts = true := by
  simp [wfFields, and_assoc]

theorem modeOk_delimited {x n : Nat} : modeOk (.delimited x) n = true ↔ x % 8 = 0 ∧ n ≤ x ∧ x / 8 < 2^32 := by
  simp [modeOk, and_assoc]

theorem isUtf8_eq : ∀ e : Ty, e.isUtf8 = true → e = .utf8
  | .utf8, _ => rfl
  | .bool, h | .uint _ _, h | .sint _ _, h | .float _ _, h | .byte, h | .void _, h
  | .farr _ _, h | .varr _ _, h | .struct _ _, h | .union _ _, h => by cases h

theorem valid_farr {e : Ty} {cap : Nat} {v : Val} :
    valid (.farr e cap) v = true ↔ ∃ vs, v = .arr vs ∧ vs.length = cap ∧ ∀ w ∈ vs, valid e w = true := by
  cases v with
  | arr vs => simp only [valid, Bool.and_eq_true, beq_iff_eq, List.all_eq_true, Val.arr.injEq, exists_eq_left']
  | _ => exact ⟨fun h => (nomatch h), fun ⟨_, h, _⟩ => nomatch h⟩

theorem valid_varr {e : Ty} {cap : Nat} {v : Val} :
    valid (.varr e cap) v = true ↔ ∃ vs, v = .arr vs ∧ vs.length ≤ cap ∧ (∀ w ∈ vs, valid e w = true) ∧
      (e.isUtf8 = false ∨ validUtf8 (vs.map Val.byteOf) = true) := by
  cases v with
  | arr vs =>
    simp only [valid, Bool.and_eq_true, decide_eq_true_eq, List.all_eq_true, Bool.or_eq_true, Bool.not_eq_eq_eq_not,
      Bool.not_true, Val.arr.injEq, exists_eq_left', and_assoc]
  | _ => exact ⟨fun h => (nomatch h), fun ⟨_, h, _⟩ => nomatch h⟩

theorem valid_struct {fs : List Ty} {m : Mode} {v : Val} :
    valid (.struct fs m) v = true ↔ ∃ vs, v = .recd vs ∧ validFields fs vs = true := by
  constructor
  · intro h
    cases v <;> try cases h
    next vs => exact ⟨vs, rfl, h⟩
  · rintro ⟨vs, rfl, h⟩
    exact h

theorem valid_union {fs : List Ty} {m : Mode} {v : Val} :
    valid (.union fs m) v = true ↔ ∃ tag w, v = .var tag w ∧ validVariant fs tag w = true := by
  constructor
  · intro h
    cases v <;> try cases h
    next tag w => exact ⟨tag, w, rfl, h⟩
  · rintro ⟨tag, w, rfl, h⟩
    exact h

theorem validFields_cons {t : Ty} {ts : List Ty} {vs : List Val} :
    validFields (t :: ts) vs = true ↔ ∃ v vs', vs = v :: vs' ∧ valid t v = true ∧ validFields ts vs' = true := by
  cases vs with
  | nil => exact ⟨fun h => (nomatch h), fun ⟨_, _, h, _⟩ => nomatch h⟩
  | cons v vs => simp only [validFields, Bool.and_eq_true, List.cons.injEq, and_assoc, exists_and_left, exists_eq_left']

theorem validFields_nil {vs : List Val} : validFields [] vs = true ↔ vs = [] := by
  cases vs <;> simp [validFields]

/-! ### composites: every mode is the sealed layout `Ty.inner`, wrapped -/

theorem valid_inner (t : Ty) (v : Val) : valid t.inner v = valid t v := by
  cases t <;> first | rfl | (cases v <;> rfl)

theorem wf_inner (t : Ty) (h : t.wf = true) : t.inner.wf = true := by
  cases t <;> try exact h
  · exact wf_struct.mpr ⟨(wf_struct.mp h).1, rfl⟩
  · obtain ⟨h1, h2, h3, h4, _⟩ := wf_union.mp h
    exact wf_union.mpr ⟨h1, h2, h3, h4, rfl⟩

theorem align_inner (t : Ty) : t.inner.align = t.align := by
  cases t <;> rfl

theorem align_of_delimited {t : Ty} (hd : t.isDelimited = true) : t.align = 8 := by
  cases t <;> first | rfl | cases hd

/-- what `wf` demands of the extent `x` of a delimited type -/
theorem extent_of_delimited {t : Ty} (hd : t.isDelimited = true) (hw : t.wf = true) :
    ∃ x, t.maxLen = headerBits + x ∧ x % 8 = 0 ∧ t.inner.maxLen ≤ x ∧ x / 8 < 2^32 := by
  cases t <;> try cases hd
  case struct fs m =>
    cases m <;> try cases hd
    exact ⟨_, rfl, modeOk_delimited.mp (wf_struct.mp hw).2⟩
  case union fs m =>
    cases m <;> try cases hd
    exact ⟨_, rfl, modeOk_delimited.mp (wf_union.mp hw).2.2.2.2⟩

theorem enc_struct (fs : List Ty) (m : Mode) (vs : List Val) (o : Nat) :
    enc (.struct fs m) (.recd vs) o = wrapDelim m o (enc (.struct fs .sealed) (.recd vs)) := by
  cases m <;> rfl

theorem enc_union (fs : List Ty) (m : Mode) (tag : Nat) (w : Val) (o : Nat) :
    enc (.union fs m) (.var tag w) o = wrapDelim m o (enc (.union fs .sealed) (.var tag w)) := by
  cases m <;> rfl

theorem dec_struct (fs : List Ty) (m : Mode) (r : R) :
    dec (.struct fs m) r = unwrapDelim m r (dec (.struct fs .sealed)) := by
  cases m <;> rfl

theorem dec_union (fs : List Ty) (m : Mode) (r : R) :
    dec (.union fs m) r = unwrapDelim m r (dec (.union fs .sealed)) := by
  cases m <;> rfl

theorem dec_delimited {t : Ty} (hd : t.isDelimited = true) (x : Nat) (r : R) :
    dec t r = unwrapDelim (.delimited x) r (dec t.inner) := by
  cases t <;> try cases hd
  all_goals
    rename_i m
    cases m <;> first | rfl | cases hd

theorem enc_delimited {t : Ty} (hd : t.isDelimited = true) {v : Val} (hv : valid t v = true) (x o : Nat) :
    enc t v o = wrapDelim (.delimited x) o (enc t.inner v) := by
  cases t <;> try cases hd
  case struct fs m =>
    obtain ⟨vs, rfl, _⟩ := valid_struct.mp hv
    cases m <;> first | rfl | cases hd
  case union fs m =>
    obtain ⟨tag, w, rfl, _⟩ := valid_union.mp hv
    cases m <;> first | rfl | cases hd

end Wire
