import Proofs.RulesKernel
/-!
  Letter case in `check_name` (C05), for all characters and all names: `lowerChar` is ASCII lower-casing
  (`+ 32` on `A..Z`, identity elsewhere), lowering is idempotent, and `checkName` / `NameOk` / `Reserved ∘ lower`
  do not change when any subset of the letters of a name is written in the other case.
-/
namespace Rules

/-! ### characters by code point -/

theorem char_le_iff (a b : Char) : a ≤ b ↔ a.toNat ≤ b.toNat := by
  rw [Char.le_def, UInt32.le_iff_toNat_le]
  exact Iff.rfl

theorem isUpper_iff (c : Char) : isUpper c = true ↔ 65 ≤ c.toNat ∧ c.toNat ≤ 90 := by
  simp only [isUpper, Bool.and_eq_true, decide_eq_true_eq, char_le_iff, Char.reduceToNat]

theorem isLower_iff (c : Char) : isLower c = true ↔ 97 ≤ c.toNat ∧ c.toNat ≤ 122 := by
  simp only [isLower, Bool.and_eq_true, decide_eq_true_eq, char_le_iff, Char.reduceToNat]

theorem isDigit_iff (c : Char) : isDigit c = true ↔ 48 ≤ c.toNat ∧ c.toNat ≤ 57 := by
  simp only [isDigit, Bool.and_eq_true, decide_eq_true_eq, char_le_iff, Char.reduceToNat]

theorem validFirst_iff (c : Char) :
    validFirst c = true ↔ (65 ≤ c.toNat ∧ c.toNat ≤ 90) ∨ (97 ≤ c.toNat ∧ c.toNat ≤ 122) ∨ c.toNat = 95 := by
  simp only [validFirst, Bool.or_eq_true, isUpper_iff, isLower_iff, beq_iff_eq, ← Char.toNat_inj, Char.reduceToNat, or_assoc]

theorem validCont_iff (c : Char) :
    validCont c = true ↔
      (65 ≤ c.toNat ∧ c.toNat ≤ 90) ∨ (97 ≤ c.toNat ∧ c.toNat ≤ 122) ∨ c.toNat = 95 ∨ (48 ≤ c.toNat ∧ c.toNat ≤ 57) := by
  simp only [validCont, Bool.or_eq_true, validFirst_iff, isDigit_iff, or_assoc]

theorem toNat_ofNat_of_lt {n : Nat} (h : n < 55296) : (Char.ofNat n).toNat = n := by
  unfold Char.ofNat
  rw [dif_pos (Or.inl h)]
  rfl

/-- the `n` characters from code point `a` on -/
def charRange (a n : Nat) : List Char := (List.range n).map fun i => Char.ofNat (a + i)

theorem mem_charRange {a n : Nat} (h : a + n ≤ 55296) (c : Char) : c ∈ charRange a n ↔ a ≤ c.toNat ∧ c.toNat < a + n := by
  simp only [charRange, List.mem_map, List.mem_range]
  constructor
  · rintro ⟨i, hi, rfl⟩
    rw [toNat_ofNat_of_lt (by omega)]
    omega
  · intro hc
    exact ⟨c.toNat - a, by omega, by rw [show a + (c.toNat - a) = c.toNat by omega, Char.ofNat_toNat]⟩

/-! ### `lowerChar` -/

theorem lowerChar_of_not_upper (c : Char) (h : isUpper c = false) : lowerChar c = c := by
  unfold lowerChar
  split <;> first | rfl | (exact absurd h (by decide))

/-- the image of an upper-case letter is the lower-case letter with code point `+ 32` -/
theorem lowerChar_toNat (c : Char) (h : isUpper c = true) : (lowerChar c).toNat = c.toNat + 32 ∧ isLower (lowerChar c) = true := by
  have table : ∀ x ∈ charRange 65 26, (lowerChar x).toNat = x.toNat + 32 := by decide +kernel
  rw [isUpper_iff] at h
  have e := table c ((mem_charRange (by omega) c).mpr (by omega))
  exact ⟨e, (isLower_iff _).mpr (by omega)⟩

theorem lowerChar_of_upper (c : Char) (h : isUpper c = true) : lowerChar c = Char.ofNat (c.toNat + 32) := by
  rw [← (lowerChar_toNat c h).1, Char.ofNat_toNat]

/-- `lowerChar` is ASCII lower-casing: `A..Z` are moved by 32 code points, every other character is unchanged -/
theorem lowerChar_spec (c : Char) :
    (isUpper c = true → lowerChar c = Char.ofNat (c.toNat + 32)) ∧ (isUpper c = false → lowerChar c = c) :=
  ⟨lowerChar_of_upper c, lowerChar_of_not_upper c⟩

theorem not_upper_of_lower {c : Char} (h : isLower c = true) : isUpper c = false := by
  rw [isLower_iff] at h
  rw [Bool.eq_false_iff, Ne, isUpper_iff]
  omega

theorem isUpper_lowerChar (c : Char) : isUpper (lowerChar c) = false := by
  cases h : isUpper c
  · rw [lowerChar_of_not_upper c h]; exact h
  · exact not_upper_of_lower (lowerChar_toNat c h).2

theorem lowerChar_idem (c : Char) : lowerChar (lowerChar c) = lowerChar c :=
  lowerChar_of_not_upper _ (isUpper_lowerChar c)

theorem lower_idem (n : List Char) : lower (lower n) = lower n := by
  unfold lower
  rw [List.map_map]
  exact List.map_congr_left fun c _ => lowerChar_idem c

theorem lower_length (n : List Char) : (lower n).length = n.length := List.length_map ..

/-- two characters have the same lower-case image iff they are equal or the same letter in the two cases -/
theorem lowerChar_eq_iff (a b : Char) :
    lowerChar a = lowerChar b ↔ a = b ∨ (isUpper a = true ∧ b = lowerChar a) ∨ (isUpper b = true ∧ a = lowerChar b) := by
  constructor
  · intro h
    cases ha : isUpper a <;> cases hb : isUpper b
    · left; rw [lowerChar_of_not_upper a ha, lowerChar_of_not_upper b hb] at h; exact h
    · right; right; rw [lowerChar_of_not_upper a ha] at h; exact ⟨rfl, h⟩
    · right; left; rw [lowerChar_of_not_upper b hb] at h; exact ⟨rfl, h.symm⟩
    · left
      have h1 := (lowerChar_toNat a ha).1
      have h2 := (lowerChar_toNat b hb).1
      rw [h] at h1
      exact Char.toNat_inj.mp (by omega)
  · rintro (rfl | ⟨_, rfl⟩ | ⟨_, rfl⟩)
    · rfl
    · exact (lowerChar_idem a).symm
    · exact lowerChar_idem b

/-! ### names that differ only in letter case -/

/-- same length and, position by position, the same character up to ASCII letter case -/
def sameUpToCase (a b : List Char) : Prop :=
  a.length = b.length ∧ ∀ (i : Nat) (h1 : i < a.length) (h2 : i < b.length), lowerChar a[i] = lowerChar b[i]

theorem sameUpToCase_iff (a b : List Char) : sameUpToCase a b ↔ lower a = lower b := by
  unfold sameUpToCase lower
  constructor
  · rintro ⟨hl, h⟩
    apply List.ext_getElem (by simpa using hl)
    intro i h1 h2
    simp only [List.getElem_map]
    exact h i (by simpa using h1) (by simpa using h2)
  · intro h
    have hl : a.length = b.length := by simpa using congrArg List.length h
    refine ⟨hl, fun i h1 h2 => ?_⟩
    have : (a.map lowerChar)[i]'(by simpa using h1) = (b.map lowerChar)[i]'(by simpa using h2) := by
      simp only [h]
    simpa only [List.getElem_map] using this

theorem sameUpToCase_refl (a : List Char) : sameUpToCase a a := (sameUpToCase_iff a a).mpr rfl
theorem sameUpToCase_symm {a b : List Char} (h : sameUpToCase a b) : sameUpToCase b a :=
  (sameUpToCase_iff b a).mpr ((sameUpToCase_iff a b).mp h).symm
theorem sameUpToCase_trans {a b c : List Char} (h1 : sameUpToCase a b) (h2 : sameUpToCase b c) : sameUpToCase a c :=
  (sameUpToCase_iff a c).mpr (((sameUpToCase_iff a b).mp h1).trans ((sameUpToCase_iff b c).mp h2))

/-- a name and its lowered form differ only in letter case -/
theorem sameUpToCase_lower (a : List Char) : sameUpToCase a (lower a) :=
  (sameUpToCase_iff a _).mpr (lower_idem a).symm

/-- the character-set checks do not look at the letter case -/
theorem validFirst_lower (c : Char) : validFirst (lowerChar c) = validFirst c := by
  cases h : isUpper c
  · rw [lowerChar_of_not_upper c h]
  · simp only [validFirst, h, (lowerChar_toNat c h).2, Bool.true_or, Bool.or_true]

theorem validCont_lower (c : Char) : validCont (lowerChar c) = validCont c := by
  cases h : isUpper c
  · rw [lowerChar_of_not_upper c h]
  · simp only [validCont, validFirst, h, (lowerChar_toNat c h).2, Bool.true_or, Bool.or_true]

theorem validFirst_congr {a b : Char} (h : lowerChar a = lowerChar b) : validFirst a = validFirst b := by
  rw [← validFirst_lower a, ← validFirst_lower b, h]

theorem validCont_congr {a b : Char} (h : lowerChar a = lowerChar b) : validCont a = validCont b := by
  rw [← validCont_lower a, ← validCont_lower b, h]

theorem all_validCont_lower (l : List Char) : (lower l).all validCont = l.all validCont := by
  unfold lower
  rw [List.all_map]
  exact congrArg (fun f => l.all f) (funext fun c => validCont_lower c)

/-- `checkName` factors through the lowered name: the character-set check of the lowered name plus the reserved
    words / patterns of the lowered name -/
theorem checkName_eq_lower (s : String) : checkName s = checkName (String.ofList (lower s.toList)) := by
  unfold checkName
  rw [String.toList_ofList]
  cases hs : s.toList with
  | nil => rfl
  | cons c rest =>
    have hl : lower (c :: rest) = lowerChar c :: lower rest := rfl
    simp only [hl]
    rw [← hl, lower_idem, all_validCont_lower, validFirst_lower]

/-- **letter case does not matter**: two names that differ only in the case of some of their ASCII letters get the
    same verdict of `check_name` -/
theorem checkName_sameUpToCase (a b : String) (h : sameUpToCase a.toList b.toList) : checkName a = checkName b := by
  rw [checkName_eq_lower a, checkName_eq_lower b, (sameUpToCase_iff _ _).mp h]

theorem Reserved_sameUpToCase (a b : List Char) (h : sameUpToCase a b) : Reserved (lower a) ↔ Reserved (lower b) := by
  rw [(sameUpToCase_iff a b).mp h]

theorem NameOk_sameUpToCase (a b : String) (h : sameUpToCase a.toList b.toList) : NameOk a ↔ NameOk b := by
  rw [← checkName_iff, ← checkName_iff, checkName_sameUpToCase a b h]

/-! ### writing an arbitrary subset of the letters in the other case -/

/-- the other case of an ASCII letter; every other character unchanged -/
def swapCase (c : Char) : Char :=
  if isUpper c then lowerChar c else if isLower c then Char.ofNat (c.toNat - 32) else c

/-- the upper-case partner of a lower-case letter -/
theorem swapCase_of_lower {c : Char} (h : isLower c = true) :
    swapCase c = Char.ofNat (c.toNat - 32) ∧ (Char.ofNat (c.toNat - 32)).toNat = c.toNat - 32 := by
  have hn := (isLower_iff c).mp h
  unfold swapCase
  rw [not_upper_of_lower h, h]
  exact ⟨rfl, toNat_ofNat_of_lt (by omega)⟩

theorem lowerChar_swapCase (c : Char) : lowerChar (swapCase c) = lowerChar c := by
  cases hu : isUpper c
  · cases hl : isLower c
    · simp only [swapCase, hu, hl, Bool.false_eq_true, if_false]
    · obtain ⟨e, hn⟩ := swapCase_of_lower hl
      rw [isLower_iff] at hl
      rw [e, lowerChar_of_upper _ ((isUpper_iff _).mpr (by omega)), hn, lowerChar_of_not_upper c hu,
        show c.toNat - 32 + 32 = c.toNat by omega, Char.ofNat_toNat]
  · simp only [swapCase, hu, if_true]
    exact lowerChar_idem c

/-- a letter really changes -/
theorem swapCase_ne (c : Char) (h : isUpper c = true ∨ isLower c = true) : swapCase c ≠ c := by
  intro e
  have e := congrArg Char.toNat e
  rcases h with h | h
  · rw [swapCase, if_pos h, (lowerChar_toNat c h).1] at e
    omega
  · rw [(swapCase_of_lower h).1, (swapCase_of_lower h).2] at e
    rw [isLower_iff] at h
    omega

/-- write the characters at the positions selected by `p` in the other case -/
def recase (p : Nat → Bool) (s : List Char) : List Char := s.mapIdx fun i c => if p i then swapCase c else c

theorem sameUpToCase_recase (p : Nat → Bool) (s : List Char) : sameUpToCase s (recase p s) := by
  refine ⟨by simp [recase], fun i h1 h2 => ?_⟩
  simp only [recase, List.getElem_mapIdx]
  split
  · exact (lowerChar_swapCase _).symm
  · rfl

/-- `check_name` gives the same verdict on a name and on the name with any subset of its letters in the other case -/
theorem checkName_recase (p : Nat → Bool) (s : String) : checkName (String.ofList (recase p s.toList)) = checkName s :=
  (checkName_sameUpToCase _ _ (by rw [String.toList_ofList]; exact sameUpToCase_recase p _)).symm

end Rules
