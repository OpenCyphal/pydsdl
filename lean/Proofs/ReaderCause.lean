import Proofs.ReaderCommit
/-! Why an own error carries line `n` (C17.line_cause): either the visit of the statement on line `n` raises it, or line
    `n` holds an attribute statement that was queued successfully and whose commit failed later.  The converse of
    `readText_commit_fault`.  Consequences: the reported line holds a statement (C17.line), and the reported path is that
    of a definition that fails on its own (C17.path). -/
namespace Reader

theorem commitFails_reason {s : St} {a : Attr} {b : Bool} (h : commitFails s a b = true) :
    b = true ∨ (a.core.kind ≠ .const ∧ s.cur.union = true) := by
  simp only [commitFails, Bool.or_eq_true, Bool.and_eq_true, bne_iff_ne] at h
  exact h.imp id fun h => ⟨h.1, h.2.1⟩

/-- behind a statement only that statement's own attribute can be queued -/
theorem visitStmt_pending {c k l st s s' a b} (hi : s.inv)
    (h : visitStmt c k l st s = .ok s') (hp : s'.pending = some (a, b)) : (∃ core, st = .attr core) ∧ a.line = k := by
  obtain ⟨_, w, rfl, _⟩ := visitStmt_ok hi h
  have hr := (ready_flat hi l w).1
  cases st with
  | attr core => cases hp; exact ⟨⟨core, rfl⟩, rfl⟩
  | directive name ev text => rw [show ((s.ready l w).handled c k l (.directive name ev text)).pending = none from hr] at hp; cases hp
  | marker => rw [show ((s.ready l w).handled c k l .marker).pending = none from hr] at hp; cases hp

/-- the attribute that line `n` has queued cannot be committed from `t`, a state that still holds what the visit of line
    `n` left: the error carries line `n`, and there are two possible reasons -/
theorem attr_cause {c n l core s0 s1 k} {t : St} (hi : s0.inv) (hn : 0 < n) (hvis : visitStmt c n l (.attr core) s0 = .ok s1)
    (hf : t.flushFails = true) (hp : t.pending = s1.pending) (hu : t.cur.union = s1.cur.union) :
    AttrLine s1 k = n ∧ (l.fault = some .commit ∨ (core.kind ≠ .const ∧ s1.cur.union = true)) := by
  obtain ⟨_, q2, q3⟩ := visitStmt_attr_queued hi hvis
  obtain ⟨_, a, b, hpt, hc⟩ := (flushFails_iff t).mp hf
  rw [hp, q3] at hpt
  cases hpt
  refine ⟨by simp [AttrLine, q2, Nat.ne_of_gt hn], (commitFails_reason hc).imp (by simp) fun h => ⟨h.1, ?_⟩⟩
  rw [← hu]; exact h.2

/-! ### where the queued attribute comes from -/

/-- if an attribute is queued, it is the attribute of a line `l` of the visited part whose statement was visited
    successfully; only statement-less lines have been visited since, and they have changed nothing but the comment -/
def Queued (c : Ctx) (w : W) (done : List Line) (s : St) : Prop :=
  s.pending.isSome →
    ∃ pre l gap core s0 s1 t, done = pre ++ l :: gap ∧ l.stmt = some (.attr core) ∧
      runLines c 1 (St.init w) pre = .ok s0 ∧ visitStmt c (lineAfter 1 pre) l (.attr core) s0 = .ok s1 ∧
      (∀ x ∈ gap, x.stmt = none) ∧ s = { s1 with comment := t }

/-- why the own error of a read carries line `n`, and with which world it leaves -/
def LineCause (c : Ctx) (w : W) (ls : List Line) (n : Nat) (w' : W) : Prop :=
  ∃ pre l post s0, ls = pre ++ l :: post ∧ n = lineAfter 1 pre ∧ runLines c 1 (St.init w) pre = .ok s0 ∧
    ((∃ st, l.stmt = some st ∧ visitStmt c n l st s0 = .error (⟨c.self, some n⟩, w')) ∨
     (∃ core s1, l.stmt = some (.attr core) ∧ visitStmt c n l (.attr core) s0 = .ok s1 ∧ w' = s1.w ∧
        (l.fault = some .commit ∨ (core.kind ≠ .const ∧ s1.cur.union = true))))

theorem lineAfter_append_one (k : Nat) (ls : List Line) (l : Line) : lineAfter k (ls ++ [l]) = l.next (lineAfter k ls) := by
  simp [lineAfter, List.foldl_append]

/-- a failed commit of the queued attribute, read against its origin: `t` is the state that is flushed, it still holds what
    `s` held -/
theorem Queued.cause {c w done s post k} (hq : Queued c w done s) {t : St} (hf : t.flushFails = true)
    (hp : t.pending = s.pending) (hu : t.cur.union = s.cur.union) :
    LineCause c w (done ++ post) (AttrLine s k) s.w := by
  obtain ⟨pre, l, gap, core, s0, s1, t0, hd, hs, hrun, hvis, _, rfl⟩ := hq (hp ▸ flushFails_pending hf)
  obtain ⟨ha, hr⟩ := attr_cause (k := k) (runLines_spec pre (inv_init w) hrun).1 (lineAfter_pos pre 1 (by omega)) hvis hf hp hu
  show LineCause c w (done ++ post) (AttrLine s1 k) s1.w
  rw [ha]
  exact ⟨pre, l, gap ++ post, s0, by rw [hd]; simp, rfl, hrun, Or.inr ⟨core, s1, hs, hvis, rfl, hr⟩⟩

theorem Queued.step {c w done s l s1} (hrun : runLines c 1 (St.init w) done = .ok s) (hq : Queued c w done s)
    (h : stepLine c (lineAfter 1 done) s l = .ok s1) : Queued c w (done ++ [l]) s1 := by
  intro hp
  have hi := (runLines_spec done (inv_init w) hrun).1
  rw [stepLine_eq, bind_ok] at h
  obtain ⟨s1', h1, h⟩ := h
  -- something is still queued behind the line end, so the line end did not flush
  have hs1 : s1'.inv → ∃ t, s1 = { s1' with comment := t } := by
    intro hi'
    obtain ⟨t, ht⟩ := addLineComment_eq l s1'
    unfold tail at h
    split at h
    · obtain ⟨_, rfl⟩ := flush_ok h
      rw [ht, flushed_pending (s := { s1' with comment := t }) hi'] at hp; cases hp
    · cases h; exact ⟨t, ht⟩
  cases hs : l.stmt with
  | none =>
    -- queued before; this line holds no statement
    rw [hs] at h1; cases h1
    obtain ⟨t, rfl⟩ := hs1 hi
    obtain ⟨pre, l0, gap, core, s0, s1r, t0, hd, hs0, hrun0, hvis, hg, rfl⟩ := hq hp
    refine ⟨pre, l0, gap ++ [l], core, s0, s1r, t, by rw [hd]; simp, hs0, hrun0, hvis, ?_, rfl⟩
    intro x hx
    rcases List.mem_append.mp hx with hx | hx
    · exact hg x hx
    · rw [List.mem_singleton.mp hx]; exact hs
  | some st =>
    -- the attribute of this very line
    rw [hs] at h1
    obtain ⟨_, w3, e1, _⟩ := visitStmt_ok hi h1
    obtain ⟨t, rfl⟩ := hs1 (e1 ▸ handled_inv _ _ _ _ (ready_flat hi l w3).1 (ready_flat hi l w3).2.1)
    obtain ⟨⟨a, b⟩, hp'⟩ := Option.isSome_iff_exists.mp hp
    obtain ⟨⟨core, rfl⟩, _⟩ := visitStmt_pending hi h1 hp'
    exact ⟨done, l, [], core, s, s1', t, rfl, hs, hrun, h1, by simp, rfl⟩

theorem runLines_snoc {c w done s l s1} (hrun : runLines c 1 (St.init w) done = .ok s)
    (h : stepLine c (lineAfter 1 done) s l = .ok s1) : runLines c 1 (St.init w) (done ++ [l]) = .ok s1 := by
  rw [runLines_append, hrun]
  simp only [ok_bind, runLines, h]

theorem Queued.run {c w} (ls : List Line) : ∀ done s s', runLines c 1 (St.init w) done = .ok s → Queued c w done s →
    runLines c (lineAfter 1 done) s ls = .ok s' → Queued c w (done ++ ls) s' := by
  induction ls with
  | nil => intro done s s' _ hq h; cases h; simpa using hq
  | cons l ls ih =>
    intro done s s' hrun hq h
    simp only [runLines, bind_ok] at h
    obtain ⟨s1, h1, h2⟩ := h
    have := ih (done ++ [l]) s1 s' (runLines_snoc hrun h1) (hq.step hrun h1) (by rw [lineAfter_append_one]; exact h2)
    simpa using this

theorem Queued.init (c : Ctx) (w : W) : Queued c w [] (St.init w) := by
  intro hp; cases hp

/-- the error of one line, read against the origin of the queued attribute -/
theorem stepLine_cause {c w done s l post e w'} (hrun : runLines c 1 (St.init w) done = .ok s) (hq : Queued c w done s)
    (h : stepLine c (lineAfter 1 done) s l = .error (e, w')) :
    DepErr c l e ∨ ∃ n, e = ⟨c.self, some n⟩ ∧ LineCause c w (done ++ l :: post) n w' := by
  have hk : 0 < lineAfter 1 done := lineAfter_pos done 1 (by omega)
  have hi := (runLines_spec done (inv_init w) hrun).1
  rw [stepLine_eq, bind_err] at h
  rcases h with h | ⟨s1, h1, h⟩
  · cases hs : l.stmt with
    | none => rw [hs] at h; cases h
    | some st =>
      rw [hs] at h
      rcases visitStmt_err hi h with ⟨he, _⟩ | hdep | ⟨hf, he, hw⟩
      · exact Or.inr ⟨_, he, done, l, post, s, rfl, rfl, hrun, Or.inl ⟨st, hs, by rw [he] at h; exact h⟩⟩
      · exact Or.inl hdep
      · rw [hw]
        exact Or.inr ⟨_, he, hq.cause hf (by rw [markOffs_eq]) (by rw [markOffs_eq])⟩
  · right
    unfold tail at h
    split at h
    · obtain ⟨hf, hx⟩ := flush_err h
      cases hx
      obtain ⟨t, ht⟩ := addLineComment_eq l s1
      rw [ht] at hf ⊢
      cases hs : l.stmt with
      | none =>
        rw [hs] at h1; cases h1
        exact ⟨_, rfl, hq.cause hf rfl rfl⟩
      | some st =>
        rw [hs] at h1
        obtain ⟨⟨a, b⟩, hp⟩ := Option.isSome_iff_exists.mp (flushFails_pending hf)
        obtain ⟨⟨core, rfl⟩, _⟩ := visitStmt_pending hi h1 hp
        obtain ⟨ha, hr⟩ := attr_cause (k := lineAfter 1 done) hi hk h1 hf rfl rfl
        exact ⟨_, congrArg _ (congrArg _ ha), done, l, post, s, rfl, rfl, hrun, Or.inr ⟨core, s1, hs, h1, rfl, hr⟩⟩
    · cases h

theorem runLines_cause {c w} (ls : List Line) : ∀ done s e w', runLines c 1 (St.init w) done = .ok s → Queued c w done s →
    runLines c (lineAfter 1 done) s ls = .error (e, w') →
    (∃ l ∈ ls, DepErr c l e) ∨ ∃ n, e = ⟨c.self, some n⟩ ∧ LineCause c w (done ++ ls) n w' := by
  induction ls with
  | nil => intro done s e w' _ _ h; simp [runLines] at h
  | cons l ls ih =>
    intro done s e w' hrun hq h
    simp only [runLines] at h
    rw [bind_err] at h
    rcases h with h | ⟨s1, h1, h⟩
    · rcases stepLine_cause (post := ls) hrun hq h with hd | hc
      · left; exact ⟨l, List.mem_cons_self .., hd⟩
      · right; exact hc
    · rcases ih (done ++ [l]) s1 e w' (runLines_snoc hrun h1) (hq.step hrun h1)
        (by rw [lineAfter_append_one]; exact h) with ⟨l', hm, hd⟩ | hc
      · left; exact ⟨l', List.mem_cons_of_mem _ hm, hd⟩
      · right; simpa using hc

/-- a failed read of a text that matches the grammar, with the world it leaves -/
theorem readText_cause {c ls w e w'} (hsyn : firstSyntaxError 1 ls = none) (h : readText c ls w = .error (e, w')) :
    (∃ l ∈ ls, DepErr c l e) ∨ (e = ⟨c.self, none⟩ ∧ ∃ s, runLines c 1 (St.init w) ls = .ok s ∧ w' = s.w) ∨
    ∃ n, e = ⟨c.self, some n⟩ ∧ LineCause c w ls n w' := by
  rcases readText_err_cases h with ⟨k, hk, _⟩ | ⟨_, h | ⟨s, hs, h | ⟨_, hx⟩⟩⟩
  · rw [hsyn] at hk; cases hk
  · rcases runLines_cause ls [] _ e w' rfl (Queued.init c w) h with hd | hc
    · exact Or.inl hd
    · exact Or.inr (Or.inr (by simpa using hc))
  · have hq : Queued c w ls s := by
      have := Queued.run (c := c) (w := w) ls [] _ s rfl (Queued.init c w) hs
      simpa using this
    obtain ⟨hf, hx⟩ := flush_err h
    cases hx
    have := hq.cause (post := []) (k := lastLine 1 ls) hf rfl rfl
    exact Or.inr (Or.inr ⟨_, rfl, by simpa using this⟩)
  · cases hx; exact Or.inr (Or.inl ⟨rfl, s, hs, rfl⟩)

/-- END TO END: a failed read of a text that matches the grammar reports the untouched error of a referenced definition,
    or the own path without a line (finalize), or the own path with a line `n` such that
      * the visit of the statement on line `n` (in the state the lines in front of it leave) raises exactly this error, or
      * line `n` holds an attribute statement that was queued successfully and whose commit failed: its constructor
        raises (`commit` fault), or it is a field/padding of a union. -/
theorem readText_line_cause {c ls w e w'} (hsyn : firstSyntaxError 1 ls = none) (h : readText c ls w = .error (e, w')) :
    (∃ l ∈ ls, DepErr c l e) ∨ e = ⟨c.self, none⟩ ∨ ∃ n, e = ⟨c.self, some n⟩ ∧ LineCause c w ls n w' :=
  (readText_cause hsyn h).imp id (Or.imp And.left id)

/-! ### the reported line holds a statement -/

theorem lineAfter_mem_culprit (pre : List Line) {l : Line} (post : List Line) (h : l.stmt.isSome) :
    ∀ k, lineAfter k pre ∈ culpritLineNos k (pre ++ l :: post) := by
  induction pre with
  | nil => intro k; exact mem_culprit_cons.mpr (Or.inl ⟨rfl, by simp [h]⟩)
  | cons x pre ih => intro k; exact mem_culprit_cons.mpr (Or.inr (ih (x.next k)))

theorem LineCause.mem_culprit {c w ls n w'} (h : LineCause c w ls n w') : n ∈ culpritLineNos 1 ls := by
  obtain ⟨pre, l, post, s0, rfl, rfl, _, ⟨st, hs, _⟩ | ⟨core, s1, hs, _⟩⟩ := h <;>
    exact lineAfter_mem_culprit pre post (by simp [hs]) 1

/-- a failed read: the untouched error of a referenced definition, or an own error without a line (finalize), or an own
    error whose line is the number of a line that holds a statement (or does not match the grammar) -/
theorem readText_err {c ls w e w'} (h : readText c ls w = .error (e, w')) :
    (∃ l ∈ ls, DepErr c l e) ∨ e = ⟨c.self, none⟩ ∨ ∃ n, e = ⟨c.self, some n⟩ ∧ n ∈ culpritLineNos 1 ls := by
  cases hsyn : firstSyntaxError 1 ls with
  | some k =>
    have hx : (e, w') = (⟨c.self, some k⟩, w) := by
      unfold readText at h; rw [hsyn] at h; cases h; rfl
    cases hx
    exact Or.inr (Or.inr ⟨k, rfl, firstSyntaxError_mem _ _ hsyn⟩)
  | none => exact (readText_cause hsyn h).imp id (Or.imp And.left fun ⟨n, he, hc⟩ => ⟨n, he, hc.mem_culprit⟩)

/-! ### the path of an error, at any dependency depth -/

/-- the definition at the reported path fails on its own: reading it raises exactly this error -/
def FailsItself (defs : List Def) (e : Err) : Prop :=
  ∃ pf fuel w0 w1 d, defs[e.file]? = some d ∧
    readText ⟨e.file, pf, defs.length, readDef fuel defs pf, d.finalFault⟩ d.lines w0 = .error (e, w1) ∧
    (e.line = none ∨ ∃ n, e.line = some n ∧ n ∈ culpritLineNos 1 d.lines)

/-- a failed read of definition `i`: an own error, or the error of a referenced definition, for which `hdep` answers -/
theorem readText_path {defs : List Def} {pf fuel i d w e w1} (hd : defs[i]? = some d)
    (hdep : ∀ w j w' e, j < defs.length → readDef fuel defs pf w j = (w', some e) →
      FailsItself defs e ∨ e = ⟨defs.length, none⟩)
    (hr : readText ⟨i, pf, defs.length, readDef fuel defs pf, d.finalFault⟩ d.lines w = .error (e, w1)) :
    FailsItself defs e ∨ e = ⟨defs.length, none⟩ := by
  rcases readText_err hr with ⟨l, _, w0, j, w2, _, hj, hj'⟩ | hown | ⟨n, hown, hn⟩
  · exact hdep _ _ _ _ hj hj'
  · cases hown; exact Or.inl ⟨pf, fuel, w, w1, d, hd, hr, Or.inl rfl⟩
  · cases hown; exact Or.inl ⟨pf, fuel, w, w1, d, hd, hr, Or.inr ⟨n, rfl, hn⟩⟩

theorem readDef_path (defs : List Def) (pf : Nat) : ∀ fuel w i w' e, i < defs.length → readDef fuel defs pf w i = (w', some e) →
    FailsItself defs e ∨ e = ⟨defs.length, none⟩ := by
  intro fuel
  induction fuel with
  | zero => intro w i w' e _ h; cases h; exact Or.inr rfl
  | succ fuel ih =>
    intro w i w' e hi h
    unfold readDef at h
    split at h
    · cases h
    · simp only [List.getElem?_eq_getElem hi] at h
      split at h
      · cases h
      · rename_i hr
        cases h
        exact readText_path (List.getElem?_eq_getElem hi) ih hr

/-- … and for the targets of a namespace -/
theorem readTargets_path (defs : List Def) : ∀ ts w acc e w', (∀ t ∈ ts, t < defs.length) →
    readTargets defs ts w acc = .error (e, w') → FailsItself defs e ∨ e = ⟨defs.length, none⟩ := by
  intro ts
  induction ts with
  | nil => intro w acc e w' _ h; cases h
  | cons t ts ih =>
    intro w acc e w' ht h
    have hts : ∀ x ∈ ts, x < defs.length := fun x hx => ht x (List.mem_cons_of_mem _ hx)
    have hi : t < defs.length := ht t (List.mem_cons_self ..)
    unfold readTargets at h
    split at h
    · exact ih _ _ _ _ hts h
    · simp only [List.getElem?_eq_getElem hi] at h
      split at h
      · exact ih _ _ _ _ hts h
      · rename_i hr
        cases h
        exact readText_path (List.getElem?_eq_getElem hi) (readDef_path defs t defs.length) hr

end Reader
