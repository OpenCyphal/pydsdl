import Model.Float
import Mathlib.Tactic.Ring
import Mathlib.Tactic.Linarith
import Mathlib.Tactic.NormNum
import Mathlib.Tactic.Positivity
import Mathlib.Data.Rat.Defs
import Mathlib.Algebra.Order.Field.Rat
import Mathlib.Algebra.Order.Field.Basic
import Mathlib.Tactic.FieldSimp
import Mathlib.Data.Rat.Cast.Order
/-!
  Lemmas about `Model/Float.lean` (IEEE-754 binary formats in exact integer arithmetic): bit length, round-half-even
  of a quotient, order and injectivity of pattern values, `roundScaled` (exact on the numbers of the format, nearest,
  ties to even, overflow threshold, monotone), then what `roundBinary` / `roundRat` return in terms of `roundScaled`
  and how distances over the rationals reduce to distances of integers.  The property theorems are proved from these
  in `Props/C06Float.lean`.

  Two characterisations carry the arithmetic: `le_rhe_iff` (which integers lie at or below a quotient rounded half to
  even) and `spacing_le_iff` (which binade a quotient lies in).  Distances are compared in `ℤ`, scaled by the
  denominators, and only carried over to `ℚ` for the statements about `roundBinary`.
-/
namespace WireFloat

/-! ### bit length -/

theorem blenAux_zero (fuel : Nat) : blenAux fuel 0 = 0 := by cases fuel <;> rfl

theorem blenAux_spec : ∀ fuel n, n ≤ fuel → n < 2 ^ blenAux fuel n ∧ (n ≠ 0 → 2 ^ blenAux fuel n ≤ 2 * n)
  | 0, n, h => by
    obtain rfl : n = 0 := by omega
    simp [blenAux]
  | fuel + 1, n, h => by
    unfold blenAux
    by_cases hn : n = 0
    · simp [hn]
    · rw [if_neg hn, Nat.pow_succ]
      have ih := blenAux_spec fuel (n / 2) (by omega)
      refine ⟨by omega, fun _ => ?_⟩
      by_cases h2 : n / 2 = 0
      · rw [h2, blenAux_zero]; omega
      · have := ih.2 h2; omega

theorem blen_lt (n : Nat) : n < 2 ^ blen n := (blenAux_spec n n (Nat.le_refl n)).1

theorem two_pow_blen_le {n : Nat} (h : n ≠ 0) : 2 ^ blen n ≤ 2 * n := (blenAux_spec n n (Nat.le_refl n)).2 h

/-- `blen n` is the least `L` with `n < 2^L`. -/
theorem blen_le_iff {n L : Nat} : blen n ≤ L ↔ n < 2 ^ L := by
  constructor
  · intro h
    exact Nat.lt_of_lt_of_le (blen_lt n) (Nat.pow_le_pow_right (by decide) h)
  · intro h
    by_contra hc
    have hn : n ≠ 0 := by
      rintro rfl
      exact hc (by simp [blen, blenAux])
    have h1 := two_pow_blen_le hn
    have h2 : 2 ^ (L + 1) ≤ 2 ^ blen n := Nat.pow_le_pow_right (by decide) (by omega)
    rw [Nat.pow_succ] at h2
    omega

theorem blen_eq {n L : Nat} (h1 : 2 ^ L ≤ n) (h2 : n < 2 ^ (L + 1)) : blen n = L + 1 :=
  Nat.le_antisymm (blen_le_iff.mpr h2) (Nat.lt_of_not_le fun h => by have := blen_le_iff.mp h; omega)

/-! ### round half even of a quotient -/

section rhe
variable {N D : Nat}

/-- `rhe N D` is the quotient or its successor, by the remainder and, at one half, the parity of the quotient. -/
theorem rhe_cases (N D : Nat) :
    (rhe N D = N / D ∧ (2 * (N % D) < D ∨ 2 * (N % D) = D ∧ N / D % 2 = 0)) ∨
    (rhe N D = N / D + 1 ∧ (D < 2 * (N % D) ∨ 2 * (N % D) = D ∧ N / D % 2 = 1)) := by
  unfold rhe
  split_ifs <;> omega

theorem rhe_ge (N D : Nat) : N / D ≤ rhe N D := by
  rcases rhe_cases N D with h | h <;> omega

theorem rhe_le (N D : Nat) : rhe N D ≤ N / D + 1 := by
  rcases rhe_cases N D with h | h <;> omega

/-- `z ≤ rhe N D` iff `N / D ≥ z - 1/2`, strictly so for odd `z`: a tie below an odd `z` goes down to `z - 1`. -/
theorem le_rhe_iff (hD : 0 < D) (z : Nat) : z ≤ rhe N D ↔ 2 * (z * D) + z % 2 ≤ 2 * N + D := by
  have e := Nat.div_add_mod' N D
  have hr := Nat.mod_lt N hD
  have hc := rhe_cases N D
  rcases Nat.lt_trichotomy z (N / D + 1) with hz | rfl | hz
  · have : z * D ≤ N / D * D := Nat.mul_le_mul_right D (by omega)
    constructor <;> intro <;> omega
  · rw [Nat.add_mul, Nat.one_mul]
    constructor <;> intro <;> omega
  · have : (N / D + 2) * D ≤ z * D := Nat.mul_le_mul_right D hz
    rw [Nat.add_mul] at this
    constructor <;> intro <;> omega

theorem rhe_mono (hD : 0 < D) {N N' : Nat} (h : N ≤ N') : rhe N D ≤ rhe N' D := by
  have := (le_rhe_iff (N := N) hD (rhe N D)).mp (Nat.le_refl _)
  exact (le_rhe_iff hD _).mpr (by omega)

theorem rhe_mul (hD : 0 < D) (z : Nat) : rhe (z * D) D = z := by
  unfold rhe
  rw [Nat.mul_mod_left, Nat.mul_div_cancel _ hD]
  simp [hD]

theorem rhe_scale (N D c : Nat) (hc : 0 < c) : rhe (N * c) (D * c) = rhe N D := by
  unfold rhe
  rw [Nat.mul_mod_mul_right, Nat.mul_div_mul_right _ _ hc]
  simp only [← Nat.mul_assoc, Nat.mul_lt_mul_right hc]

/-- `rhe N D` is within half of `N / D`, and even when exactly half away. -/
theorem rhe_half (hD : 0 < D) :
    2 * |(rhe N D : Int) * D - N| ≤ D ∧ (2 * |(rhe N D : Int) * D - N| = D → rhe N D % 2 = 0) := by
  have h1 := (le_rhe_iff (N := N) hD (rhe N D)).mp (Nat.le_refl _)
  have h2 := (le_rhe_iff (N := N) hD (rhe N D + 1)).not.mp (Nat.not_succ_le_self _)
  rw [Nat.add_mul, Nat.one_mul] at h2
  rcases abs_cases ((rhe N D : Int) * D - N) with ⟨h, _⟩ | ⟨h, _⟩ <;> rw [h] <;> omega

/-- Two different multiples of `D` cannot both be less than `D / 2` away from `N`. -/
theorem grid_gap {m z D : Int} (N : Int) (hD : 0 ≤ D) (hz : z ≠ m) : D ≤ |z * D - N| + |m * D - N| := by
  have h1 : D ≤ |z - m| * D := le_mul_of_one_le_left hD (Int.one_le_abs (sub_ne_zero.mpr hz))
  have h2 : |z - m| * D = |z * D - N - (m * D - N)| := by
    rw [← abs_of_nonneg hD, ← abs_mul, abs_of_nonneg hD]
    congr 1; ring
  exact h1.trans (h2 ▸ abs_sub _ _)

/-- No integer is closer to `N / D` than `rhe N D`. -/
theorem rhe_nearest (hD : 0 < D) (z : Nat) : |(rhe N D : Int) * D - N| ≤ |(z : Int) * D - N| := by
  by_cases hz : (z : Int) = rhe N D
  · rw [hz]
  · have := grid_gap (N : Int) (Int.natCast_nonneg D) hz
    have := (rhe_half (N := N) hD).1
    omega

/-- Ties: when another integer is as close to `N / D` as `rhe N D`, the latter is even. -/
theorem rhe_tie_even (hD : 0 < D) (z : Nat) (hz : z ≠ rhe N D)
    (h : |(z : Int) * D - N| = |(rhe N D : Int) * D - N|) : rhe N D % 2 = 0 := by
  have hg := grid_gap (N : Int) (Int.natCast_nonneg D) (Nat.cast_injective.ne hz)
  obtain ⟨h1, h2⟩ := rhe_half (N := N) hD
  exact h2 (by omega)

end rhe

/-! ### patterns and their values -/

theorem decodeScaled_pat (mb E M : Nat) (hM : M < 2 ^ mb) :
    decodeScaled mb (E * 2 ^ mb + M) = if E = 0 then M else (2 ^ mb + M) * 2 ^ (E - 1) := by
  unfold decodeScaled
  rw [Nat.add_comm, Nat.add_mul_div_right _ _ (Nat.two_pow_pos mb), Nat.add_mul_mod_self_right,
    Nat.div_eq_of_lt hM, Nat.mod_eq_of_lt hM, Nat.zero_add]

theorem decodeScaled_zero (mb : Nat) : decodeScaled mb 0 = 0 := by
  unfold decodeScaled
  rw [Nat.zero_div, if_pos rfl, Nat.zero_mod]

theorem decodeScaled_lt (mb b : Nat) : decodeScaled mb b < 2 ^ (mb + b / 2 ^ mb) := by
  have hM := Nat.mod_lt b (Nat.two_pow_pos mb)
  unfold decodeScaled
  split
  · rename_i h; rw [h]; exact hM
  · rename_i h
    obtain ⟨E, hE⟩ : ∃ E, b / 2 ^ mb = E + 1 := ⟨_, (Nat.succ_pred_eq_of_ne_zero h).symm⟩
    rw [hE, Nat.add_sub_cancel, ← Nat.add_assoc, Nat.add_right_comm, Nat.pow_add, Nat.pow_succ]
    exact Nat.mul_lt_mul_of_pos_right (by omega) (Nat.two_pow_pos _)

theorem decodeScaled_ge (mb b : Nat) (h : b / 2 ^ mb ≠ 0) : 2 ^ (mb + (b / 2 ^ mb - 1)) ≤ decodeScaled mb b := by
  unfold decodeScaled
  rw [if_neg h, Nat.pow_add]
  exact Nat.mul_le_mul_right _ (Nat.le_add_right _ _)

/-- The order of the patterns is the order of their values. -/
theorem decodeScaled_strictMono (mb : Nat) : StrictMono (decodeScaled mb) := by
  intro a b h
  have ea := Nat.div_add_mod' a (2 ^ mb)
  have eb := Nat.div_add_mod' b (2 ^ mb)
  have hMb := Nat.mod_lt b (Nat.two_pow_pos mb)
  rcases Nat.lt_trichotomy (a / 2 ^ mb) (b / 2 ^ mb) with hE | hE | hE
  · -- a smaller exponent field: the whole binade of `a` lies below that of `b`
    calc decodeScaled mb a < 2 ^ (mb + a / 2 ^ mb) := decodeScaled_lt mb a
      _ ≤ 2 ^ (mb + (b / 2 ^ mb - 1)) := Nat.pow_le_pow_right (by decide) (by omega)
      _ ≤ decodeScaled mb b := decodeScaled_ge mb b (Nat.ne_of_gt (Nat.zero_lt_of_lt hE))
  · have hM : a % 2 ^ mb < b % 2 ^ mb := by rw [hE] at ea; omega
    unfold decodeScaled
    rw [hE]
    split
    · exact hM
    · exact Nat.mul_lt_mul_of_pos_right (by omega) (Nat.two_pow_pos _)
  · exfalso
    have : (b / 2 ^ mb + 1) * 2 ^ mb ≤ a / 2 ^ mb * 2 ^ mb := Nat.mul_le_mul_right _ hE
    rw [Nat.add_mul] at this
    omega

/-- A number of the format is a multiple of `2^k`, or it lies below all numbers of spacing `2^k`. -/
theorem decodeScaled_grid (mb b k : Nat) :
    (∃ z, decodeScaled mb b = z * 2 ^ k) ∨ (k ≠ 0 ∧ decodeScaled mb b < 2 ^ (mb + k)) := by
  by_cases h : k < b / 2 ^ mb
  · refine Or.inl ⟨(2 ^ mb + b % 2 ^ mb) * 2 ^ (b / 2 ^ mb - 1 - k), ?_⟩
    unfold decodeScaled
    rw [if_neg (by omega), Nat.mul_assoc, ← Nat.pow_add]
    congr 2; omega
  · rcases Nat.eq_zero_or_pos k with rfl | hk
    · exact Or.inl ⟨_, (Nat.mul_one _).symm⟩
    · exact Or.inr ⟨by omega, Nat.lt_of_lt_of_le (decodeScaled_lt mb b)
        (Nat.pow_le_pow_right (by decide) (by omega))⟩

/-- The pattern `k * 2^mb + m` (spacing exponent `k`, significand `m` with the carry case `m = 2^(mb+1)` included)
    has the value `m * 2^k`. -/
theorem decodeScaled_assemble (mb k m : Nat) (h1 : k = 0 ∨ 2 ^ mb ≤ m) (h2 : m ≤ 2 ^ (mb + 1)) :
    decodeScaled mb (k * 2 ^ mb + m) = m * 2 ^ k := by
  rw [Nat.pow_succ] at h2
  rcases Nat.lt_or_ge m (2 ^ mb) with hm | hm
  · obtain rfl : k = 0 := by omega
    rw [decodeScaled_pat mb 0 m hm, if_pos rfl, Nat.pow_zero, Nat.mul_one]
  · rcases Nat.lt_or_ge m (2 ^ mb * 2) with hm2 | hm2
    · have e : k * 2 ^ mb + m = (k + 1) * 2 ^ mb + (m - 2 ^ mb) := by rw [Nat.add_mul]; omega
      rw [e, decodeScaled_pat mb (k + 1) (m - 2 ^ mb) (by omega), if_neg (Nat.succ_ne_zero k),
        Nat.add_sub_cancel, Nat.add_sub_cancel' hm]
    · obtain rfl : m = 2 ^ mb * 2 := by omega
      have e : k * 2 ^ mb + 2 ^ mb * 2 = (k + 2) * 2 ^ mb + 0 := by rw [Nat.add_mul]; omega
      rw [e, decodeScaled_pat mb (k + 2) 0 (Nat.two_pow_pos mb), if_neg (by omega), Nat.add_zero,
        show k + 2 - 1 = k + 1 by omega, Nat.pow_succ, Nat.mul_assoc, Nat.mul_comm 2]

/-! ### the rounding function -/

/-- The spacing exponent of `N / d` quanta. -/
def spacing (mb N d : Nat) : Nat := blen (N / d) - (mb + 1)

theorem roundScaled_eq (mb N d : Nat) :
    roundScaled mb N d = spacing mb N d * 2 ^ mb + rhe N (d * 2 ^ spacing mb N d) := rfl

/-- `spacing mb N d` is the least `j` with `N / d < 2^(mb+1+j)`. -/
theorem spacing_le_iff (mb N : Nat) {d : Nat} (hd : 0 < d) (j : Nat) :
    spacing mb N d ≤ j ↔ N < 2 ^ (mb + 1) * (d * 2 ^ j) := by
  unfold spacing
  rw [Nat.sub_le_iff_le_add, blen_le_iff, Nat.div_lt_iff_lt_mul hd, Nat.pow_add, Nat.mul_comm (2 ^ j),
    Nat.mul_assoc, Nat.mul_comm (2 ^ j)]

/-- The binade of `N / d`: with `k` the spacing exponent and `D = d * 2^k`,
    `N / D < 2^(mb+1)`, and `2^mb ≤ N / D` unless `k = 0`. -/
theorem spacing_facts (mb N d : Nat) (hd : 0 < d) :
    (spacing mb N d ≠ 0 → 2 ^ mb * (d * 2 ^ spacing mb N d) ≤ N) ∧
    N < 2 ^ (mb + 1) * (d * 2 ^ spacing mb N d) := by
  refine ⟨fun hk => ?_, (spacing_le_iff mb N hd _).mp (Nat.le_refl _)⟩
  obtain ⟨j, hj⟩ : ∃ j, spacing mb N d = j + 1 := ⟨_, (Nat.succ_pred_eq_of_ne_zero hk).symm⟩
  have := (spacing_le_iff mb N hd j).not.mp (by omega)
  rw [hj]
  calc 2 ^ mb * (d * 2 ^ (j + 1)) = 2 ^ (mb + 1) * (d * 2 ^ j) := by rw [Nat.pow_succ, Nat.pow_succ]; ring
    _ ≤ N := Nat.le_of_not_lt this

theorem spacing_mono (mb : Nat) {N N' d : Nat} (hd : 0 < d) (h : N ≤ N') : spacing mb N d ≤ spacing mb N' d :=
  (spacing_le_iff mb N hd _).mpr (Nat.lt_of_le_of_lt h (spacing_facts mb N' d hd).2)

theorem signif_facts (mb N d : Nat) (hd : 0 < d) :
    (spacing mb N d = 0 ∨ 2 ^ mb ≤ rhe N (d * 2 ^ spacing mb N d)) ∧
    rhe N (d * 2 ^ spacing mb N d) ≤ 2 ^ (mb + 1) := by
  have hD : 0 < d * 2 ^ spacing mb N d := Nat.mul_pos hd (Nat.two_pow_pos _)
  obtain ⟨h1, h2⟩ := spacing_facts mb N d hd
  constructor
  · by_cases hk : spacing mb N d = 0
    · exact Or.inl hk
    · exact Or.inr (Nat.le_trans ((Nat.le_div_iff_mul_le hD).mpr (h1 hk)) (rhe_ge _ _))
  · exact Nat.le_trans (rhe_le _ _) ((Nat.div_lt_iff_lt_mul hD).mpr h2)

/-- The value of the rounded pattern is significand times spacing. -/
theorem decode_roundScaled (mb N d : Nat) (hd : 0 < d) :
    decodeScaled mb (roundScaled mb N d) = rhe N (d * 2 ^ spacing mb N d) * 2 ^ spacing mb N d := by
  obtain ⟨h1, h2⟩ := signif_facts mb N d hd
  rw [roundScaled_eq]
  exact decodeScaled_assemble mb _ _ h1 h2

theorem cast_scaled (m k d : Nat) : ((m * 2 ^ k : Nat) : Int) * d = (m : Int) * ((d * 2 ^ k : Nat) : Int) := by
  push_cast; ring

theorem abs_sub_lt_of_lt_le {a b x : Nat} (h1 : a < b) (h2 : b ≤ x) : |(b : Int) - x| < |(a : Int) - x| := by
  rw [abs_sub_comm, abs_sub_comm (a : Int), abs_of_nonneg (by omega), abs_of_nonneg (by omega)]
  omega

/-- A number `W` of the format and the integer multiples of the spacing of `N / d`: `W` is such a multiple, or lies
    below the lower end `2^mb` of the binade, which then is closer to `N / d`. -/
theorem grid_or_farther (mb N d : Nat) (hd : 0 < d) (b' : Nat) :
    ∃ z : Nat, decodeScaled mb b' = z * 2 ^ spacing mb N d ∨
      |(z : Int) * ((d * 2 ^ spacing mb N d : Nat) : Int) - N| < |(decodeScaled mb b' : Int) * d - N| := by
  rcases decodeScaled_grid mb b' (spacing mb N d) with ⟨z, hz⟩ | ⟨hk, hlt⟩
  · exact ⟨z, Or.inl hz⟩
  · refine ⟨2 ^ mb, Or.inr ?_⟩
    rw [← Nat.cast_mul, ← Nat.cast_mul]
    refine abs_sub_lt_of_lt_le ?_ ((spacing_facts mb N d hd).1 hk)
    calc decodeScaled mb b' * d < 2 ^ (mb + spacing mb N d) * d := Nat.mul_lt_mul_of_pos_right hlt hd
      _ = 2 ^ mb * (d * 2 ^ spacing mb N d) := by rw [Nat.pow_add, Nat.mul_assoc, Nat.mul_comm d]

/-- **Nearest**: no number of the format (`decodeScaled mb b'`, any exponent) is closer to `N / d` than the value
    of the rounded pattern. -/
theorem roundScaled_nearest (mb N d : Nat) (hd : 0 < d) (b' : Nat) :
    |(decodeScaled mb (roundScaled mb N d) : Int) * d - N| ≤ |(decodeScaled mb b' : Int) * d - N| := by
  have hD : 0 < d * 2 ^ spacing mb N d := Nat.mul_pos hd (Nat.two_pow_pos _)
  rw [decode_roundScaled mb N d hd, cast_scaled]
  obtain ⟨z, hz | hz⟩ := grid_or_farther mb N d hd b'
  · rw [hz, cast_scaled]
    exact rhe_nearest hD z
  · exact (rhe_nearest hD z).trans hz.le

/-- **Half a spacing**: the value of the rounded pattern is within half the spacing of the binade of `N / d`. -/
theorem roundScaled_half (mb N d : Nat) (hd : 0 < d) :
    2 * |(decodeScaled mb (roundScaled mb N d) : Int) * d - N| ≤ ((d * 2 ^ spacing mb N d : Nat) : Int) := by
  rw [decode_roundScaled mb N d hd, cast_scaled]
  exact (rhe_half (Nat.mul_pos hd (Nat.two_pow_pos _))).1

/-- Rounding is exact on the numbers of the format (of unbounded exponent): `round ∘ decode = id`. -/
theorem roundScaled_decode (mb b d : Nat) (hd : 0 < d) : roundScaled mb (decodeScaled mb b * d) d = b := by
  have h := roundScaled_nearest mb (decodeScaled mb b * d) d hd b
  rw [Nat.cast_mul, sub_self, abs_zero, abs_nonpos_iff, sub_eq_zero, ← Nat.cast_mul, ← Nat.cast_mul,
    Nat.cast_inj] at h
  exact (decodeScaled_strictMono mb).injective (Nat.eq_of_mul_eq_mul_right hd h)

/-- **Ties to even**: when another number of the format is exactly as close to `N / d` as the result,
    the result is the pattern with even last bit. -/
theorem roundScaled_tie_even (mb N d : Nat) (hmb : 1 ≤ mb) (hd : 0 < d) (b' : Nat)
    (hne : decodeScaled mb b' ≠ decodeScaled mb (roundScaled mb N d))
    (htie : |(decodeScaled mb b' : Int) * d - N| = |(decodeScaled mb (roundScaled mb N d) : Int) * d - N|) :
    roundScaled mb N d % 2 = 0 := by
  have hD : 0 < d * 2 ^ spacing mb N d := Nat.mul_pos hd (Nat.two_pow_pos _)
  rw [decode_roundScaled mb N d hd] at hne htie
  rw [cast_scaled] at htie
  have hm : rhe N (d * 2 ^ spacing mb N d) % 2 = 0 := by
    obtain ⟨z, hz | hz⟩ := grid_or_farther mb N d hd b'
    · rw [hz, cast_scaled] at htie
      exact rhe_tie_even hD z (fun h => hne (by rw [hz, h])) htie
    · exact absurd (htie ▸ hz) (not_lt.mpr (rhe_nearest hD z))
  obtain ⟨t, rfl⟩ : ∃ t, mb = t + 1 := ⟨mb - 1, by omega⟩
  rw [roundScaled_eq, Nat.pow_succ, ← Nat.mul_assoc]
  omega

theorem roundScaled_scale (mb N d c : Nat) (hc : 0 < c) : roundScaled mb (N * c) (d * c) = roundScaled mb N d := by
  have hs : spacing mb (N * c) (d * c) = spacing mb N d := by
    unfold spacing; rw [Nat.mul_div_mul_right _ _ hc]
  rw [roundScaled_eq, roundScaled_eq, hs, Nat.mul_right_comm d, rhe_scale _ _ _ hc]

/-- **Monotone** (same denominator): within a binade the significand is monotone, and a pattern of a higher binade
    is above all patterns of a lower one, the carry included. -/
theorem roundScaled_mono_same (mb N N' d : Nat) (hd : 0 < d) (h : N ≤ N') :
    roundScaled mb N d ≤ roundScaled mb N' d := by
  rw [roundScaled_eq, roundScaled_eq]
  rcases Nat.eq_or_lt_of_le (spacing_mono mb hd h) with e | hlt
  · rw [e]
    exact Nat.add_le_add_left (rhe_mono (Nat.mul_pos hd (Nat.two_pow_pos _)) h) _
  · have h1 := (signif_facts mb N d hd).2
    have h2 := (signif_facts mb N' d hd).1
    have h3 := Nat.mul_le_mul_right (2 ^ mb) hlt
    rw [Nat.succ_mul] at h3
    rw [Nat.pow_succ] at h1
    omega

/-- **Monotone**: `N / d ≤ N' / d'` implies that the rounded patterns are ordered the same way. -/
theorem roundScaled_mono (mb N d N' d' : Nat) (hd : 0 < d) (hd' : 0 < d') (h : N * d' ≤ N' * d) :
    roundScaled mb N d ≤ roundScaled mb N' d' := by
  rw [← roundScaled_scale mb N d d' hd', ← roundScaled_scale mb N' d' d hd, Nat.mul_comm d' d]
  exact roundScaled_mono_same mb _ _ _ (Nat.mul_pos hd hd') h

theorem two_mul_scale_le (d : Nat) {j K : Nat} (h : j < K) : 2 * (d * 2 ^ j) ≤ d * 2 ^ K :=
  calc 2 * (d * 2 ^ j) = d * 2 ^ (j + 1) := by rw [Nat.pow_succ]; ring
    _ ≤ d * 2 ^ K := Nat.mul_le_mul_left _ (Nat.pow_le_pow_right (by decide) h)

/-- **Overflow threshold** (format with largest spacing exponent `K`, i.e. infinity pattern `(K+2) * 2^mb`):
    the rounded pattern reaches the infinity pattern iff `N / d ≥ (2^(mb+1) - 1/2) * 2^K`, which is the largest
    finite number plus half a unit in its last place. -/
theorem roundScaled_overflow_iff (mb K N d : Nat) (hd : 0 < d) :
    (K + 2) * 2 ^ mb ≤ roundScaled mb N d ↔ 2 ^ (mb + 2) * (d * 2 ^ K) ≤ 2 * N + d * 2 ^ K := by
  obtain ⟨hlow, hhigh⟩ := spacing_facts mb N d hd
  obtain ⟨hm1, hm2⟩ := signif_facts mb N d hd
  have hQ := Nat.two_pow_pos mb
  have h4 : 2 ^ (mb + 2) = 2 * (2 * 2 ^ mb) := by rw [Nat.pow_succ, Nat.pow_succ]; omega
  rw [Nat.pow_succ'] at hhigh hm2
  rw [Nat.mul_assoc] at hhigh
  rw [roundScaled_eq, Nat.add_mul, h4, Nat.mul_assoc 2, Nat.mul_assoc 2]
  rcases Nat.lt_trichotomy (spacing mb N d) K with hk | hk | hk
  · -- a lower binade: neither side holds
    have h1 := Nat.mul_le_mul_right (2 ^ mb) hk
    have h2 := Nat.mul_le_mul_left (2 ^ mb) (two_mul_scale_le d hk)
    have h3 : d * 2 ^ K ≤ 2 ^ mb * (d * 2 ^ K) := Nat.le_mul_of_pos_left _ hQ
    rw [Nat.succ_mul] at h1
    rw [Nat.mul_left_comm] at h2
    constructor <;> intro <;> omega
  · -- the top binade: the significand reaches `2^(mb+1)`, which is even
    subst hk
    have := le_rhe_iff (N := N) (Nat.mul_pos hd (Nat.two_pow_pos (spacing mb N d))) (2 * 2 ^ mb)
    rw [Nat.mul_mod_right, Nat.add_zero, Nat.mul_assoc] at this
    rw [← this]
    omega
  · -- a higher binade: both sides hold
    have hlow := hlow (by omega)
    have hm : 2 ^ mb ≤ rhe N (d * 2 ^ spacing mb N d) := hm1.resolve_left (by omega)
    have h1 := Nat.mul_le_mul_right (2 ^ mb) hk
    have h2 := Nat.mul_le_mul_left (2 ^ mb) (two_mul_scale_le d hk)
    rw [Nat.succ_mul] at h1
    rw [Nat.mul_left_comm] at h2
    constructor <;> intro <;> omega

open Wire (Cast)

/-! ### the format: infinity pattern, largest finite number, sign -/

theorem four_le_pow {eb : Nat} (heb : 2 ≤ eb) : 4 ≤ 2 ^ eb :=
  calc 4 = 2 ^ 2 := rfl
    _ ≤ 2 ^ eb := Nat.pow_le_pow_right (by decide) heb

theorem infPat_eq {eb : Nat} (mb : Nat) (heb : 2 ≤ eb) : infPat eb mb = (topExp eb + 2) * 2 ^ mb := by
  have := four_le_pow heb
  unfold infPat topExp
  congr 1; omega

theorem infPat_pos {eb : Nat} (mb : Nat) (heb : 2 ≤ eb) : 0 < infPat eb mb := by
  rw [infPat_eq mb heb]; exact Nat.mul_pos (by omega) (Nat.two_pow_pos mb)

theorem infPat_lt_signBit (eb mb : Nat) : infPat eb mb < signBit eb mb := by
  unfold infPat signBit
  rw [Nat.pow_add]
  exact Nat.mul_lt_mul_of_pos_right (Nat.sub_lt (Nat.two_pow_pos eb) (by decide)) (Nat.two_pow_pos mb)

/-- The value of the largest finite pattern. -/
theorem decodeScaled_maxPat {eb : Nat} (mb : Nat) (heb : 2 ≤ eb) :
    decodeScaled mb (maxPat eb mb) = (2 ^ (mb + 1) - 1) * 2 ^ topExp eb := by
  have hP := Nat.two_pow_pos mb
  have e : maxPat eb mb = (topExp eb + 1) * 2 ^ mb + (2 ^ mb - 1) := by
    unfold maxPat; rw [infPat_eq mb heb, Nat.add_mul, Nat.add_mul]; omega
  rw [e, decodeScaled_pat mb _ _ (by omega), if_neg (Nat.succ_ne_zero _), Nat.add_sub_cancel, Nat.pow_succ]
  congr 1; omega

/-- Overflow in terms of the format: the rounded pattern reaches the infinity pattern iff
    `N / d ≥ (2^(mb+2) - 1) * 2^topExp / 2`. -/
theorem overflow_iff {eb : Nat} (mb N d : Nat) (heb : 2 ≤ eb) (hd : 0 < d) :
    infPat eb mb ≤ roundScaled mb N d ↔ (2 ^ (mb + 2) - 1) * 2 ^ topExp eb * d ≤ 2 * N := by
  rw [infPat_eq mb heb, roundScaled_overflow_iff mb (topExp eb) N d hd]
  obtain ⟨t, ht⟩ : ∃ t, 2 ^ (mb + 2) = t + 1 :=
    ⟨_, (Nat.succ_pred_eq_of_ne_zero (Nat.two_pow_pos _).ne').symm⟩
  rw [ht, Nat.add_sub_cancel, Nat.succ_mul, Nat.mul_assoc, Nat.mul_comm d]
  omega

/-- Numbers up to the largest finite one do not overflow. -/
theorem no_overflow_of_le_max {eb : Nat} (mb N d : Nat) (hd : 0 < d)
    (h : N ≤ decodeScaled mb (maxPat eb mb) * d) : roundScaled mb N d ≤ maxPat eb mb := by
  have := roundScaled_mono_same mb N _ d hd h
  rwa [roundScaled_decode mb _ d hd] at this

/-- Numbers above the largest finite one round to it or overflow. -/
theorem maxPat_le_of_max_le {eb : Nat} (mb N d : Nat) (hd : 0 < d)
    (h : decodeScaled mb (maxPat eb mb) * d ≤ N) : maxPat eb mb ≤ roundScaled mb N d := by
  have := roundScaled_mono_same mb _ N d hd h
  rwa [roundScaled_decode mb _ d hd] at this

/-- The largest magnitude pattern a cast mode lets through. -/
def capPat (eb mb : Nat) : Cast → Nat
  | .sat => maxPat eb mb
  | .trunc => infPat eb mb

theorem capPat_le_infPat (eb mb : Nat) (c : Cast) : capPat eb mb c ≤ infPat eb mb := by
  cases c
  · exact Nat.sub_le _ _
  · exact Nat.le_refl _

theorem le_capPat {eb mb a : Nat} (c : Cast) (h : a < infPat eb mb) : a ≤ capPat eb mb c := by
  cases c
  · exact Nat.le_sub_one_of_lt h
  · exact Nat.le_of_lt h

/-- Both cast modes cut the correctly rounded pattern off at their largest pattern: the saturated mode compares the
    input with the largest finite number instead of the patterns, which comes to the same since rounding is
    monotone and exact on that number. -/
theorem roundBinary_eq {eb : Nat} (mb : Nat) (c : Cast) (neg : Bool) (n : Nat) {d : Nat} (hd : 0 < d) :
    roundBinary eb mb c neg n d =
      (if neg then signBit eb mb else 0) + min (roundScaled mb (n * 2 ^ scaleExp eb mb) d) (capPat eb mb c) := by
  unfold roundBinary
  cases c
  · simp only [capPat]
    congr 1
    split
    · rename_i h
      rw [Nat.min_eq_right (maxPat_le_of_max_le mb _ d hd (Nat.le_of_lt h))]
    · rename_i h
      rw [Nat.min_eq_left (no_overflow_of_le_max mb _ d hd (Nat.le_of_not_lt h))]
  · rfl

/-! ### sign and magnitude of a pattern -/

theorem pattern_split (eb mb bits : Nat) (h : bits < 2 * signBit eb mb) :
    bits = (if isNeg eb mb bits then signBit eb mb else 0) + magOf eb mb bits := by
  unfold isNeg magOf
  generalize signBit eb mb = S at *
  by_cases hs : S ≤ bits
  · rw [decide_eq_true hs, if_pos rfl, Nat.mod_eq_sub_mod hs, Nat.mod_eq_of_lt (by omega)]
    omega
  · rw [decide_eq_false hs, if_neg Bool.false_ne_true, Nat.zero_add, Nat.mod_eq_of_lt (by omega)]

theorem isNeg_assemble (eb mb : Nat) (neg : Bool) (r : Nat) (hr : r < signBit eb mb) :
    isNeg eb mb ((if neg then signBit eb mb else 0) + r) = neg := by
  unfold isNeg
  cases neg
  · simp only [Bool.false_eq_true, if_false, Nat.zero_add, decide_eq_false_iff_not]; omega
  · simp only [if_true, decide_eq_true_eq]; omega

theorem magOf_assemble (eb mb : Nat) (neg : Bool) (r : Nat) (hr : r < signBit eb mb) :
    magOf eb mb ((if neg then signBit eb mb else 0) + r) = r := by
  unfold magOf
  cases neg
  · rw [if_neg Bool.false_ne_true, Nat.zero_add]; exact Nat.mod_eq_of_lt hr
  · rw [if_pos rfl, Nat.add_mod_left]; exact Nat.mod_eq_of_lt hr

theorem isFinite_assemble (eb mb : Nat) (neg : Bool) (r : Nat) (hr : r < infPat eb mb) :
    isFinite eb mb ((if neg then signBit eb mb else 0) + r) = true := by
  have hs := infPat_lt_signBit eb mb
  unfold isFinite
  rw [magOf_assemble eb mb neg r (by omega)]
  simp only [Bool.and_eq_true, decide_eq_true_eq]
  refine ⟨?_, hr⟩
  cases neg <;> simp <;> omega

theorem isFinite_iff (eb mb bits : Nat) :
    isFinite eb mb bits = true ↔ bits < 2 * signBit eb mb ∧ magOf eb mb bits < infPat eb mb := by
  unfold isFinite
  rw [Bool.and_eq_true, decide_eq_true_eq, decide_eq_true_eq]

theorem signBit_even (eb mb : Nat) (h : 1 ≤ mb) : signBit eb mb % 2 = 0 := by
  unfold signBit
  obtain ⟨t, ht⟩ : ∃ t, eb + mb = t + 1 := ⟨eb + mb - 1, by omega⟩
  rw [ht, Nat.pow_succ]; omega

theorem even_assemble (eb mb : Nat) (h : 1 ≤ mb) (neg : Bool) {r : Nat} (hr : r % 2 = 0) :
    ((if neg then signBit eb mb else 0) + r) % 2 = 0 := by
  have := signBit_even eb mb h
  cases neg
  · rwa [if_neg Bool.false_ne_true, Nat.zero_add]
  · rw [if_pos rfl]; omega

/-! ### rationals -/

/-- The sign of a pattern as a rational factor. -/
def sgn (neg : Bool) : ℚ := if neg then -1 else 1

theorem abs_sgn (neg : Bool) : |sgn neg| = 1 := by cases neg <;> simp [sgn]

theorem sgn_ne_zero (neg : Bool) : sgn neg ≠ 0 := by cases neg <;> simp [sgn]

theorem sgn_not (neg : Bool) : sgn (!neg) = -sgn neg := by cases neg <;> simp [sgn]

theorem decodeBinary_finite (eb mb bits : Nat) (h : isFinite eb mb bits = true) :
    decodeBinary eb mb bits =
      some (sgn (isNeg eb mb bits) * (decodeScaled mb (magOf eb mb bits) : ℕ) / (2 ^ scaleExp eb mb : ℕ)) := by
  unfold decodeBinary sgn
  rw [if_pos h]
  cases isNeg eb mb bits <;> simp

theorem decodeBinary_some (eb mb bits : Nat) (v : ℚ) (h : decodeBinary eb mb bits = some v) :
    isFinite eb mb bits = true ∧
    v = sgn (isNeg eb mb bits) * (decodeScaled mb (magOf eb mb bits) : ℕ) / (2 ^ scaleExp eb mb : ℕ) := by
  by_cases hf : isFinite eb mb bits = true
  · rw [decodeBinary_finite eb mb bits hf] at h
    exact ⟨hf, (Option.some.inj h).symm⟩
  · unfold decodeBinary at h; rw [if_neg hf] at h; cases h

theorem abs_rat_eq (q : ℚ) : |q| = (q.num.natAbs : ℚ) / q.den := by
  rw [Rat.abs_def, Rat.divInt_eq_div, Int.cast_natCast, Int.cast_natCast]

theorem sgn_repr (q : ℚ) : sgn (decide (q < 0)) * (q.num.natAbs : ℚ) / q.den = q := by
  rw [mul_div_assoc, ← abs_rat_eq]
  by_cases hq : q < 0
  · simp [sgn, hq, abs_of_neg hq]
  · simp [sgn, hq, abs_of_nonneg (not_lt.mp hq)]

/-- The distance of `V / P` to `n / d`, over the common denominator. -/
theorem abs_div_sub_div (V n : ℕ) {d P : ℕ} (hd : 0 < d) (hP : 0 < P) :
    |(V : ℚ) / P - n / d| = ((|(V : ℤ) * d - (n * P : ℕ)| : ℤ) : ℚ) / (P * d) := by
  have hd' : (0 : ℚ) < d := Nat.cast_pos.mpr hd
  have hP' : (0 : ℚ) < P := Nat.cast_pos.mpr hP
  rw [div_sub_div _ _ hP'.ne' hd'.ne', abs_div, abs_of_pos (mul_pos hP' hd'), Int.cast_abs, mul_comm (P : ℚ) n]
  push_cast
  rfl

/-- A number of the sign of the input is as far from it as the magnitudes are from each other … -/
theorem rat_dist_same (V n : ℕ) {d P : ℕ} (s : Bool) (hd : 0 < d) (hP : 0 < P) :
    |sgn s * V / P - sgn s * n / d| = ((|(V : ℤ) * d - (n * P : ℕ)| : ℤ) : ℚ) / (P * d) := by
  rw [mul_div_assoc, mul_div_assoc, ← mul_sub, abs_mul, abs_sgn, one_mul, abs_div_sub_div V n hd hP]

/-- … and a number of the other sign is farther. -/
theorem rat_dist_lower (V' n : ℕ) {d P : ℕ} (s s' : Bool) (hd : 0 < d) (hP : 0 < P) :
    ((|(V' : ℤ) * d - (n * P : ℕ)| : ℤ) : ℚ) / (P * d) ≤ |sgn s' * V' / P - sgn s * n / d| := by
  rcases Bool.eq_or_eq_not s' s with rfl | rfl
  · exact (rat_dist_same V' n s' hd hP).ge
  · have ha : (0 : ℚ) ≤ (V' : ℚ) / P := div_nonneg (Nat.cast_nonneg _) (Nat.cast_nonneg _)
    have hx : (0 : ℚ) ≤ (n : ℚ) / d := div_nonneg (Nat.cast_nonneg _) (Nat.cast_nonneg _)
    rw [← abs_div_sub_div V' n hd hP, mul_div_assoc, mul_div_assoc, sgn_not, neg_mul, ← neg_add', abs_neg,
      ← mul_add, abs_mul, abs_sgn, one_mul, abs_of_nonneg (add_nonneg ha hx)]
    exact (abs_sub _ _).trans_eq (by rw [abs_of_nonneg ha, abs_of_nonneg hx])

/-- Distances in `ℚ` to the input `(-1)^s * n / d`, of a number of its sign and of any other number, compare as the
    distances of the magnitudes in `ℤ` over the common denominator. -/
theorem rat_dist_le (V V' n : ℕ) {d P : ℕ} (s s' : Bool) (hd : 0 < d) (hP : 0 < P)
    (h : |(V : ℤ) * d - (n * P : ℕ)| ≤ |(V' : ℤ) * d - (n * P : ℕ)|) :
    |sgn s * V / P - sgn s * n / d| ≤ |sgn s' * V' / P - sgn s * n / d| := by
  have hpos : (0 : ℚ) ≤ (P : ℚ) * d := mul_nonneg (Nat.cast_nonneg _) (Nat.cast_nonneg _)
  rw [rat_dist_same V n s hd hP]
  exact (div_le_div_of_nonneg_right (Int.cast_le.mpr h) hpos).trans (rat_dist_lower V' n s s' hd hP)

theorem int_dist_le (V V' n : ℕ) {d P : ℕ} (s s' : Bool) (hd : 0 < d) (hP : 0 < P)
    (h : |sgn s' * V' / P - sgn s * n / d| ≤ |sgn s * V / P - sgn s * n / d|) :
    |(V' : ℤ) * d - (n * P : ℕ)| ≤ |(V : ℤ) * d - (n * P : ℕ)| := by
  have hlow := (rat_dist_lower V' n s s' hd hP).trans h
  have hpos : (0 : ℚ) < (P : ℚ) * d := mul_pos (Nat.cast_pos.mpr hP) (Nat.cast_pos.mpr hd)
  rw [rat_dist_same V n s hd hP] at hlow
  exact Int.cast_le.mp ((div_le_div_iff_of_pos_right hpos).mp hlow)

theorem below_iff (eb mb n d : Nat) (hd : 0 < d) :
    (n : ℚ) / d < overflowThreshold eb mb ↔
      2 * (n * 2 ^ scaleExp eb mb) < (2 ^ (mb + 2) - 1) * 2 ^ topExp eb * d := by
  unfold overflowThreshold
  have hd' : (0 : ℚ) < d := Nat.cast_pos.mpr hd
  have hP : (0 : ℚ) < ((2 * 2 ^ scaleExp eb mb : ℕ) : ℚ) :=
    Nat.cast_pos.mpr (Nat.mul_pos (by decide) (Nat.two_pow_pos _))
  rw [div_lt_div_iff₀ hd' hP, ← Nat.cast_mul, ← Nat.cast_mul, Nat.cast_lt, Nat.mul_left_comm]

theorem above_max_iff {eb : Nat} (mb n d : Nat) (heb : 2 ≤ eb) (hd : 0 < d) :
    maxFinite eb mb < (n : ℚ) / d ↔ decodeScaled mb (maxPat eb mb) * d < n * 2 ^ scaleExp eb mb := by
  unfold maxFinite
  have hd' : (0 : ℚ) < d := Nat.cast_pos.mpr hd
  have hP : (0 : ℚ) < ((2 ^ scaleExp eb mb : ℕ) : ℚ) := Nat.cast_pos.mpr (Nat.two_pow_pos _)
  rw [decodeScaled_maxPat mb heb, div_lt_div_iff₀ hP hd', ← Nat.cast_mul, ← Nat.cast_mul, Nat.cast_lt]

/-! ### `roundBinary` and `roundRat` -/

/-- What `roundBinary` returns below the overflow threshold. -/
theorem roundBinary_below {eb : Nat} (mb : Nat) (c : Cast) (neg : Bool) (n d : Nat) (heb : 2 ≤ eb) (hd : 0 < d)
    (h : (n : ℚ) / d < overflowThreshold eb mb) :
    roundScaled mb (n * 2 ^ scaleExp eb mb) d < infPat eb mb ∧
    roundBinary eb mb c neg n d =
      (if neg then signBit eb mb else 0) + roundScaled mb (n * 2 ^ scaleExp eb mb) d ∧
    decodeBinary eb mb (roundBinary eb mb c neg n d) =
      some (sgn neg * (decodeScaled mb (roundScaled mb (n * 2 ^ scaleExp eb mb) d) : ℕ) / (2 ^ scaleExp eb mb : ℕ)) := by
  have h2 : roundScaled mb (n * 2 ^ scaleExp eb mb) d < infPat eb mb :=
    Nat.lt_of_not_le fun hc => Nat.not_le.mpr ((below_iff eb mb n d hd).mp h) ((overflow_iff mb _ d heb hd).mp hc)
  have hs := infPat_lt_signBit eb mb
  have e : roundBinary eb mb c neg n d =
      (if neg then signBit eb mb else 0) + roundScaled mb (n * 2 ^ scaleExp eb mb) d := by
    rw [roundBinary_eq mb c neg n hd, Nat.min_eq_left (le_capPat c h2)]
  refine ⟨h2, e, ?_⟩
  rw [e, decodeBinary_finite _ _ _ (isFinite_assemble eb mb neg _ h2),
    isNeg_assemble eb mb neg _ (by omega), magOf_assemble eb mb neg _ (by omega)]

/-- round ∘ decode = id on finite patterns (sign carried explicitly, so `-0` included). -/
theorem roundBinary_exact {eb : Nat} (mb : Nat) (c : Cast) (bits : Nat)
    (hf : isFinite eb mb bits = true) (n d : Nat) (hd : 0 < d)
    (hnd : n * 2 ^ scaleExp eb mb = decodeScaled mb (magOf eb mb bits) * d) :
    roundBinary eb mb c (isNeg eb mb bits) n d = bits := by
  obtain ⟨h1, h2⟩ := (isFinite_iff eb mb bits).mp hf
  rw [roundBinary_eq mb c _ n hd, hnd, roundScaled_decode mb _ d hd, Nat.min_eq_left (le_capPat c h2)]
  exact (pattern_split eb mb bits h1).symm

theorem roundRat_eq (eb mb : Nat) (c : Cast) (q : ℚ) :
    roundRat eb mb c q = roundBinary eb mb c (decide (q < 0)) q.num.natAbs q.den := rfl

theorem roundRat_exact {eb : Nat} (mb : Nat) (c : Cast) (bits : Nat) (q : ℚ)
    (hq : decodeBinary eb mb bits = some q) (hz : bits ≠ signBit eb mb) :
    roundRat eb mb c q = bits := by
  obtain ⟨hf, hv⟩ := decodeBinary_some eb mb bits q hq
  have hP : (0 : ℚ) < ((2 ^ scaleExp eb mb : ℕ) : ℚ) := Nat.cast_pos.mpr (Nat.two_pow_pos _)
  have hden : (0 : ℚ) < q.den := Nat.cast_pos.mpr q.den_pos
  have hV : (0 : ℚ) ≤ ((decodeScaled mb (magOf eb mb bits) : ℕ) : ℚ) / (2 ^ scaleExp eb mb : ℕ) :=
    div_nonneg (Nat.cast_nonneg _) hP.le
  rw [mul_div_assoc] at hv
  have hnd : q.num.natAbs * 2 ^ scaleExp eb mb = decodeScaled mb (magOf eb mb bits) * q.den := by
    have habs : |q| = ((decodeScaled mb (magOf eb mb bits) : ℕ) : ℚ) / (2 ^ scaleExp eb mb : ℕ) := by
      rw [hv, abs_mul, abs_sgn, one_mul, abs_of_nonneg hV]
    rw [abs_rat_eq q, div_eq_div_iff hden.ne' hP.ne'] at habs
    exact_mod_cast habs
  have hsign : decide (q < 0) = isNeg eb mb bits := by
    cases hn : isNeg eb mb bits <;> rw [hn, sgn] at hv
    · rw [hv, if_neg Bool.false_ne_true, one_mul]
      exact decide_eq_false (not_lt.mpr hV)
    · -- the sign bit is set and `bits` is not `-0`, so the magnitude is positive
      have hmag : magOf eb mb bits ≠ 0 := fun h0 => hz (by
        rw [pattern_split eb mb bits ((isFinite_iff eb mb bits).mp hf).1, hn, h0]; rfl)
      have hVpos := decodeScaled_strictMono mb (Nat.pos_of_ne_zero hmag)
      rw [decodeScaled_zero] at hVpos
      rw [hv, if_pos rfl, neg_one_mul]
      exact decide_eq_true (neg_neg_of_pos (div_pos (Nat.cast_pos.mpr hVpos) hP))
  rw [roundRat_eq, hsign]
  exact roundBinary_exact mb c bits hf _ _ q.den_pos hnd

theorem roundScaled_zero (mb d : Nat) (hd : 0 < d) : roundScaled mb 0 d = 0 := by
  have := roundScaled_decode mb 0 d hd
  rwa [decodeScaled_zero, Nat.zero_mul] at this

/-- Below the threshold the result is a finite pattern in both modes. -/
theorem roundBinary_finite {eb : Nat} (mb : Nat) (c : Cast) (neg : Bool) (n d : Nat) (heb : 2 ≤ eb) (hd : 0 < d)
    (h : (n : ℚ) / d < overflowThreshold eb mb) :
    isFinite eb mb (roundBinary eb mb c neg n d) = true := by
  obtain ⟨h1, e, _⟩ := roundBinary_below mb c neg n d heb hd h
  rw [e]; exact isFinite_assemble eb mb neg _ h1

/-- **Monotone** in the magnitude, in both modes. -/
theorem roundBinary_mono {eb : Nat} (mb : Nat) (c : Cast) (n d n' d' : Nat) (hd : 0 < d) (hd' : 0 < d')
    (h : n * d' ≤ n' * d) : roundBinary eb mb c false n d ≤ roundBinary eb mb c false n' d' := by
  rw [roundBinary_eq mb c false n hd, roundBinary_eq mb c false n' hd']
  refine Nat.add_le_add_left (min_le_min_right _ (roundScaled_mono mb _ d _ d' hd hd' ?_)) _
  rw [Nat.mul_right_comm, Nat.mul_right_comm n']
  exact Nat.mul_le_mul_right _ h

theorem roundRat_finite {eb : Nat} (mb : Nat) (c : Cast) (q : ℚ) (heb : 2 ≤ eb) (h : |q| < overflowThreshold eb mb) :
    isFinite eb mb (roundRat eb mb c q) = true := by
  rw [abs_rat_eq] at h
  exact roundBinary_finite mb c _ _ _ heb q.den_pos h

/-- Monotone on the non-negative rationals. -/
theorem roundRat_mono {eb : Nat} (mb : Nat) (c : Cast) (q q' : ℚ) (heb : 2 ≤ eb) (h0 : 0 ≤ q) (h : q ≤ q') :
    roundRat eb mb c q ≤ roundRat eb mb c q' := by
  have h0' : 0 ≤ q' := le_trans h0 h
  rw [roundRat_eq, roundRat_eq, decide_eq_false (not_lt.mpr h0), decide_eq_false (not_lt.mpr h0')]
  apply roundBinary_mono mb c _ _ _ _ q.den_pos q'.den_pos
  rw [← Int.ofNat_le, Nat.cast_mul, Nat.cast_mul, Int.natAbs_of_nonneg (Rat.num_nonneg.mpr h0),
    Int.natAbs_of_nonneg (Rat.num_nonneg.mpr h0')]
  exact (Rat.le_iff q q').mp h

end WireFloat
