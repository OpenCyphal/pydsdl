import Proofs.NamespaceRead
import Proofs.NamespaceC10
/-! Lemmas for C19: a run of the reader never looks at the text of a definition outside the dependency closure of what
    it reads - replacing such texts in the lookup list leaves every step of the run unchanged. -/
namespace Ns

/-- replace the text of every definition -/
def retext (f : Def → Text) (d : Def) : Def := { d with text := f d }

theorem retext_key (f : Def → Text) (d : Def) : (retext f d).key = d.key := rfl

/-- the references written in a statement list / a definition text -/
def refsOf : List Stmt → List Ref
  | [] => []
  | .ref r :: rest => r :: refsOf rest
  | _ :: rest => refsOf rest

def Text.refs (t : Text) : List Ref :=
  refsOf t.req.stmts ++ (match t.resp with
    | none => []
    | some rs => refsOf rs.stmts)

/-- `C` is closed under dependencies with respect to the lookup list `L`: with a definition whose text parses it contains
    every definition of `L` that one of its references names (full name and version). -/
def DepClosed (L : List Def) (C : Def → Prop) : Prop :=
  ∀ d, C d → d.text.garbage = false → ∀ r ∈ d.text.refs, ∀ x ∈ L, x.key = (completeName d r.name, r.major, r.minor) → C x

theorem DepClosed.drop {L : List Def} {C : Def → Prop} (h : DepClosed L C) (y : Def) : DepClosed (dropKey L y) C :=
  fun d hd hg r hr x hx hk => h d hd hg r hr x (dropKey_sub hx) hk

/-- resolution filters the lookup list by name and version only -/
theorem resolve_retext (f : Def → Text) (L : List Def) (d : Def) (r : Ref) :
    resolve (L.map (retext f)) (retext f d) r = (resolve L d r).map (retext f) := by
  unfold resolve
  have hc : completeName (retext f d) r.name = completeName d r.name := rfl
  rw [hc, List.filter_map]
  have : (refMatches (completeName d r.name) r.major r.minor ∘ retext f) = refMatches (completeName d r.name) r.major r.minor := by
    funext y; rfl
  rw [this]
  generalize L.filter (refMatches (completeName d r.name) r.major r.minor) = F
  match F with
  | [] => rfl
  | [x] =>
    simp only [List.map, pick]
    have : (retext f x).name = x.name := rfl
    rw [this]
    split <;> rfl
  | x :: y :: _ =>
    simp only [List.map, pick]
    have h1 : (retext f x).name = x.name := rfl
    have h2 : (retext f y).name = y.name := rfl
    rw [h1, h2]
    split <;> rfl

theorem dropKey_retext (f : Def → Text) (L : List Def) (d : Def) :
    dropKey (L.map (retext f)) d = (dropKey L d).map (retext f) := by
  unfold dropKey
  rw [List.filter_map]
  rfl

/-- the body of `runStmts` after a successfully resolved reference -/
def afterRef (L : List Def) (d : Def) (rd : (x : Def) → x ∈ L → St → Res Ty) (rest : List Stmt) (out : Res Ty) :
    Res (List (Option Nat) × List Ty) :=
  match out with
  | (.error e, st1) => (.error e, st1)
  | (.ok t, st1) =>
    if t.info.isService then (.error .serviceField, st1)
    else match runStmts L d rd rest st1 with
      | (.ok (sh, ns), st2) => (.ok (none :: sh, t :: ns), st2)
      | (.error e, st2) => (.error e, st2)

theorem runStmts_ref_ok {L : List Def} {d : Def} {rd : (x : Def) → x ∈ L → St → Res Ty} {r : Ref} {x : Def}
    (h : resolve L d r = .ok x) (rest : List Stmt) (st : St) :
    runStmts L d rd (.ref r :: rest) st =
      afterRef L d rd rest (rd x (resolve_mem h) { st with visited := st.visited ++ [x] }) := by
  simp only [runStmts]
  split
  · rename_i e he
    rw [h] at he; cases he
  · rename_i x' hx'
    have : x' = x := by rw [h] at hx'; exact (Except.ok.inj hx').symm
    subst this
    rfl

theorem runStmts_ref_err {L : List Def} {d : Def} {rd : (x : Def) → x ∈ L → St → Res Ty} {r : Ref} {e : Err}
    (h : resolve L d r = .error e) (rest : List Stmt) (st : St) :
    runStmts L d rd (.ref r :: rest) st = (.error e, st) := by
  simp only [runStmts]
  split
  · rename_i e' he
    rw [h] at he; cases he; rfl
  · rename_i x' hx'
    rw [h] at hx'; cases hx'

/-! ### everything a read visits lies in the closure -/

def VisC (C : Def → Prop) (st : St) : Prop := ∀ y ∈ st.visited, C y

theorem runStmts_visC (C : Def → Prop) {L : List Def} {d : Def} (rd : (x : Def) → x ∈ L → St → Res Ty)
    (hrd : ∀ x hx s, C x → VisC C s → VisC C (rd x hx s).2) :
    ∀ (stmts : List Stmt), (∀ r ∈ refsOf stmts, ∀ x, resolve L d r = .ok x → C x) →
      ∀ st, VisC C st → VisC C (runStmts L d rd stmts st).2 := by
  intro stmts
  induction stmts with
  | nil => intro _ st hv; simpa only [runStmts] using hv
  | cons s rest ih =>
    intro hrefs st hv
    cases s with
    | prim b =>
      have := ih (fun r hr => hrefs r (by simpa [refsOf] using hr)) st hv
      simp only [runStmts]
      split
      · rename_i heq; rw [heq] at this; exact this
      · rename_i heq; rw [heq] at this; exact this
    | print n =>
      simp only [runStmts]
      exact ih (fun r hr => hrefs r (by simpa [refsOf] using hr)) _ hv
    | bad => simpa only [runStmts] using hv
    | ref r =>
      have ih' := ih (fun r' hr' => hrefs r' (by simp [refsOf, hr']))
      cases hres : resolve L d r with
      | error e => rw [runStmts_ref_err hres]; exact hv
      | ok x =>
        have hcx : C x := hrefs r (by simp [refsOf]) x hres
        rw [runStmts_ref_ok hres]
        have h1 := hrd x (resolve_mem hres) { st with visited := st.visited ++ [x] } hcx (by
          intro y hy
          rcases List.mem_append.mp hy with hy | hy
          · exact hv y hy
          · simp only [List.mem_singleton] at hy; rw [hy]; exact hcx)
        unfold afterRef
        split
        · rename_i heq; rw [heq] at h1; exact h1
        · rename_i t st1 heq
          rw [heq] at h1
          split
          · exact h1
          · have := ih' st1 h1
            split
            · rename_i heq2; rw [heq2] at this; exact this
            · rename_i heq2; rw [heq2] at this; exact this

theorem readBody_visC (C : Def → Prop) (au : Bool) {L : List Def} {d : Def} (hd : C d) (hcl : DepClosed L C)
    (rd : (x : Def) → x ∈ L → St → Res Ty) (hrd : ∀ x hx s, C x → VisC C s → VisC C (rd x hx s).2) (st : St)
    (hv : VisC C st) : VisC C (readBody au L d rd st).2 := by
  unfold readBody
  by_cases hg : d.text.garbage = true
  · simpa [hg] using hv
  · have hg' : d.text.garbage = false := by simpa using hg
    have hres : ∀ r ∈ d.text.refs, ∀ x, resolve L d r = .ok x → C x := by
      intro r hr x hx
      obtain ⟨hxL, hn, hma, hmi, _⟩ := resolve_ok hx
      exact hcl d hd hg' r hr x hxL (by simp [Def.key, hn, hma, hmi])
    have h1 := runStmts_visC C rd hrd d.text.req.stmts (fun r hr => hres r (by simp [Text.refs, hr])) st hv
    simp only [hg', Bool.false_eq_true, if_false]
    split
    · rename_i heq; rw [heq] at h1; exact h1
    · rename_i sh1 n1 st1 heq
      rw [heq] at h1
      split
      · exact h1
      · rename_i rs hresp
        have h2 := runStmts_visC C rd hrd rs.stmts (fun r hr => hres r (by simp [Text.refs, hresp, hr])) st1 h1
        split
        · rename_i heq2; rw [heq2] at h2; exact h2
        · rename_i heq2; rw [heq2] at h2; exact h2

theorem readObj_visC (C : Def → Prop) (au : Bool) (L : List Def) (d : Def) (st : St) (hcl : DepClosed L C) (hd : C d)
    (hv : VisC C st) : VisC C (readObj au L d st).2 := by
  induction L, d, st using readObj.induct au with
  | case1 L d st t ht =>
    rw [readObj]; simp only [ht]; exact hv
  | case2 L d st hn t st' hb ih =>
    have := readBody_visC C au hd (hcl.drop d) (fun x hx s => readObj au (dropKey L d) x s)
      (fun x hx s hcx hs => ih x hx s (hcl.drop d) hcx hs) st hv
    rw [readObj]; simp only [hn, hb]
    rw [hb] at this; exact this
  | case3 L d st hn e st' hb ih =>
    have := readBody_visC C au hd (hcl.drop d) (fun x hx s => readObj au (dropKey L d) x s)
      (fun x hx s hcx hs => ih x hx s (hcl.drop d) hcx hs) st hv
    rw [readObj]; simp only [hn, hb]
    rw [hb] at this; exact this

section Sim
variable (f : Def → Text) (C : Def → Prop) (hC : ∀ x, C x → retext f x = x)
include hC

theorem resolve_sim {L : List Def} {d : Def} (hd : C d) (r : Ref) :
    resolve (L.map (retext f)) d r = (resolve L d r).map (retext f) := by
  have := resolve_retext f L d r
  rw [hC d hd] at this
  exact this

/-- the statements of one section run identically against the re-texted lookup list -/
theorem runStmts_sim {L : List Def} {d : Def} (hd : C d)
    (rd' : (x : Def) → x ∈ L.map (retext f) → St → Res Ty) (rd : (x : Def) → x ∈ L → St → Res Ty)
    (hrd : ∀ x hx hx' s, C x → rd' x hx' s = rd x hx s) :
    ∀ (stmts : List Stmt), (∀ r ∈ refsOf stmts, ∀ x, resolve L d r = .ok x → C x) →
      ∀ st, runStmts (L.map (retext f)) d rd' stmts st = runStmts L d rd stmts st := by
  intro stmts
  induction stmts with
  | nil => intro _ st; simp only [runStmts]
  | cons s rest ih =>
    intro hrefs st
    cases s with
    | prim b =>
      simp only [runStmts]
      rw [ih (fun r hr => hrefs r (by simpa [refsOf] using hr))]
    | print n =>
      simp only [runStmts]
      rw [ih (fun r hr => hrefs r (by simpa [refsOf] using hr))]
    | bad => simp only [runStmts]
    | ref r =>
      have hsim := resolve_sim f C hC (L := L) hd r
      have ih' := ih (fun r' hr' => hrefs r' (by simp [refsOf, hr']))
      cases hres : resolve L d r with
      | error e =>
        rw [hres] at hsim
        rw [runStmts_ref_err hres, runStmts_ref_err hsim]
      | ok x =>
        have hcx : C x := hrefs r (by simp [refsOf]) x hres
        rw [hres] at hsim
        have hsim' : resolve (L.map (retext f)) d r = .ok x := by rw [hsim]; simp [Except.map, hC x hcx]
        rw [runStmts_ref_ok hres, runStmts_ref_ok hsim', hrd x (resolve_mem hres) (resolve_mem hsim') _ hcx]
        unfold afterRef
        simp only [ih']

theorem readBody_sim (au : Bool) {L : List Def} {d : Def} (hd : C d) (hcl : DepClosed L C)
    (rd' : (x : Def) → x ∈ L.map (retext f) → St → Res Ty) (rd : (x : Def) → x ∈ L → St → Res Ty)
    (hrd : ∀ x hx hx' s, C x → rd' x hx' s = rd x hx s) (st : St) :
    readBody au (L.map (retext f)) d rd' st = readBody au L d rd st := by
  unfold readBody
  by_cases hg : d.text.garbage = true
  · simp [hg]
  · have hg' : d.text.garbage = false := by simpa using hg
    have hres : ∀ r ∈ d.text.refs, ∀ x, resolve L d r = .ok x → C x := by
      intro r hr x hx
      obtain ⟨hxL, hn, hma, hmi, _⟩ := resolve_ok hx
      exact hcl d hd hg' r hr x hxL (by simp [Def.key, hn, hma, hmi])
    have e1 := funext (runStmts_sim f C hC hd rd' rd hrd d.text.req.stmts
      (fun r hr => hres r (by simp [Text.refs, hr])))
    rw [e1]
    cases hresp : d.text.resp with
    | none => rfl
    | some rs =>
      have e2 := funext (runStmts_sim f C hC hd rd' rd hrd rs.stmts
        (fun r hr => hres r (by simp [Text.refs, hresp, hr])))
      simp only [e2]

/-- One `read` of a definition of a dependency-closed set is blind to the texts outside the set. -/
theorem readObj_sim (au : Bool) (L : List Def) (d : Def) (st : St) (hcl : DepClosed L C) (hd : C d) :
    readObj au (L.map (retext f)) d st = readObj au L d st := by
  induction L, d, st using readObj.induct au with
  | case1 L d st t ht =>
    rw [readObj, readObj]
    simp only [ht]
  | case2 L d st hn t st' hb ih =>
    rw [readObj, readObj]
    simp only [hn]
    rw [dropKey_retext]
    rw [readBody_sim f C hC au hd (hcl.drop d) _ (fun x hx s => readObj au (dropKey L d) x s)
      (fun x hx hx' s hcx => ih x hx s (hcl.drop d) hcx)]
  | case3 L d st hn e st' hb ih =>
    rw [readObj, readObj]
    simp only [hn]
    rw [dropKey_retext]
    rw [readBody_sim f C hC au hd (hcl.drop d) _ (fun x hx s => readObj au (dropKey L d) x s)
      (fun x hx hx' s hcx => ih x hx s (hcl.drop d) hcx)]

end Sim

/-! ### the direct / transitive book-keeping -/

def PoolC (C : Def → Prop) (pool : List (Path × Def)) : Prop := ∀ p o, (p, o) ∈ pool → C o

theorem setDefault_poolC {C : Def → Prop} {pool pool' : List (Path × Def)} {d d' : Def}
    (h : setDefault pool d = (d', pool')) (hd : C d) (hp : PoolC C pool) : C d' ∧ PoolC C pool' := by
  unfold setDefault at h
  split at h
  · rename_i o ho
    cases h
    exact ⟨hp _ _ (lookup_mem ho), hp⟩
  · cases h
    refine ⟨hd, ?_⟩
    intro p o hm
    rcases List.mem_cons.mp hm with e | hm
    · cases e; exact hd
    · exact hp p o hm

section Sim2
variable (f : Def → Text) (C : Def → Prop) (hC : ∀ x, C x → retext f x = x)
include hC

theorem level1_sim (au : Bool) (L : List Def) (hcl : DepClosed L C) (pend : List Def) (b : Book)
    (hp : ∀ p ∈ pend, C p) (hpool : PoolC C b.pool) :
    level1 au (L.map (retext f)) pend b = level1 au L pend b ∧
      ∀ b' s, level1 au L pend b = (.ok b', s) → PoolC C b'.pool := by
  induction pend, b using level1.induct au L with
  | case1 b =>
    rw [level1, level1]
    exact ⟨rfl, fun b' s h => by cases h; exact hpool⟩
  | case2 p rest b p' pool hsd b1 t hl hc ih =>
    obtain ⟨hcp', hpool'⟩ := setDefault_poolC hsd (hp p (by simp)) hpool
    have := ih (fun q hq => hp q (by simp [hq])) hpool'
    rw [level1, level1]
    simp only [hsd]
    simp only [b1] at hl hc this
    simp only [hl, hc, if_true]
    exact this
  | case3 p rest b p' pool hsd b1 t hl hc ih =>
    obtain ⟨hcp', hpool'⟩ := setDefault_poolC hsd (hp p (by simp)) hpool
    have := ih (fun q hq => hp q (by simp [hq])) hpool'
    rw [level1, level1]
    simp only [hsd]
    simp only [b1] at hl hc this
    simp only [hl, hc]
    exact this
  | case4 p rest b p' pool hsd b1 hl e st1 hr =>
    obtain ⟨hcp', hpool'⟩ := setDefault_poolC hsd (hp p (by simp)) hpool
    rw [level1, level1]
    simp only [hsd]
    simp only [b1] at hl hr
    simp only [hl, readObj_sim f C hC au L p' b.st hcl hcp', hr]
    exact ⟨trivial, fun b' s h => by cases h⟩
  | case5 p rest b p' pool hsd b1 hl t st1 hr ih =>
    obtain ⟨hcp', hpool'⟩ := setDefault_poolC hsd (hp p (by simp)) hpool
    have := ih (fun q hq => hp q (by simp [hq])) hpool'
    rw [level1, level1]
    simp only [hsd]
    simp only [b1] at hl hr this
    simp only [hl, readObj_sim f C hC au L p' b.st hcl hcp', hr]
    exact this

theorem level0_sim (au : Bool) (L : List Def) (hcl : DepClosed L C) (ts : List Def) (b : Book)
    (ht : ∀ t ∈ ts, C t) (hpool : PoolC C b.pool) :
    level0 au (L.map (retext f)) ts b = level0 au L ts b := by
  induction ts, b using level0.induct au L with
  | case1 b => rw [level0, level0]
  | case2 p rest b p' pool hsd b1 skip b' hs ih =>
    obtain ⟨hcp', hpool'⟩ := setDefault_poolC hsd (ht p (by simp)) hpool
    have hb' : b'.pool = pool := by
      simp only [skip, b1] at hs
      split at hs
      · split at hs
        · cases hs; rfl
        · split at hs
          · cases hs; rfl
          · cases hs
      · cases hs
    have := ih (fun q hq => ht q (by simp [hq])) (by rw [hb']; exact hpool')
    rw [level0, level0]
    simp only [hsd]
    simp only [skip, b1] at hs
    simp only [hs]
    exact this
  | case3 p rest b p' pool hsd b1 skip hs e st1 hr =>
    obtain ⟨hcp', hpool'⟩ := setDefault_poolC hsd (ht p (by simp)) hpool
    rw [level0, level0]
    simp only [hsd]
    simp only [skip, b1] at hs hr
    simp only [hs, readObj_sim f C hC au L p' _ hcl hcp', hr]
  | case4 p rest b p' pool hsd b1 skip hs t st1 hr b2 pending e st hl =>
    obtain ⟨hcp', hpool'⟩ := setDefault_poolC hsd (ht p (by simp)) hpool
    have hvis := readObj_visC C au L p' { b.st with visited := [] } hcl hcp' (by intro y hy; cases hy)
    rw [level0, level0]
    simp only [hsd]
    simp only [skip, b1] at hs hr
    rw [hr] at hvis
    simp only [hs, readObj_sim f C hC au L p' _ hcl hcp', hr]
    have h1 := (level1_sim f C hC au L hcl (sortDefs pending) b2 (by
      intro q hq
      have := mem_dedupKeys (mem_sortDefs.mp hq)
      exact hvis q (List.mem_filter.mp this).1) hpool').1
    simp only [pending, b2, b1] at h1 hl
    simp only [h1, hl]
  | case5 p rest b p' pool hsd b1 skip hs t st1 hr b2 pending b' snd hl ih =>
    obtain ⟨hcp', hpool'⟩ := setDefault_poolC hsd (ht p (by simp)) hpool
    have hvis := readObj_visC C au L p' { b.st with visited := [] } hcl hcp' (by intro y hy; cases hy)
    rw [level0, level0]
    simp only [hsd]
    simp only [skip, b1] at hs hr
    rw [hr] at hvis
    simp only [hs, readObj_sim f C hC au L p' _ hcl hcp', hr]
    have h1 := level1_sim f C hC au L hcl (sortDefs pending) b2 (by
      intro q hq
      have := mem_dedupKeys (mem_sortDefs.mp hq)
      exact hvis q (List.mem_filter.mp this).1) hpool'
    have := ih (fun q hq => ht q (by simp [hq])) (h1.2 b' snd hl)
    have h1' := h1.1
    simp only [pending, b2, b1] at h1' hl
    simp only [h1', hl]
    exact this

end Sim2

/-! ### the entry points: replacing texts in the file system -/

/-- the file system in which the file at path `p` with text `t` has the text `f p t` instead -/
def retextE (f : Path → Text → Text) (e : FileEntry) : FileEntry := { e with text := f (e.dir ++ e.sub ++ [e.fname]) e.text }

/-- the same replacement on definition objects -/
abbrev retextD (f : Path → Text → Text) : Def → Def := retext fun d => f d.path d.text

theorem mkDef_retextE (f : Path → Text → Text) (tgt : Bool) (e : FileEntry) :
    mkDef tgt (retextE f e) = (mkDef tgt e).map (retextD f) := by
  unfold mkDef retextE
  simp only
  split
  · rfl
  · split
    · rfl
    · split <;> rfl

theorem mapMDefs_retextE (f : Path → Text → Text) (tgt : Bool) (l : List FileEntry) :
    mapMDefs tgt (l.map (retextE f)) = (mapMDefs tgt l).map (List.map (retextD f)) := by
  induction l with
  | nil => rfl
  | cons e r ih =>
    rw [List.map_cons, mapMDefs_cons, mapMDefs_cons, ih, mkDef_retextE]
    cases mkDef tgt e <;> cases mapMDefs tgt r <;> rfl

theorem sortDefs_retext (g : Def → Text) (ds : List Def) : sortDefs (ds.map (retext g)) = (sortDefs ds).map (retext g) := by
  unfold sortDefs
  exact (List.map_mergeSort (r := fun a b : Def => keyLe a.key b.key) (s := fun a b : Def => keyLe a.key b.key)
    (f := retext g) (l := ds) (fun a _ b _ => rfl)).symm

theorem collect_retextE (f : Path → Text → Text) (tgt : Bool) (files : List FileEntry) (dirs : List Path) :
    collect tgt (files.map (retextE f)) dirs = (collect tgt files dirs).map (List.map (retextD f)) := by
  unfold collect
  have : (files.map (retextE f)).filter (fun e => dirs.contains e.dir && isDefinitionFile e.fname) =
      (files.filter (fun e => dirs.contains e.dir && isDefinitionFile e.fname)).map (retextE f) := by
    rw [List.filter_map]; rfl
  rw [this, mapMDefs_retextE]
  cases mapMDefs tgt (files.filter fun e => dirs.contains e.dir && isDefinitionFile e.fname) with
  | error e => rfl
  | ok ds =>
    show Except.ok (sortDefs (ds.map (retextD f))) = _
    rw [sortDefs_retext]; rfl

/-! ### two file systems with the same file names -/

def FileEntry.path (e : FileEntry) : Path := e.dir ++ e.sub ++ [e.fname]

/-- the text the second file system has at path `p` (the text `t` of the first one if `p` does not occur) -/
def textAt (pairs : List (FileEntry × FileEntry)) (p : Path) (t : Text) : Text :=
  match pairs.find? (fun q => q.1.path == p) with
  | some q => q.2.text
  | none => t

theorem textAt_append_of_not_mem {pre post : List (FileEntry × FileEntry)} {p : Path} (h : ∀ q ∈ pre, q.1.path ≠ p) (t : Text) :
    textAt (pre ++ post) p t = textAt post p t := by
  unfold textAt
  rw [List.find?_append]
  have : pre.find? (fun q => q.1.path == p) = none := by
    apply List.find?_eq_none.mpr
    intro q hq
    simpa using h q hq
  rw [this]; rfl

/-- A second enumeration with the same file names (and distinct paths) is the first one with texts replaced. -/
theorem same_names_retextE : ∀ (files files' : List FileEntry) (pre : List (FileEntry × FileEntry)),
    files.map (fun e => (e.dir, e.sub, e.fname)) = files'.map (fun e => (e.dir, e.sub, e.fname)) →
    (files.map FileEntry.path).Nodup → (∀ q ∈ pre, ∀ e ∈ files, q.1.path ≠ e.path) →
    files' = files.map (retextE (textAt (pre ++ files.zip files')))
  | [], [], _, _, _, _ => rfl
  | [], _ :: _, _, h, _, _ => by simp at h
  | _ :: _, [], _, h, _, _ => by simp at h
  | e :: r, e' :: r', pre, h, hnd, hpre => by
    simp only [List.map_cons, List.cons.injEq, Prod.mk.injEq] at h
    obtain ⟨⟨h1, h2, h3⟩, hr⟩ := h
    simp only [List.map_cons, List.nodup_cons] at hnd
    simp only [List.zip_cons_cons, List.map_cons]
    congr 1
    · have : textAt (pre ++ (e, e') :: r.zip r') (e.dir ++ e.sub ++ [e.fname]) e.text = e'.text := by
        show textAt (pre ++ (e, e') :: r.zip r') e.path e.text = e'.text
        rw [textAt_append_of_not_mem (fun q hq => hpre q hq e (by simp))]
        simp [textAt]
      cases e; cases e'
      simp only [retextE] at this ⊢
      simp only at h1 h2 h3
      rw [this, h1, h2, h3]
    · have := same_names_retextE r r' (pre ++ [(e, e')]) hr hnd.2 (by
        intro q hq x hx
        rcases List.mem_append.mp hq with hq | hq
        · exact hpre q hq x (List.mem_cons_of_mem _ hx)
        · simp only [List.mem_singleton] at hq
          rw [hq]
          intro heq
          exact hnd.1 (by rw [heq]; exact List.mem_map.mpr ⟨x, hx, rfl⟩))
      rw [List.append_assoc] at this
      exact this

theorem textAt_zip_of_mem {files files' : List FileEntry} {e : FileEntry}
    (hlen : files.length = files'.length) (hnd : (files.map FileEntry.path).Nodup) (he : e ∈ files) (t : Text) :
    ∃ e', (e, e') ∈ files.zip files' ∧ textAt (files.zip files') e.path t = e'.text := by
  induction files generalizing files' with
  | nil => cases he
  | cons a r ih =>
    cases files' with
    | nil => simp at hlen
    | cons a' r' =>
      simp only [List.map_cons, List.nodup_cons] at hnd
      rcases List.mem_cons.mp he with rfl | he
      · exact ⟨a', by simp, by simp [textAt]⟩
      · obtain ⟨e', hz, ht⟩ := ih (files' := r') (by simpa using hlen) hnd.2 he
        refine ⟨e', by simp [hz], ?_⟩
        have hne : a.path ≠ e.path := fun heq => hnd.1 (by rw [heq]; exact List.mem_map.mpr ⟨e, he, rfl⟩)
        have := textAt_append_of_not_mem (pre := [(a, a')]) (post := r.zip r') (p := e.path)
          (by intro q hq; simp only [List.mem_singleton] at hq; rw [hq]; exact hne) t
        simp only [List.zip_cons_cons]
        rw [show (a, a') :: r.zip r' = [(a, a')] ++ r.zip r' from rfl, this, ht]

/-- the dependency closure of the targets `ts` in the lookup list `L`: the least set that contains the targets and, with a
    definition whose text parses, every definition of `L` that one of its references names -/
inductive DepClosure (L ts : List Def) : Def → Prop where
  | target {t : Def} : t ∈ ts → DepClosure L ts t
  | dep {d x : Def} {r : Ref} : DepClosure L ts d → d.text.garbage = false → r ∈ d.text.refs → x ∈ L →
      x.key = (completeName d r.name, r.major, r.minor) → DepClosure L ts x

theorem DepClosure.mem {L ts : List Def} {d : Def} (h : DepClosure L ts d) : d ∈ L ∨ d ∈ ts := by
  cases h with
  | target h => exact Or.inr h
  | dep _ _ _ hx _ => exact Or.inl hx

theorem DepClosure.closed (L ts : List Def) : DepClosed L (DepClosure L ts) :=
  fun _ hd hg _ hr _ hx hk => DepClosure.dep hd hg hr hx hk

theorem DepClosure.least {L ts : List Def} {C : Def → Prop} (ht : ∀ t ∈ ts, C t) (hc : DepClosed L C) {d : Def}
    (h : DepClosure L ts d) : C d := by
  induction h with
  | target h => exact ht _ h
  | dep _ hg hr hx hk ih => exact hc _ ih hg _ hr _ hx hk

/-- `_complete_read_function` does not see a replacement of texts outside the dependency closure of its targets -/
theorem completeRead_retextE (f : Path → Text → Text) (au : Bool) (files : List FileEntry) (targets : List Def) (dirs : List Path)
    (h : ∀ L, collect false files dirs = .ok L → ∀ d, DepClosure L targets d → f d.path d.text = d.text) :
    completeRead au (files.map (retextE f)) targets dirs = completeRead au files targets dirs := by
  unfold completeRead
  rw [collect_retextE]
  cases hL : collect false files dirs with
  | error e => rfl
  | ok L =>
    have hC : ∀ x, DepClosure L targets x → retext (fun d => f d.path d.text) x = x := by
      intro x hx
      have := h L hL x hx
      cases x
      simp only [retext] at this ⊢
      rw [this]
    simp only [Except.map]
    rw [level0_sim _ _ hC au L (DepClosure.closed L targets) targets {} (fun t ht => DepClosure.target ht)
      (by intro p o hm; cases hm)]

end Ns
