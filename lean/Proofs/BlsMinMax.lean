import Proofs.BlsModulo
/-! `Op.min` / `Op.max` are the least / greatest element of the denoted set; asserts never fire. -/
open scoped Pointwise
namespace Bls

theorem sumMin_eq (cs : List Op) : sumMin cs = (cs.map Op.min).sum := by
  induction cs with
  | nil => simp [sumMin]
  | cons c cs ih => simp [sumMin, ih]

theorem sumMax_eq (cs : List Op) : sumMax cs = (cs.map Op.max).sum := by
  induction cs with
  | nil => simp [sumMax]
  | cons c cs ih => simp [sumMax, ih]

theorem minL_cons (a b : ℕ) (l : List ℕ) : minL (a :: b :: l) = min a (minL (b :: l)) :=
  List.foldl_assoc (op := min)

theorem maxL_cons (a b : ℕ) (l : List ℕ) : maxL (a :: b :: l) = max a (maxL (b :: l)) :=
  List.foldl_assoc (op := max)

theorem minMin_eq : ∀ cs : List Op, minMin cs = minL (cs.map Op.min)
  | [] => rfl
  | [_] => rfl
  | c :: c' :: cs => (congrArg (min c.min) (minMin_eq (c' :: cs))).trans (minL_cons _ _ _).symm

theorem maxMax_eq : ∀ cs : List Op, maxMax cs = maxL (cs.map Op.max)
  | [] => rfl
  | [c] => by simp [maxMax, maxL]
  | c :: c' :: cs => (congrArg (max c.max) (maxMax_eq (c' :: cs))).trans (maxL_cons _ _ _).symm

/-- `m` is the least and `M` the greatest element of `S`. -/
structure MinMax (S : Finset ℕ) (m M : ℕ) : Prop where
  min_mem : m ∈ S
  max_mem : M ∈ S
  le : ∀ x ∈ S, m ≤ x ∧ x ≤ M

namespace MinMax
variable {S T : Finset ℕ} {m M n N : ℕ}

theorem zero : MinMax 0 0 0 := ⟨Finset.zero_mem_zero, Finset.zero_mem_zero, fun x hx => by simp_all⟩

theorem add (h : MinMax S m M) (h' : MinMax T n N) : MinMax (S + T) (m + n) (M + N) where
  min_mem := Finset.add_mem_add h.min_mem h'.min_mem
  max_mem := Finset.add_mem_add h.max_mem h'.max_mem
  le x hx := by
    obtain ⟨a, ha, b, hb, rfl⟩ := Finset.mem_add.mp hx
    exact ⟨Nat.add_le_add (h.le a ha).1 (h'.le b hb).1, Nat.add_le_add (h.le a ha).2 (h'.le b hb).2⟩

theorem nsmul (h : MinMax S m M) (k : ℕ) : MinMax (k • S) (m * k) (M * k) := by
  induction k with
  | zero => simpa using zero
  | succ k ih => rw [succ_nsmul, Nat.mul_succ, Nat.mul_succ]; exact ih.add h

theorem image (h : MinMax S m M) {f : ℕ → ℕ} (hf : ∀ x y, x ≤ y → f x ≤ f y) : MinMax (S.image f) (f m) (f M) where
  min_mem := Finset.mem_image_of_mem f h.min_mem
  max_mem := Finset.mem_image_of_mem f h.max_mem
  le x hx := by
    obtain ⟨y, hy, rfl⟩ := Finset.mem_image.mp hx
    exact ⟨hf _ _ (h.le y hy).1, hf _ _ (h.le y hy).2⟩

theorem list_sum (cs : List Op) (f g : Op → ℕ) (h : ∀ c ∈ cs, MinMax (den c) (f c) (g c)) :
    MinMax (cs.map den).sum (cs.map f).sum (cs.map g).sum := by
  induction cs with
  | nil => exact zero
  | cons c cs ih =>
    simp only [List.map_cons, List.sum_cons]
    exact (h c List.mem_cons_self).add (ih fun x hx => h x (List.mem_cons_of_mem _ hx))
theorem unique (h : MinMax S m M) (h' : MinMax S n N) : m = n ∧ M = N :=
  ⟨le_antisymm (h.le n h'.min_mem).1 (h'.le m h.min_mem).1, le_antisymm (h'.le M h.max_mem).2 (h.le N h'.max_mem).2⟩

theorem eq_min'_max' (h : MinMax S m M) (hne : S.Nonempty) : m = S.min' hne ∧ M = S.max' hne :=
  ⟨le_antisymm ((Finset.le_min'_iff _ _).mpr fun y hy => (h.le y hy).1) (Finset.min'_le _ _ h.min_mem),
   le_antisymm (Finset.le_max' _ _ h.max_mem) ((Finset.max'_le_iff _ _).mpr fun y hy => (h.le y hy).2)⟩

end MinMax

theorem minMax_exact : ∀ o : Op, o.wf = true → MinMax (den o) o.min o.max :=
  Op.wf_induct
    (leaf := fun vs h => by
      have h1 := minL_spec h
      have h2 := maxL_spec h
      exact ⟨by simpa [den, Op.min] using h1.1, by simpa [den, Op.max] using h2.1,
        fun x hx => ⟨h1.2 x (by simpa [den] using hx), h2.2 x (by simpa [den] using hx)⟩⟩)
    (pad := fun c a _ _ ih => ih.image (padTo_mono a))
    (cat := fun cs _ _ ih => by
      rw [den, denSum_eq, Op.min, Op.max, sumMin_eq, sumMax_eq]
      exact MinMax.list_sum cs _ _ ih)
    (rep := fun c k _ ih => ih.nsmul k)
    (rrep := fun c k _ ih => by
      simp only [den, Op.min, Op.max]
      refine ⟨?_, ?_, ?_⟩
      · exact Finset.mem_biUnion.mpr ⟨0, by simp, by simp⟩
      · exact Finset.mem_biUnion.mpr ⟨k, by simp, (ih.nsmul k).max_mem⟩
      · intro x hx
        obtain ⟨j, hj, hx⟩ := Finset.mem_biUnion.mp hx
        exact ⟨Nat.zero_le x, le_trans ((ih.nsmul j).le x hx).2 (Nat.mul_le_mul_left _ (by simpa [Nat.lt_succ_iff] using hj))⟩)
    (uni := fun cs hne _ ih => by
      have hne' : ∀ f : Op → ℕ, cs.map f ≠ [] := fun f => by simpa using hne
      obtain ⟨cm, hcm, hm⟩ := List.mem_map.mp (minL_spec (hne' Op.min)).1
      obtain ⟨cM, hcM, hM⟩ := List.mem_map.mp (maxL_spec (hne' Op.max)).1
      rw [den, Op.min, Op.max, minMin_eq, maxMax_eq]
      refine ⟨(mem_denUnion cs _).mpr ⟨cm, hcm, hm ▸ (ih cm hcm).min_mem⟩,
        (mem_denUnion cs _).mpr ⟨cM, hcM, hM ▸ (ih cM hcM).max_mem⟩, fun x hx => ?_⟩
      obtain ⟨c, hc, hxc⟩ := (mem_denUnion cs x).mp hx
      exact ⟨le_trans ((minL_spec (hne' _)).2 _ (List.mem_map_of_mem hc)) ((ih c hc).le x hxc).1,
        le_trans ((ih c hc).le x hxc).2 ((maxL_spec (hne' _)).2 _ (List.mem_map_of_mem hc))⟩)

/-- `min` is the least element of the denoted set. -/
theorem min_exact (o : Op) (h : o.wf = true) : o.min ∈ den o ∧ ∀ x ∈ den o, o.min ≤ x :=
  ⟨(minMax_exact o h).min_mem, fun x hx => ((minMax_exact o h).le x hx).1⟩

/-- `max` is the greatest element of the denoted set. -/
theorem max_exact (o : Op) (h : o.wf = true) : o.max ∈ den o ∧ ∀ x ∈ den o, x ≤ o.max :=
  ⟨(minMax_exact o h).max_mem, fun x hx => ((minMax_exact o h).le x hx).2⟩

/-- None of the `assert`s on the way of `modulo d` can fire. -/
theorem asserts_never_fire : ∀ o : Op, o.wf = true → ∀ d : ℕ, 0 < d → o.assertsOk d = true :=
  Op.wf_induct
    (leaf := fun _ _ _ _ => rfl)
    (pad := fun c a hc ha ih d hd => by
      have hl : 0 < Nat.lcm a d := Nat.lcm_pos (by omega) hd
      simp only [Op.assertsOk, Bool.and_eq_true, List.all_eq_true, decide_eq_true_eq]
      refine ⟨ih _ hl, fun x hx => ?_⟩
      have hx' : x ∈ (den c).image (· % Nat.lcm a d) := by
        rw [← modulo_exact c hc _ hl]; simpa using hx
      obtain ⟨y, hy, rfl⟩ := Finset.mem_image.mp hx'
      refine ⟨?_, Nat.mod_lt _ hl⟩
      calc y % Nat.lcm a d ≤ y := Nat.mod_le _ _
        _ ≤ c.max := (max_exact c hc).2 y hy
        _ ≤ padTo a c.max := le_padTo a _ ha)
    (cat := fun cs _ _ ih d hd => by
      rw [Op.assertsOk, assertsOks_iff]
      exact fun c hc => ih c hc d hd)
    (rep := fun c k _ ih d hd => by
      simp only [Op.assertsOk, Bool.and_eq_true, beq_iff_eq]
      exact ⟨ih d hd, (equivK_mod k d).symm⟩)
    (rrep := fun c k _ ih d hd => by
      simp only [Op.assertsOk, Bool.and_eq_true, beq_iff_eq]
      exact ⟨ih d hd, (equivK_mod k d).symm⟩)
    (uni := fun cs _ _ ih d hd => by
      rw [Op.assertsOk, assertsOks_iff]
      exact fun c hc => ih c hc d hd)

end Bls
