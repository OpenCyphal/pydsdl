import Model.Expr
import Mathlib.Tactic.NormNum
import Mathlib.Tactic.Ring
import Mathlib.Tactic.Linarith
import Mathlib.Data.Rat.Defs
import Mathlib.Algebra.Order.Field.Rat
import Mathlib.Data.Rat.Floor
/-! Lemmas about the evaluator of constant expressions: exact arithmetic, the definedness table, sets. -/

namespace Ex

/-! ## Exact arithmetic -/

theorem isInt'_intCast (n : Int) : Rat.isInt' (n : Rat) = true := by simp [Rat.isInt']

theorem isInt'_iff' (q : Rat) : Rat.isInt' q = true ↔ ∃ z : Int, q = z := by
  simp only [Rat.isInt', beq_iff_eq]
  constructor
  · intro h; exact ⟨q.num, ((Rat.den_eq_one_iff q).mp h).symm⟩
  · rintro ⟨z, rfl⟩; simp

theorem scPow_int (a : Rat) (n : Int) (h : a ≠ 0 ∨ 0 ≤ n) : scPow a (n : Rat) = .ok (a ^ n) := by
  simp only [scPow, isInt'_intCast, ↓reduceIte, Rat.num_intCast, ratPowInt]
  by_cases hn : 0 ≤ n
  · obtain ⟨k, rfl⟩ := Int.eq_ofNat_of_zero_le hn
    simp
  · have ha : a ≠ 0 := h.resolve_right hn
    simp only [hn, ↓reduceIte, ha]
    obtain ⟨k, rfl⟩ : ∃ k : Nat, n = -(k:Int) := ⟨(-n).toNat, by omega⟩
    simp

theorem scPow_zero_neg (n : Int) (h : n < 0) : scPow 0 (n : Rat) = .error (.invalid .divZero) := by
  simp only [scPow, isInt'_intCast, ↓reduceIte, Rat.num_intCast, ratPowInt]
  have : ¬ 0 ≤ n := by omega
  simp [this, inval]

/-- floored modulo: `a = k*b + r` with `r` between `0` and `b` (sign of the divisor) -/
theorem ratMod_spec (a b : Rat) :
    (∃ k : Int, a = k * b + ratMod a b) ∧ (0 < b → 0 ≤ ratMod a b ∧ ratMod a b < b) ∧ (b < 0 → b < ratMod a b ∧ ratMod a b ≤ 0) := by
  unfold ratMod
  have h1 : ((a / b).floor : Rat) ≤ a / b := Int.floor_le _
  have h2 : a / b < (a / b).floor + 1 := Int.lt_floor_add_one _
  refine ⟨⟨(a / b).floor, by ring⟩, fun hpos => ?_, fun hneg => ?_⟩
  · rw [le_div_iff₀ hpos] at h1
    rw [div_lt_iff₀ hpos] at h2
    constructor <;> linarith
  · rw [le_div_iff_of_neg hneg] at h1
    rw [div_lt_iff_of_neg hneg] at h2
    constructor <;> linarith

/-! ## Outcomes that are a value or a rejection -/

/-- `r` is a value exactly when `P` holds, and otherwise an `invalid`-class rejection (never a hazard) -/
structure OkIff {α} (r : R α) (P : Prop) : Prop where
  iff : (∃ v, r = .ok v) ↔ P
  err : ∀ e, r = .error e → ∃ k, e = .invalid k

theorem OkIff.ok {α} {r : R α} {P : Prop} {v : α} (hr : r = .ok v) (hP : P) : OkIff r P :=
  ⟨⟨fun _ => hP, fun _ => ⟨v, hr⟩⟩, fun e he => by rw [hr] at he; cases he⟩

theorem OkIff.inval {α} {r : R α} {P : Prop} {k : InvKind} (hr : r = inval k) (hP : ¬ P) : OkIff r P :=
  ⟨⟨fun ⟨v, hv⟩ => (by rw [hr] at hv; cases hv), fun h => absurd h hP⟩,
   fun e he => ⟨k, by rw [hr] at he; exact (Except.error.inj he).symm⟩⟩

theorem OkIff.congr {α} {r : R α} {P Q : Prop} (h : OkIff r P) (hPQ : P ↔ Q) : OkIff r Q := ⟨h.iff.trans hPQ, h.err⟩

theorem OkIff.map {α β} {r : R α} {P : Prop} (h : OkIff r P) (f : α → β) : OkIff (r.map f) P := by
  cases r with
  | ok v => exact .ok rfl (h.iff.mp ⟨v, rfl⟩)
  | error e =>
    obtain ⟨k, rfl⟩ := h.err e rfl
    exact .inval rfl fun hP => by obtain ⟨v, hv⟩ := h.iff.mpr hP; cases hv

theorem map_ok_iff {α β} (r : R α) (f : α → β) (w : β) : r.map f = .ok w ↔ ∃ v, r = .ok v ∧ w = f v := by
  cases r <;> simp [Except.map, eq_comm]

theorem map_err {α β} (r : R α) (g : α → β) (e : Err) (h : r.map g = .error e) : r = .error e := by
  cases r <;> simp [Except.map] at h ⊢; exact h

theorem invalid_of_inval {α} {k : InvKind} {e : Err} (h : (inval k : R α) = .error e) : ∃ k, e = .invalid k :=
  ⟨k, (Except.error.inj h).symm⟩

/-! ## The definedness table on primitives -/

/-- the exponent of a power is integral (the bound of the property) -/
def intExp (op : BinOp) (b : Scalar) : Prop := op = .pow → ∀ q, b = .rat q → Rat.isInt' q = true

/-- Appendix E of DESIGN.md on two primitives -/
def definedSc : BinOp → Scalar → Scalar → Prop
  | op, .rat a, .rat b =>
      match op with
      | .add | .sub | .mul | .eq | .ne | .le | .ge | .lt | .gt => True
      | .div | .mod => b ≠ 0
      | .pow => ¬ (a = 0 ∧ b < 0)
      | .bor | .bxor | .band => Rat.isInt' a = true ∧ Rat.isInt' b = true
      | .lor | .land => False
  | op, .bool _, .bool _ => op = .lor ∨ op = .land ∨ op = .eq ∨ op = .ne
  | op, .str _, .str _ => op = .add ∨ op = .eq ∨ op = .ne
  | _, _, _ => False

theorem ratPowInt_err (a : Rat) (n : Int) (e : Err) (h : ratPowInt a n = .error e) : e = .invalid .divZero := by
  unfold ratPowInt at h
  split at h
  · cases h
  · split at h
    · exact (Except.error.inj h).symm
    · cases h

theorem ratPowInt_defined (a : Rat) (n : Int) : OkIff (ratPowInt a n) (¬ (a = 0 ∧ n < 0)) := by
  unfold ratPowInt
  split
  · exact .ok rfl (by omega)
  · split
    · exact .inval rfl (fun h => h ⟨‹a = 0›, by omega⟩)
    · exact .ok rfl (fun h => absurd h.1 ‹_›)

theorem scPow_defined (a b : Rat) (hb : Rat.isInt' b = true) : OkIff (scPow a b) (¬ (a = 0 ∧ b < 0)) := by
  simp only [scPow, hb, ↓reduceIte]
  exact (ratPowInt_defined a b.num).congr (by rw [Rat.num_neg])

theorem bitwise_defined (f : Int → Int → Int) (a b : Rat) :
    OkIff (bitwise f a b) (Rat.isInt' a = true ∧ Rat.isInt' b = true) := by
  unfold bitwise
  split
  · rename_i h; exact .ok rfl (by simpa using h)
  · rename_i h; exact .inval rfl (by simpa using h)

/-- operands of different kinds have no operator in common -/
theorem scBin_of_kind_ne [StrNorm] (op : BinOp) {a b : Scalar} (h : a.kind ≠ b.kind) : scBin op a b = inval .undefinedOp := by
  cases a <;> cases b <;> first | exact absurd rfl h | (cases op <;> rfl)

theorem definedSc_kind {op : BinOp} {a b : Scalar} (h : definedSc op a b) : a.kind = b.kind := by
  cases a <;> cases b <;> first | rfl | exact h.elim

/-- On two primitives: a value is produced exactly for the combinations of the table, and every other combination
    is an `invalid`-class rejection (never a hazard), as long as exponents are integral. -/
theorem scBin_defined [StrNorm] (op : BinOp) (a b : Scalar) (hexp : intExp op b) : OkIff (scBin op a b) (definedSc op a b) := by
  have mixed : a.kind ≠ b.kind → OkIff (scBin op a b) (definedSc op a b) := fun hk =>
    .inval (scBin_of_kind_ne op hk) fun h => hk (definedSc_kind h)
  cases a with
  | rat x =>
    cases b with
    | rat y =>
      cases op
      case add | sub | mul | eq | ne | le | ge | lt | gt => exact .ok rfl trivial
      case lor | land => exact .inval rfl id
      case bor => exact bitwise_defined ior x y
      case bxor => exact bitwise_defined ixor x y
      case band => exact bitwise_defined iand x y
      case pow => exact (scPow_defined x y (hexp rfl y rfl)).map Scalar.rat
      case div | mod =>
        by_cases h : y = 0
        · exact .inval (if_pos h) fun hd => hd h
        · exact .ok (if_neg h) h
    | _ => exact mixed (by intro h; cases h)
  | bool x =>
    cases b with
    | bool y =>
      cases op
      case lor | land | eq | ne => exact .ok rfl (by simp [definedSc])
      all_goals exact .inval rfl (by simp [definedSc])
    | _ => exact mixed (by intro h; cases h)
  | str x =>
    cases b with
    | str y =>
      cases op
      case add | eq | ne => exact .ok rfl (by simp [definedSc])
      all_goals exact .inval rfl (by simp [definedSc])
    | _ => exact mixed (by intro h; cases h)

/-- the result of an arithmetic operator has the kind of its (equal-kinded) operands -/
theorem scBin_arith_kind [StrNorm] (op : BinOp) (x b y : Scalar) (ha : op.isArith = true) (h : scBin op x b = .ok y) :
    y.kind = x.kind ∧ y.kind = b.kind := by
  unfold scBin at h
  split at h
  -- `/` and `%`, `**`: the fourth to sixth alternative of `scBin`
  case h_4 | h_5 =>
    split at h
    · cases h
    · cases h; exact ⟨rfl, rfl⟩
  case h_6 => obtain ⟨q, _, rfl⟩ := (map_ok_iff _ _ _).mp h; exact ⟨rfl, rfl⟩
  -- `+ - *` and the concatenation give the value outright; every other operator is not arithmetic
  all_goals first | (cases h <;> exact ⟨rfl, rfl⟩) | cases ha

/-! ## Sets -/

theorem mem_dedup (x : Scalar) (l : List Scalar) : x ∈ dedup l ↔ x ∈ l := by
  induction l with
  | nil => simp [dedup]
  | cons y ys ih =>
    simp only [dedup]
    split
    · rename_i h
      simp only [List.mem_cons, ih]
      constructor
      · intro hx; exact Or.inr hx
      · rintro (rfl | hx)
        · exact ih.mp h
        · exact hx
    · simp only [List.mem_cons, ih]

theorem nodup_dedup (l : List Scalar) : (dedup l).Nodup := by
  induction l with
  | nil => simp [dedup]
  | cons y ys ih =>
    simp only [dedup]
    split
    · exact ih
    · rename_i h; exact List.nodup_cons.mpr ⟨h, ih⟩

theorem dedup_eq_nil (l : List Scalar) : dedup l = [] ↔ l = [] := by
  simp only [List.eq_nil_iff_forall_not_mem, mem_dedup]

theorem sameKinds_iff (l : List Scalar) : sameKinds l = true ↔ ∀ x ∈ l, ∀ y ∈ l, x.kind = y.kind := by
  cases l with
  | nil => simp [sameKinds]
  | cons a as =>
    simp only [sameKinds, List.all_eq_true, beq_iff_eq, List.mem_cons]
    constructor
    · intro h x hx y hy
      have hx' : x.kind = a.kind := by rcases hx with rfl | hx; rfl; exact h x hx
      have hy' : y.kind = a.kind := by rcases hy with rfl | hy; rfl; exact h y hy
      rw [hx', hy']
    · intro h y hy; exact h y (Or.inr hy) a (Or.inl rfl)

/-- invariant of set values: never empty, one element kind, no duplicates -/
def Val.wf : Val → Prop
  | .sc _ => True
  | .set es => es ≠ [] ∧ sameKinds es = true ∧ es.Nodup

theorem mkSetS_ok_iff (es : List Scalar) (v : Val) :
    mkSetS es = .ok v ↔ es ≠ [] ∧ sameKinds es = true ∧ v = .set (dedup es) := by
  unfold mkSetS
  cases es with
  | nil => simp [inval]
  | cons a as =>
    by_cases h : sameKinds (a :: as) = true <;> simp [h, inval, eq_comm]

theorem mkSetS_err (es : List Scalar) (e : Err) (h : mkSetS es = .error e) : ∃ k, e = .invalid k := by
  unfold mkSetS at h
  split at h
  · exact invalid_of_inval h
  · split at h
    · cases h
    · exact invalid_of_inval h

theorem mkSetS_ok_of (es : List Scalar) (h1 : es ≠ []) (h2 : sameKinds es = true) : mkSetS es = .ok (.set (dedup es)) :=
  (mkSetS_ok_iff es _).mpr ⟨h1, h2, rfl⟩

theorem mkSetS_nil_err : mkSetS [] = .error (.invalid .emptySet) := rfl

/-- elements of one kind make a set unless there is none -/
theorem mkSetS_defined (es : List Scalar) (hk : sameKinds es = true) : OkIff (mkSetS es) (es ≠ []) :=
  ⟨⟨fun ⟨v, hv⟩ => ((mkSetS_ok_iff es v).mp hv).1, fun h => ⟨_, mkSetS_ok_of es h hk⟩⟩, mkSetS_err es⟩

theorem mkSetS_mem {es r : List Scalar} (h : mkSetS es = .ok (.set r)) (x : Scalar) : x ∈ r ↔ x ∈ es := by
  obtain ⟨_, _, hr⟩ := (mkSetS_ok_iff _ _).mp h
  rw [Val.set.inj hr, mem_dedup]

theorem mkSetS_wf (es : List Scalar) (v : Val) (h : mkSetS es = .ok v) : v.wf := by
  obtain ⟨h1, h2, rfl⟩ := (mkSetS_ok_iff es v).mp h
  refine ⟨fun h => h1 ((dedup_eq_nil es).mp h), ?_, nodup_dedup es⟩
  rw [sameKinds_iff] at h2 ⊢
  intro x hx y hy
  exact h2 x ((mem_dedup x es).mp hx) y ((mem_dedup y es).mp hy)

/-! ### `mapR`: all results, or the first error -/

theorem mapR_ok_iff {α β} (f : α → R β) (l : List α) (ys : List β) : mapR f l = .ok ys ↔ l.map f = ys.map .ok := by
  induction l generalizing ys with
  | nil => cases ys <;> simp [mapR]
  | cons x xs ih =>
    simp only [mapR, List.map_cons]
    cases hx : f x with
    | error e => cases ys <;> simp
    | ok y =>
      cases hr : mapR f xs with
      | error e =>
        cases ys with
        | nil => simp
        | cons z zs =>
          have := (ih zs).not.mp (by simp [hr])
          simp [this]
      | ok zs =>
        cases ys with
        | nil => simp
        | cons w ws => simp [← ih ws, hr]

theorem mapR_err {α β} (f : α → R β) (l : List α) (e : Err) (h : mapR f l = .error e) : ∃ x ∈ l, f x = .error e := by
  induction l with
  | nil => cases h
  | cons x xs ih =>
    simp only [mapR] at h
    cases hx : f x with
    | error e' =>
      simp only [hx, Except.error.injEq] at h
      exact ⟨x, List.mem_cons_self, h ▸ hx⟩
    | ok y =>
      simp only [hx] at h
      cases hr : mapR f xs with
      | error e' =>
        simp only [hr, Except.error.injEq] at h
        obtain ⟨z, hz, hfz⟩ := ih (h ▸ hr)
        exact ⟨z, List.mem_cons_of_mem _ hz, hfz⟩
      | ok zs => simp [hr] at h

theorem mapR_mem {α β} {f : α → R β} {l : List α} {ys : List β} (h : mapR f l = .ok ys) (y : β) :
    y ∈ ys ↔ ∃ x ∈ l, f x = .ok y := by
  have h' := (mapR_ok_iff f l ys).mp h
  rw [← List.mem_map_of_injective (f := Except.ok) (fun _ _ => Except.ok.inj), ← h', List.mem_map]

/-! ### Elements of sets are identified by their normal form -/

theorem normSc_kind [StrNorm] (s : Scalar) : (normSc s).kind = s.kind := by cases s <;> rfl

theorem sameKinds_map_normSc [StrNorm] (l : List Scalar) : sameKinds (l.map normSc) = sameKinds l := by
  rw [Bool.eq_iff_iff, sameKinds_iff, sameKinds_iff]
  simp only [List.mem_map, forall_exists_index, and_imp, forall_apply_eq_imp_iff₂, normSc_kind]

/-- a set literal of primitives is the set of their normal forms -/
theorem mkSet_scalars [StrNorm] (vs : List Scalar) : mkSet (vs.map .sc) = mkSetS (vs.map normSc) := by
  have hfm : ∀ g : Val → Option Scalar, (∀ s, g (.sc s) = some s) → (vs.map Val.sc).filterMap g = vs := fun g hg => by
    induction vs with
    | nil => rfl
    | cons a as ih => rw [List.map_cons, List.filterMap_cons, hg, ih]
  cases vs with
  | nil => rfl
  | cons a as =>
    unfold mkSet
    rw [hfm _ fun _ => rfl]
    simp

theorem scBinEl_ok [StrNorm] (op : BinOp) (x b y : Scalar) :
    scBinEl op x b = .ok y ↔ ∃ z, scBin op x b = .ok z ∧ y = normSc z := map_ok_iff _ _ _

/-- `scBin_defined` for the element of an element-wise result -/
theorem scBinEl_defined [StrNorm] (op : BinOp) (a b : Scalar) (hexp : intExp op b) :
    OkIff (scBinEl op a b) (definedSc op a b) := (scBin_defined op a b hexp).map normSc

theorem scBinEl_arith_kind [StrNorm] (op : BinOp) (x b y : Scalar) (ha : op.isArith = true) (h : scBinEl op x b = .ok y) :
    y.kind = x.kind ∧ y.kind = b.kind := by
  obtain ⟨z, hz, rfl⟩ := (scBinEl_ok op x b y).mp h
  rw [normSc_kind]
  exact scBin_arith_kind op x b z ha hz

/-! ### Element-wise application: `g` on every element, the results collected into a set -/

theorem mapSet_wf {g : Scalar → R Scalar} {l : List Scalar} {v : Val} (h : (mapR g l).bind mkSetS = .ok v) : v.wf := by
  cases hm : mapR g l with
  | error e => rw [hm] at h; cases h
  | ok ys => rw [hm] at h; exact mkSetS_wf ys v h

theorem mapSet_mem {g : Scalar → R Scalar} {l r : List Scalar} (h : (mapR g l).bind mkSetS = .ok (.set r)) (y : Scalar) :
    y ∈ r ↔ ∃ x ∈ l, g x = .ok y := by
  cases hm : mapR g l with
  | error e => rw [hm] at h; cases h
  | ok ys => rw [hm] at h; rw [mkSetS_mem h, mapR_mem hm]

theorem mapSet_err {g : Scalar → R Scalar} {l : List Scalar} {e : Err} (h : (mapR g l).bind mkSetS = .error e) :
    (∃ x ∈ l, g x = .error e) ∨ ∃ k, e = .invalid k := by
  cases hm : mapR g l with
  | error e' => rw [hm] at h; cases h; exact .inl (mapR_err g l e hm)
  | ok ys => rw [hm] at h; exact .inr (mkSetS_err ys e h)

/-- on a non-empty list whose results are all of one kind, the application has a value exactly when `g` has one on every
    element -/
theorem mapSet_ok_iff {g : Scalar → R Scalar} {l : List Scalar} {P : Scalar → Prop} (K : Kind) (hl : l ≠ [])
    (hK : ∀ x ∈ l, ∀ y, g x = .ok y → y.kind = K) (hg : ∀ x ∈ l, (∃ y, g x = .ok y) ↔ P x) :
    (∃ v, (mapR g l).bind mkSetS = .ok v) ↔ ∀ x ∈ l, P x := by
  cases hm : mapR g l with
  | error e =>
    obtain ⟨x, hx, he⟩ := mapR_err g l e hm
    refine iff_of_false (fun ⟨v, hv⟩ => by cases hv) fun h => ?_
    obtain ⟨y, hy⟩ := (hg x hx).mpr (h x hx)
    rw [he] at hy; cases hy
  | ok ys =>
    have hmap := (mapR_ok_iff g l ys).mp hm
    have hmem := mapR_mem hm
    refine iff_of_true ⟨_, mkSetS_ok_of ys ?_ ?_⟩ fun x hx => (hg x hx).mp ?_
    · intro h0; rw [h0] at hmap; exact hl (List.map_eq_nil_iff.mp hmap)
    · rw [sameKinds_iff]
      intro y1 h1 y2 h2
      obtain ⟨x1, hx1, e1⟩ := (hmem y1).mp h1
      obtain ⟨x2, hx2, e2⟩ := (hmem y2).mp h2
      rw [hK x1 hx1 y1 e1, hK x2 hx2 y2 e2]
    · have : g x ∈ ys.map .ok := hmap ▸ List.mem_map_of_mem hx
      obtain ⟨y, _, hy⟩ := List.mem_map.mp this
      exact ⟨y, hy.symm⟩

/-! ### The definedness table on values -/

/-- Appendix E of DESIGN.md on values -/
def defined : BinOp → Val → Val → Prop
  | op, .sc a, .sc b => definedSc op a b
  | op, .set as, .sc b => op.isArith = true ∧ ∀ x ∈ as, definedSc op x b
  | op, .sc a, .set bs => op.isArith = true ∧ ∀ x ∈ bs, definedSc op a x
  | op, .set as, .set bs =>
      setKind as = setKind bs ∧
      match op with
      | .eq | .ne | .le | .ge | .lt | .gt | .bor => True
      | .band => ∃ x, x ∈ as ∧ x ∈ bs
      | .bxor => ∃ x, (x ∈ as ∧ x ∉ bs) ∨ (x ∈ bs ∧ x ∉ as)
      | _ => False

/-- all exponents that occur are integral -/
def intExpV (op : BinOp) : Val → Prop
  | .sc b => intExp op b
  | .set bs => ∀ x ∈ bs, intExp op x

/-- two sets of one kind each and of equal kinds: all elements of both are of one kind -/
theorem setKind_eq_of_wf (as bs : List Scalar) (ha : (Val.set as).wf) (hb : (Val.set bs).wf) (h : setKind as = setKind bs) :
    ∀ x ∈ as ++ bs, ∀ y ∈ as ++ bs, x.kind = y.kind := by
  obtain ⟨hane, hak, _⟩ := ha
  obtain ⟨hbne, hbk, _⟩ := hb
  rw [sameKinds_iff] at hak hbk
  obtain ⟨a, as', rfl⟩ := List.exists_cons_of_ne_nil hane
  obtain ⟨b, bs', rfl⟩ := List.exists_cons_of_ne_nil hbne
  have hab : a.kind = b.kind := by simpa [setKind] using h
  have key : ∀ z ∈ (a :: as') ++ (b :: bs'), z.kind = a.kind := by
    intro z hz
    rcases List.mem_append.mp hz with hz | hz
    · exact hak z hz a List.mem_cons_self
    · rw [hab]; exact hbk z hz b List.mem_cons_self
  intro x hx y hy
  rw [key x hx, key y hy]

theorem setSet_of_kind_ne (op : BinOp) {a b : List Scalar} (h : setKind a ≠ setKind b) : ∃ k, setSet op a b = inval k := by
  have hne : (setKind a != setKind b) = true := by simpa using h
  cases op <;> first | exact ⟨_, rfl⟩ | exact ⟨_, if_pos hne⟩

theorem setSet_defined (op : BinOp) (as bs : List Scalar) (ha : (Val.set as).wf) (hb : (Val.set bs).wf) :
    OkIff (setSet op as bs) (defined op (.set as) (.set bs)) := by
  by_cases hk : setKind as = setKind bs
  swap
  · obtain ⟨k, hk'⟩ := setSet_of_kind_ne op hk
    exact .inval hk' fun h => hk h.1
  have hall := setKind_eq_of_wf as bs ha hb hk
  -- the algebra: a sublist of `as ++ bs` is of one kind, so it is a set unless it is empty
  have alg : ∀ l : List Scalar, (∀ x ∈ l, x ∈ as ++ bs) → OkIff (mkSetS l) (l ≠ []) := fun l hl =>
    mkSetS_defined l ((sameKinds_iff l).mpr fun x hx y hy => hall x (hl x hx) y (hl y hy))
  cases op <;> simp only [setSet, defined, hk, bne_self_eq_false, Bool.false_eq_true, ↓reduceIte, true_and]
  case eq | ne | le | ge | lt | gt => exact .ok rfl trivial
  case bor => exact (alg (as ++ bs) fun _ h => h).congr (by simp [ha.1])
  case band =>
    refine (alg (as.filter (· ∈ bs)) fun x hx => List.mem_append_left _ (List.mem_filter.mp hx).1).congr ?_
    simp [List.filter_eq_nil_iff]
  case bxor =>
    refine (alg (as.filter (· ∉ bs) ++ bs.filter (· ∉ as)) fun x hx => ?_).congr ?_
    · rcases List.mem_append.mp hx with hx | hx
      · exact List.mem_append_left _ (List.mem_filter.mp hx).1
      · exact List.mem_append_right _ (List.mem_filter.mp hx).1
    · simp only [ne_eq, List.append_eq_nil_iff, List.filter_eq_nil_iff, not_and_or, not_forall, decide_eq_true_eq,
        exists_or, exists_prop, not_not]
  all_goals exact .inval rfl id

/-- the three shapes of a result of the set operators -/
theorem setSet_cases (op : BinOp) (a b : List Scalar) :
    (∃ k, setSet op a b = inval k) ∨ (∃ r, setSet op a b = .ok (.bool r)) ∨ ∃ l, setSet op a b = mkSetS l := by
  by_cases hk : setKind a = setKind b
  swap
  · exact .inl (setSet_of_kind_ne op hk)
  have hk : ¬ (setKind a != setKind b) = true := by simpa using hk
  cases op
  case eq | ne | le | ge | lt | gt => exact .inr (.inl ⟨_, if_neg hk⟩)
  case bor | band | bxor => exact .inr (.inr ⟨_, if_neg hk⟩)
  all_goals exact .inl ⟨_, rfl⟩

theorem setSet_err {op : BinOp} {a b : List Scalar} {e : Err} (h : setSet op a b = .error e) : ∃ k, e = .invalid k := by
  rcases setSet_cases op a b with ⟨k, hk⟩ | ⟨r, hr⟩ | ⟨l, hl⟩
  · exact invalid_of_inval (hk ▸ h)
  · rw [hr] at h; cases h
  · exact mkSetS_err l e (hl ▸ h)

theorem setSet_wf {op : BinOp} {a b : List Scalar} {v : Val} (h : setSet op a b = .ok v) : v.wf := by
  rcases setSet_cases op a b with ⟨k, hk⟩ | ⟨r, hr⟩ | ⟨l, hl⟩
  · rw [hk] at h; cases h
  · rw [hr] at h; cases h; trivial
  · exact mkSetS_wf l v (hl ▸ h)

theorem intExp_of_ne_pow (op : BinOp) (h : op ≠ .pow) (b : Scalar) : intExp op b := fun hp => absurd hp h

/-- whatever the operands, a failure is an `invalid`-class rejection as long as exponents are integral -/
theorem evalBin_err_invalid [StrNorm] (op : BinOp) (a b : Val) (hexp : intExpV op b) (e : Err) (h : evalBin op a b = .error e) :
    ∃ k, e = .invalid k := by
  cases a with
  | sc x =>
    cases b with
    | sc y => exact ((scBin_defined op x y hexp).map Val.sc).err e h
    | set bs =>
      simp only [evalBin] at h
      split at h
      · rcases mapSet_err h with ⟨z, hz, hfz⟩ | hk
        · exact (scBinEl_defined op x z (hexp z hz)).err e hfz
        · exact hk
      · exact invalid_of_inval h
  | set as =>
    cases b with
    | sc y =>
      simp only [evalBin] at h
      split at h
      · rcases mapSet_err h with ⟨z, hz, hfz⟩ | hk
        · exact (scBinEl_defined op z y hexp).err e hfz
        · exact hk
      · exact invalid_of_inval h
    | set bs => exact setSet_err h

/-- `C04.defined` in one statement -/
theorem evalBin_defined [StrNorm] (op : BinOp) (a b : Val) (ha : a.wf) (hb : b.wf) (hexp : intExpV op b) :
    ((∃ v, evalBin op a b = .ok v) ↔ defined op a b) ∧
    (∀ e, evalBin op a b = .error e → ∃ k, e = .invalid k) := by
  refine ⟨?_, evalBin_err_invalid op a b hexp⟩
  cases a with
  | sc x =>
    cases b with
    | sc y => exact ((scBin_defined op x y hexp).map Val.sc).iff
    | set bs =>
      by_cases har : op.isArith = true
      · have := mapSet_ok_iff (g := fun z => scBinEl op x z) x.kind hb.1
          (fun z _ y h => (scBinEl_arith_kind op x z y har h).1) fun z hz => (scBinEl_defined op x z (hexp z hz)).iff
        simpa only [evalBin, defined, har, if_true, true_and] using this
      · exact iff_of_false (fun ⟨v, hv⟩ => by rw [evalBin, if_neg har] at hv; cases hv) fun h => har h.1
  | set as =>
    cases b with
    | sc y =>
      by_cases har : op.isArith = true
      · have := mapSet_ok_iff (g := fun z => scBinEl op z y) y.kind ha.1
          (fun z _ w h => (scBinEl_arith_kind op z y w har h).2) fun z _ => (scBinEl_defined op z y hexp).iff
        simpa only [evalBin, defined, har, if_true, true_and] using this
      · exact iff_of_false (fun ⟨v, hv⟩ => by rw [evalBin, if_neg har] at hv; cases hv) fun h => har h.1
    | set bs => exact (setSet_defined op as bs ha hb).iff

/-- values produced by the binary operators satisfy the set invariant again -/
theorem evalBin_wf [StrNorm] (op : BinOp) (a b v : Val) (h : evalBin op a b = .ok v) : v.wf := by
  cases a with
  | sc x =>
    cases b with
    | sc y => obtain ⟨r, _, rfl⟩ := (map_ok_iff _ _ _).mp h; trivial
    | set bs =>
      simp only [evalBin] at h
      split at h
      · exact mapSet_wf h
      · cases h
  | set as =>
    cases b with
    | sc y =>
      simp only [evalBin] at h
      split at h
      · exact mapSet_wf h
      · cases h
    | set bs => exact setSet_wf h

/-! ### Set algebra and element-wise application -/

theorem evalBin_union [StrNorm] (as bs : List Scalar) (r : List Scalar) (h : evalBin .bor (.set as) (.set bs) = .ok (.set r)) :
    ∀ x, x ∈ r ↔ x ∈ as ∨ x ∈ bs := by
  simp only [evalBin, setSet] at h
  split at h
  · cases h
  · intro x; rw [mkSetS_mem h, List.mem_append]

theorem evalBin_inter [StrNorm] (as bs : List Scalar) (r : List Scalar) (h : evalBin .band (.set as) (.set bs) = .ok (.set r)) :
    ∀ x, x ∈ r ↔ x ∈ as ∧ x ∈ bs := by
  simp only [evalBin, setSet] at h
  split at h
  · cases h
  · intro x; rw [mkSetS_mem h]; simp

theorem evalBin_symdiff [StrNorm] (as bs : List Scalar) (r : List Scalar) (h : evalBin .bxor (.set as) (.set bs) = .ok (.set r)) :
    ∀ x, x ∈ r ↔ (x ∈ as ∧ x ∉ bs) ∨ (x ∈ bs ∧ x ∉ as) := by
  simp only [evalBin, setSet] at h
  split at h
  · cases h
  · intro x; rw [mkSetS_mem h]; simp

theorem subsetL_iff (a b : List Scalar) : subsetL a b = true ↔ ∀ x ∈ a, x ∈ b := by
  simp [subsetL]

theorem setEq_iff (a b : List Scalar) : setEq a b = true ↔ ∀ x, x ∈ a ↔ x ∈ b := by
  simp only [setEq, Bool.and_eq_true, subsetL_iff]
  exact ⟨fun ⟨h1, h2⟩ x => ⟨h1 x, h2 x⟩, fun h => ⟨fun x => (h x).mp, fun x => (h x).mpr⟩⟩

theorem setEq_false_iff (a b : List Scalar) : setEq a b = false ↔ ¬ ∀ x, x ∈ a ↔ x ∈ b := by
  rw [← setEq_iff]; simp

theorem evalBin_set_cmp [StrNorm] (op : BinOp) (as bs : List Scalar) (r : Bool) (h : evalBin op (.set as) (.set bs) = .ok (.bool r)) :
    (op = .eq → (r = true ↔ ∀ x, x ∈ as ↔ x ∈ bs)) ∧
    (op = .ne → (r = true ↔ ¬ ∀ x, x ∈ as ↔ x ∈ bs)) ∧
    (op = .le → (r = true ↔ ∀ x ∈ as, x ∈ bs)) ∧
    (op = .ge → (r = true ↔ ∀ x ∈ bs, x ∈ as)) ∧
    (op = .lt → (r = true ↔ (∀ x ∈ as, x ∈ bs) ∧ ¬ ∀ x, x ∈ as ↔ x ∈ bs)) ∧
    (op = .gt → (r = true ↔ (∀ x ∈ bs, x ∈ as) ∧ ¬ ∀ x, x ∈ as ↔ x ∈ bs)) := by
  simp only [evalBin, setSet] at h
  refine ⟨?_, ?_, ?_, ?_, ?_, ?_⟩ <;> rintro rfl <;> simp only at h <;> split at h <;>
    simp only [inval, reduceCtorEq, Except.ok.injEq, Val.sc.injEq, Scalar.bool.injEq] at h <;> subst h <;>
    simp only [Bool.and_eq_true, Bool.not_eq_true', setEq_iff, setEq_false_iff, subsetL_iff]

/-- element-wise application, operand order preserved -/
theorem evalBin_elementwise_left [StrNorm] (op : BinOp) (as : List Scalar) (b : Scalar) (r : List Scalar)
    (h : evalBin op (.set as) (.sc b) = .ok (.set r)) :
    ∀ y, y ∈ r ↔ ∃ x ∈ as, scBinEl op x b = .ok y := by
  simp only [evalBin] at h
  split at h
  · exact mapSet_mem h
  · cases h

theorem evalBin_elementwise_right [StrNorm] (op : BinOp) (a : Scalar) (bs : List Scalar) (r : List Scalar)
    (h : evalBin op (.sc a) (.set bs) = .ok (.set r)) :
    ∀ y, y ∈ r ↔ ∃ x ∈ bs, scBinEl op a x = .ok y := by
  simp only [evalBin] at h
  split at h
  · exact mapSet_mem h
  · cases h

/-! ### min / max / count -/

/-- `x` is at least as good as `y` for `.min` (`flip = false`) or `.max` (`flip = true`) -/
def better (flip : Bool) (x y : Rat) : Prop := if flip then y ≤ x else x ≤ y

theorem better_refl (flip : Bool) (x : Rat) : better flip x x := by cases flip <;> exact le_refl x

theorem better_trans {flip : Bool} {x y z : Rat} (h1 : better flip x y) (h2 : better flip y z) : better flip x z := by
  cases flip
  · exact le_trans h1 h2
  · exact le_trans h2 h1

/-- one comparison of the fold: the better of the two goes on -/
theorem reduceCmp_step [StrNorm] (flip : Bool) (a q : Rat) (rest : List Scalar) :
    ∃ p, (p = a ∨ p = q) ∧ better flip p a ∧ better flip p q ∧
      reduceCmp flip (.rat a) (.rat q :: rest) = reduceCmp flip (.rat p) rest := by
  cases flip
  · by_cases h : a < q
    · exact ⟨a, .inl rfl, le_refl a, h.le, by simp [reduceCmp, scBin, h]⟩
    · exact ⟨q, .inr rfl, not_lt.mp h, le_refl q, by simp [reduceCmp, scBin, h]⟩
  · by_cases h : q < a
    · exact ⟨a, .inl rfl, le_refl a, h.le, by simp [reduceCmp, scBin, h]⟩
    · exact ⟨q, .inr rfl, not_lt.mp h, le_refl q, by simp [reduceCmp, scBin, h]⟩

/-- on rationals the fold returns an element that is at least as good as every element -/
theorem reduceCmp_best [StrNorm] (flip : Bool) (a : Rat) (l : List Scalar) (hl : ∀ x ∈ l, ∃ q, x = .rat q) :
    ∃ m : Rat, reduceCmp flip (.rat a) l = .ok (.rat m) ∧ Scalar.rat m ∈ Scalar.rat a :: l ∧
      ∀ q, Scalar.rat q ∈ Scalar.rat a :: l → better flip m q := by
  induction l generalizing a with
  | nil =>
    refine ⟨a, rfl, List.mem_singleton_self _, fun q hq => ?_⟩
    obtain rfl : q = a := by simpa using hq
    exact better_refl flip q
  | cons b rest ih =>
    obtain ⟨q, rfl⟩ := hl b List.mem_cons_self
    obtain ⟨p, hp, hpa, hpq, hstep⟩ := reduceCmp_step flip a q rest
    obtain ⟨m, hm, hmem, hall⟩ := ih p fun x hx => hl x (List.mem_cons_of_mem _ hx)
    have hmp := hall p List.mem_cons_self
    refine ⟨m, hstep.trans hm, ?_, fun q' hq' => ?_⟩
    · rcases List.mem_cons.mp hmem with h | h
      · rcases hp with rfl | rfl <;> simp [h]
      · simp [h]
    · rcases List.mem_cons.mp hq' with h | h
      · obtain rfl : q' = a := Scalar.rat.inj h
        exact better_trans hmp hpa
      · rcases List.mem_cons.mp h with h | h
        · obtain rfl : q' = q := Scalar.rat.inj h
          exact better_trans hmp hpq
        · exact hall q' (List.mem_cons_of_mem _ h)

end Ex
