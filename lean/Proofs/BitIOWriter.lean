import Model.BitIO
import Mathlib.Tactic.Ring
import Mathlib.Tactic.Linarith
/-! `_BitWriter`: both code paths append the low bits of the value (under the writer invariant). -/
namespace BitIO

theorem zeros_succ (k : ℕ) : zeros (k + 1) = false :: zeros k := by simp [zeros, List.replicate_succ]
theorem zeros_length (k : ℕ) : (zeros k).length = k := by simp [zeros]

theorem natBits_length (n v : ℕ) : (natBits n v).length = n := by simp [natBits]

theorem natBits_succ (n v : ℕ) : natBits (n + 1) v = natBits n v ++ [v.testBit n] := by
  simp [natBits, List.range_succ]

theorem natBits_add (a b v : ℕ) : natBits (a + b) v = natBits a v ++ natBits b (v >>> a) := by
  induction b with
  | zero => simp [natBits]
  | succ b ih =>
    rw [← Nat.add_assoc, natBits_succ, ih, natBits_succ, List.append_assoc, Nat.testBit_shiftRight]

theorem natBits_mod (k v : ℕ) : natBits k (v % 2 ^ k) = natBits k v := by
  unfold natBits
  apply List.map_congr_left
  intro i hi
  have : i < k := List.mem_range.mp hi
  simp [Nat.testBit_mod_two_pow, this]

theorem set_at_length (M : List Bool) (x : Bool) (xs : List Bool) (b : Bool) :
    (M ++ x :: xs).set M.length b = M ++ b :: xs := by
  induction M with
  | nil => rfl
  | cons m M ih => simp [ih]

theorem pad8_length_mod (M : List Bool) : (pad8 M).length % 8 = 0 := by
  simp only [pad8, List.length_append, zeros_length]
  omega

theorem pad8_of_mod (l : List Bool) (h : l.length % 8 = 0) : pad8 l = l := by
  rw [pad8, h]
  exact List.append_nil l

theorem take_pad8 (M : List Bool) : (pad8 M).take M.length = M := by
  simp [pad8]

/-- one step of the bit-wise loop appends one bit (and keeps the zero padding): a zero byte is appended exactly when
    `M` ends at a byte boundary, so either way a zero follows `M`, and after it the padding of `M ++ [b]` -/
theorem slowStep_pad8 (M : List Bool) (b : Bool) : slowStep (pad8 M) M.length b = pad8 (M ++ [b]) := by
  have hbuf : (if M.length / 8 ≥ (pad8 M).length / 8 then pad8 M ++ zeros 8 else pad8 M)
      = M ++ false :: zeros ((8 - (M.length + 1) % 8) % 8) := by
    unfold pad8
    rw [List.length_append, zeros_length]
    split
    · rw [show (8 - M.length % 8) % 8 = 0 by omega, show (8 - (M.length + 1) % 8) % 8 = 7 by omega,
        List.append_assoc]
      rfl
    · rw [show (8 - M.length % 8) % 8 = (8 - (M.length + 1) % 8) % 8 + 1 by omega, zeros_succ]
  unfold slowStep
  rw [hbuf, set_at_length, pad8, List.length_append, List.append_assoc]
  rfl

/-- the bit-wise loop appends the `n` low bits -/
theorem slowWrite_buf (M : List Bool) (v n : ℕ) :
    (slowWrite ⟨pad8 M, M.length⟩ v n).buf = pad8 (M ++ natBits n v) := by
  unfold slowWrite
  simp only
  induction n with
  | zero => simp [natBits]
  | succ n ih =>
    rw [List.range_succ, List.foldl_append, ih, natBits_succ, ← List.append_assoc]
    simp only [List.foldl_cons, List.foldl_nil]
    have : M.length + n = (M ++ natBits n v).length := by simp [natBits_length]
    rw [this, slowStep_pad8]

/-- what the invariant says: the buffer is the written bits, zero-padded to a byte -/
theorem ok_iff (w : W) : w.ok = true ↔ w.buf = pad8 w.logical ∧ w.off ≤ w.buf.length := by
  simp [W.ok, W.logical, and_comm]

theorem logical_length (w : W) (h : w.ok = true) : w.logical.length = w.off := by
  have := (ok_iff w).mp h
  simp [W.logical, this.2]

theorem ok_of_eq (M : List Bool) (w' : W) (h1 : w'.buf = pad8 M) (h2 : w'.off = M.length) :
    w'.ok = true ∧ w'.logical = M := by
  have hl : w'.logical = M := by simp [W.logical, h1, h2, take_pad8]
  refine ⟨(ok_iff w').mpr ⟨by rw [hl, h1], ?_⟩, hl⟩
  rw [h1, h2]; simp [pad8]

theorem slowWrite_spec (w : W) (v n : ℕ) (h : w.ok = true) :
    (slowWrite w v n).ok = true ∧ (slowWrite w v n).off = w.off + n ∧
      (slowWrite w v n).logical = w.logical ++ natBits n v := by
  obtain ⟨hb, _⟩ := (ok_iff w).mp h
  have hl := logical_length w h
  have hw : w = ⟨pad8 w.logical, w.logical.length⟩ := by
    cases w; simp only [W.mk.injEq]; exact ⟨hb, hl.symm⟩
  have hbuf := slowWrite_buf w.logical v n
  rw [← hw] at hbuf
  have hoff : (slowWrite w v n).off = w.off + n := rfl
  obtain ⟨h1, h2⟩ := ok_of_eq (w.logical ++ natBits n v) (slowWrite w v n) hbuf
    (by rw [hoff]; simp [natBits_length, hl])
  exact ⟨h1, hoff, h2⟩

theorem fastWrite_spec (w : W) (v n : ℕ) (h : w.ok = true) (ha : w.off % 8 = 0) :
    (fastWrite w v n).ok = true ∧ (fastWrite w v n).off = w.off + n ∧
      (fastWrite w v n).logical = w.logical ++ natBits n v := by
  obtain ⟨hb, _⟩ := (ok_iff w).mp h
  have hl := logical_length w h
  -- under the invariant the buffer ends exactly at the write position: only the first branch is reachable, and it
  -- inserts no zeros
  have hbuf : w.buf = w.logical := by rw [hb, pad8_of_mod _ (by rw [hl]; exact ha)]
  have hlen : w.buf.length = w.off := by rw [hbuf, hl]
  generalize hM : w.logical ++ natBits (8 * (n / 8)) v = M
  have hMl : M.length = w.off + 8 * (n / 8) := by rw [← hM, List.length_append, hl, natBits_length]
  -- with no bits left over the bit-wise loop does nothing
  have hw1 : fastWrite w v n = slowWrite ⟨pad8 M, M.length⟩ (v >>> (8 * (n / 8))) (n % 8) := by
    unfold fastWrite
    simp only [hlen, ge_iff_le, Nat.le_refl, if_true, Nat.sub_self, Nat.mul_zero, natBits_mod]
    rw [pad8_of_mod M (by omega), hMl, ← hM, hbuf, show zeros 0 = [] from rfl, List.append_nil]
    split
    · rfl
    · next hrem => rw [show n % 8 = 0 by omega]; rfl
  obtain ⟨hok1, hlog1⟩ := ok_of_eq M ⟨pad8 M, M.length⟩ rfl rfl
  obtain ⟨s1, s2, s3⟩ := slowWrite_spec _ (v >>> (8 * (n / 8))) (n % 8) hok1
  rw [hw1]
  refine ⟨s1, by rw [s2]; simp only; omega, ?_⟩
  rw [s3, hlog1, ← hM, List.append_assoc, ← natBits_add, Nat.div_add_mod]

/-- **Writer refinement.** Under the invariant, `write_bits(value, n)` — whichever code path it takes — appends the
    `n` low bits of the value, least significant first, and re-establishes the invariant. -/
theorem writeBits_spec (w : W) (v n : ℕ) (h : w.ok = true) :
    (writeBits w v n).ok = true ∧ (writeBits w v n).off = w.off + n ∧
      (writeBits w v n).logical = w.logical ++ natBits n v := by
  unfold writeBits
  split
  · next hc => exact fastWrite_spec w v n h hc.1
  · exact slowWrite_spec w v n h

theorem natBits_zero_value (n : ℕ) : natBits n 0 = zeros n := by
  simp [natBits, zeros]
  induction n with
  | zero => rfl
  | succ n ih => simp [List.range_succ, List.replicate_succ', ih]

end BitIO
