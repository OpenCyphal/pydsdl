import Model.Rules
/-!
  Arithmetic kernels of the extent rule of C05, for all values: `padTo` is the least multiple not below its
  argument, `bitLength` is `int.bit_length()`, `pow2ceil8` is the least power of two that is ≥ 8 and ≥ its argument,
  and `pow2ceil8 (bitLength cap)` is the smallest of the standard widths 8/16/32/64 whose unsigned range holds `cap`.
-/
namespace Rules

/-! ### `padTo` -/

theorem padTo_dvd (a x : Nat) : a ∣ padTo a x := ⟨(x + a - 1) / a, Nat.mul_comm _ _⟩

theorem le_padTo (a x : Nat) (ha : 0 < a) : x ≤ padTo a x := by
  unfold padTo
  have h1 := Nat.div_add_mod (x + a - 1) a
  have h2 := Nat.mod_lt (x + a - 1) ha
  have h3 : a * ((x + a - 1) / a) = (x + a - 1) / a * a := Nat.mul_comm _ _
  omega

theorem padTo_lt (a x : Nat) (ha : 0 < a) : padTo a x < x + a := by
  unfold padTo
  have h1 := Nat.div_add_mod (x + a - 1) a
  have h3 : a * ((x + a - 1) / a) = (x + a - 1) / a * a := Nat.mul_comm _ _
  omega

theorem padTo_least (a x m : Nat) (ha : 0 < a) (hm : a ∣ m) (hx : x ≤ m) : padTo a x ≤ m := by
  obtain ⟨k, rfl⟩ := hm
  unfold padTo
  have hdiv : (x + a - 1) / a ≤ k := by
    rw [Nat.div_le_iff_le_mul_add_pred ha]
    have : a * k = k * a := Nat.mul_comm _ _
    omega
  calc (x + a - 1) / a * a ≤ k * a := Nat.mul_le_mul_right a hdiv
    _ = a * k := Nat.mul_comm _ _

/-- `padTo a x` is the least multiple of `a` that is not below `x` -/
theorem padTo_spec (a x : Nat) (ha : 0 < a) :
    a ∣ padTo a x ∧ x ≤ padTo a x ∧ padTo a x < x + a ∧ ∀ m, a ∣ m → x ≤ m → padTo a x ≤ m :=
  ⟨padTo_dvd a x, le_padTo a x ha, padTo_lt a x ha, fun m hm hx => padTo_least a x m ha hm hx⟩

/-- … and this determines it -/
theorem padTo_unique (a x y : Nat) (ha : 0 < a) (h1 : a ∣ y) (h2 : x ≤ y) (h3 : ∀ m, a ∣ m → x ≤ m → y ≤ m) :
    padTo a x = y :=
  Nat.le_antisymm (padTo_least a x y ha h1 h2) (h3 _ (padTo_dvd a x) (le_padTo a x ha))

theorem padTo_of_dvd (a x : Nat) (ha : 0 < a) (h : a ∣ x) : padTo a x = x :=
  padTo_unique a x x ha h (Nat.le_refl x) fun _ _ hm => hm

theorem padTo_one (x : Nat) : padTo 1 x = x := padTo_of_dvd 1 x (by omega) (Nat.one_dvd x)

theorem padTo_mono (a x y : Nat) (h : x ≤ y) : padTo a x ≤ padTo a y := by
  unfold padTo
  exact Nat.mul_le_mul_right a (Nat.div_le_div_right (by omega))

/-! ### `bitLength` -/

theorem bitLength_le_iff (n k : Nat) : bitLength n ≤ k ↔ n < 2 ^ k := by
  unfold bitLength
  split
  · next h => subst h; simp [Nat.two_pow_pos]
  · next h => rw [Nat.succ_le_iff, Nat.log2_lt h]

/-- `bitLength n` is the number of binary digits of `n` -/
theorem bitLength_spec (n : Nat) : n < 2 ^ bitLength n ∧ (n ≠ 0 → 2 ^ (bitLength n - 1) ≤ n) := by
  refine ⟨(bitLength_le_iff n _).mp (Nat.le_refl _), fun h => ?_⟩
  unfold bitLength
  rw [if_neg h, Nat.add_sub_cancel]
  exact Nat.log2_self_le h

/-- … and this determines it -/
theorem bitLength_unique (n k : Nat) (h1 : n < 2 ^ k) (h2 : n ≠ 0 → 2 ^ (k - 1) ≤ n) (h0 : n = 0 → k = 0) :
    bitLength n = k := by
  apply Nat.le_antisymm ((bitLength_le_iff n k).mpr h1)
  by_cases hn : n = 0
  · rw [h0 hn]; exact Nat.zero_le _
  · have hk : k ≠ 0 := by
      intro hk; subst hk; simp at h1; exact hn h1
    have h3 := h2 hn
    have h4 : n < 2 ^ bitLength n := (bitLength_spec n).1
    have h5 : 2 ^ (k - 1) < 2 ^ bitLength n := Nat.lt_of_le_of_lt h3 h4
    have := (Nat.pow_lt_pow_iff_right (a := 2) (by omega)).mp h5
    omega

theorem bitLength_mono {m n : Nat} (h : m ≤ n) : bitLength m ≤ bitLength n :=
  (bitLength_le_iff m _).mpr (Nat.lt_of_le_of_lt h (bitLength_spec n).1)

/-! ### `pow2ceil8` -/

/-- the five steps of `pow2ceil8`, each with the range of arguments it covers -/
theorem pow2ceil8_cases (b : Nat) :
    b ≤ 8 ∧ pow2ceil8 b = 8 ∨ 8 < b ∧ b ≤ 16 ∧ pow2ceil8 b = 16 ∨ 16 < b ∧ b ≤ 32 ∧ pow2ceil8 b = 32 ∨
      32 < b ∧ b ≤ 64 ∧ pow2ceil8 b = 64 ∨ 64 < b ∧ pow2ceil8 b = 128 := by
  unfold pow2ceil8
  by_cases h8 : b ≤ 8
  · exact .inl ⟨h8, if_pos h8⟩
  by_cases h16 : b ≤ 16
  · exact .inr (.inl ⟨by omega, h16, by rw [if_neg h8, if_pos h16]⟩)
  by_cases h32 : b ≤ 32
  · exact .inr (.inr (.inl ⟨by omega, h32, by rw [if_neg h8, if_neg h16, if_pos h32]⟩))
  by_cases h64 : b ≤ 64
  · exact .inr (.inr (.inr (.inl ⟨by omega, h64, by rw [if_neg h8, if_neg h16, if_neg h32, if_pos h64]⟩)))
  · exact .inr (.inr (.inr (.inr ⟨by omega, by rw [if_neg h8, if_neg h16, if_neg h32, if_neg h64]⟩)))

theorem pow2ceil8_mono {a b : Nat} (h : a ≤ b) : pow2ceil8 a ≤ pow2ceil8 b := by
  have ha := pow2ceil8_cases a
  have hb := pow2ceil8_cases b
  omega

/-- for a width that fits 64 bits, `pow2ceil8 b` is the least power of two that is ≥ 8 and ≥ b -/
theorem pow2ceil8_spec (b : Nat) (hb : b ≤ 64) :
    (∃ k, pow2ceil8 b = 2 ^ k) ∧ 8 ≤ pow2ceil8 b ∧ b ≤ pow2ceil8 b ∧
    ∀ k, 8 ≤ 2 ^ k → b ≤ 2 ^ k → pow2ceil8 b ≤ 2 ^ k := by
  -- a power of two above `2 ^ c` is at least `2 ^ (c + 1)`
  have key : ∀ (k c : Nat), 2 ^ c < 2 ^ k → 2 ^ (c + 1) ≤ 2 ^ k := fun k c h =>
    Nat.pow_le_pow_right (by omega) ((Nat.pow_lt_pow_iff_right (a := 2) (by omega)).mp h)
  rcases pow2ceil8_cases b with ⟨h, e⟩ | ⟨l, h, e⟩ | ⟨l, h, e⟩ | ⟨l, h, e⟩ | ⟨l, _⟩
  · rw [e]; exact ⟨⟨3, rfl⟩, Nat.le_refl _, h, fun k hk _ => hk⟩
  · rw [e]; exact ⟨⟨4, rfl⟩, by omega, h, fun k _ hk => key k 3 (by omega)⟩
  · rw [e]; exact ⟨⟨5, rfl⟩, by omega, h, fun k _ hk => key k 4 (by omega)⟩
  · rw [e]; exact ⟨⟨6, rfl⟩, by omega, h, fun k _ hk => key k 5 (by omega)⟩
  · omega

/-- the width of an implicit length prefix / union tag: for a number that fits 64 bits, the smallest of the standard
    widths 8/16/32/64 whose unsigned range holds it -/
theorem pow2ceil8_bitLength_spec (cap : Nat) (h : cap < 2 ^ 64) :
    pow2ceil8 (bitLength cap) ∈ [8, 16, 32, 64] ∧ cap < 2 ^ pow2ceil8 (bitLength cap) ∧
    ∀ w ∈ [8, 16, 32, 64], cap < 2 ^ w → pow2ceil8 (bitLength cap) ≤ w := by
  have hc := pow2ceil8_cases (bitLength cap)
  have h64 := (bitLength_le_iff cap 64).mpr h
  -- `cap < 2 ^ w` is `bitLength cap ≤ w`: what is left is about the steps of `pow2ceil8`
  simp only [← bitLength_le_iff, List.mem_cons, List.mem_nil_iff, or_false]
  refine ⟨by omega, by omega, fun w hw hle => ?_⟩
  -- every standard width is a fixed point of the monotone `pow2ceil8`
  have := pow2ceil8_mono hle
  rcases hw with rfl | rfl | rfl | rfl <;> exact this

theorem pow2ceil8_le (n : Nat) (h : n < 2 ^ 64) : pow2ceil8 (bitLength n) ≤ 64 := by
  have := pow2ceil8_cases (bitLength n)
  have := (bitLength_le_iff n 64).mpr h
  omega

/-- a number that needs more than 64 bits gets a prefix / tag width above 64 (which no unsigned integer type has) -/
theorem pow2ceil8_bitLength_big (cap : Nat) (h : 2 ^ 64 ≤ cap) : pow2ceil8 (bitLength cap) = 128 := by
  have := pow2ceil8_cases (bitLength cap)
  have := bitLength_le_iff cap 64
  omega

end Rules
