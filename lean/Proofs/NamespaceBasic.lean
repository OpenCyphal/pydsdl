import Model.Namespace
/-! Shared by the Proofs/Namespace* files. -/
deriving instance DecidableEq for Except

/-- Case-insensitive comparison, on character lists.  Closed instances of `Ns.refMatches` and `Ns.dirPairBad` are
    evaluated in this form: the kernel compares two computed strings that turn out equal only very slowly, character
    lists quickly. -/
theorem String.toLower_beq_toLower (a b : String) :
    (a.toLower == b.toLower) = (a.toList.map Char.toLower == b.toList.map Char.toLower) := by
  rw [Bool.eq_iff_iff, beq_iff_eq, beq_iff_eq, ← String.toList_inj]
  simp only [String.toLower, String.toList_map]
