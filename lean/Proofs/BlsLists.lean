import Model.Bls
import Mathlib.Algebra.Group.Pointwise.Finset.Basic
import Mathlib.Algebra.Group.Pointwise.Finset.BigOperators
import Mathlib.Tactic.Ring
/-! List-level facts about the helpers of `Model/Bls.lean`: `dedup`, `cwr`, `product`, `minL`, `maxL`, `padTo`. -/
open scoped Pointwise
namespace Bls

@[simp] theorem mem_dedup (l : List Nat) (x : Nat) : x ∈ dedup l ↔ x ∈ l := by
  induction l with
  | nil => simp [dedup]
  | cons a l ih =>
    simp only [dedup]
    split <;> simp_all
    grind

theorem nodup_dedup (l : List Nat) : (dedup l).Nodup := by
  induction l with
  | nil => simp [dedup]
  | cons a l ih =>
    simp only [dedup]
    split
    · exact ih
    · exact List.nodup_cons.mpr ⟨‹_›, ih⟩

@[simp] theorem toFinset_dedup (l : List Nat) : (dedup l).toFinset = l.toFinset := by
  ext x; simp

theorem toFinset_map (f : ℕ → ℕ) (l : List ℕ) : (l.map f).toFinset = l.toFinset.image f := by
  ext x; simp

/-- k-fold sumset = sums of length-k lists over S -/
theorem mem_nsmul_iff (S : Finset ℕ) (k y : ℕ) :
    y ∈ k • S ↔ ∃ m : List ℕ, m.length = k ∧ (∀ x ∈ m, x ∈ S) ∧ m.sum = y := by
  induction k generalizing y with
  | zero => simp [eq_comm]
  | succ k ih =>
    rw [succ_nsmul, Finset.mem_add]
    constructor
    · rintro ⟨a, ha, b, hb, rfl⟩
      obtain ⟨m, hl, hm, rfl⟩ := (ih a).mp ha
      exact ⟨b :: m, by rw [List.length_cons, hl], List.forall_mem_cons.mpr ⟨hb, hm⟩, by rw [List.sum_cons, add_comm]⟩
    · rintro ⟨m, hl, hm, rfl⟩
      cases m with
      | nil => cases hl
      | cons b m =>
        exact ⟨m.sum, (ih _).mpr ⟨m, Nat.succ.inj hl, fun x hx => hm x (List.mem_cons_of_mem _ hx), rfl⟩, b,
          hm b List.mem_cons_self, by rw [List.sum_cons, add_comm]⟩

theorem cwr_sound (l : List Nat) (k : ℕ) : ∀ c ∈ cwr l k, c.length = k ∧ ∀ x ∈ c, x ∈ l := by
  fun_induction cwr l k with
  | case1 l => simp
  | case2 k => simp
  | case3 x xs k ih1 ih2 =>
    intro c hc
    rcases List.mem_append.mp hc with hc | hc
    · obtain ⟨a, ha, rfl⟩ := List.mem_map.mp hc
      obtain ⟨h1, h2⟩ := ih1 a ha
      exact ⟨by simp [h1], by simpa using h2⟩
    · obtain ⟨h1, h2⟩ := ih2 c hc
      exact ⟨h1, fun y hy => List.mem_cons_of_mem _ (h2 y hy)⟩

/-- Every multiset of `k` elements of `l` has a representative in `cwr l k` (with the same sum): if it contains the head
    of `l`, take one copy out and continue with `k - 1`; otherwise it lives in the tail. -/
theorem cwr_complete (l : List ℕ) (k : ℕ) : ∀ m : List ℕ, m.length = k → (∀ x ∈ m, x ∈ l) →
    ∃ c ∈ cwr l k, c.sum = m.sum := by
  fun_induction cwr l k with
  | case1 l => intro m hl _; exact ⟨[], by simp, by rw [List.length_eq_zero_iff.mp hl]⟩
  | case2 k =>
    intro m hl hm
    cases m with
    | nil => cases hl
    | cons a m => exact absurd (hm a List.mem_cons_self) List.not_mem_nil
  | case3 x xs k ih1 ih2 =>
    intro m hl hm
    by_cases hx : x ∈ m
    · obtain ⟨c, hc, hs⟩ := ih1 (m.erase x) (by rw [List.length_erase_of_mem hx, hl]; rfl)
        fun y hy => hm y (List.mem_of_mem_erase hy)
      exact ⟨x :: c, by simp [hc], by rw [List.sum_cons, hs, List.sum_erase hx]⟩
    · obtain ⟨c, hc, hs⟩ := ih2 m hl fun y hy =>
        (List.mem_cons.mp (hm y hy)).resolve_left (by rintro rfl; exact hx hy)
      exact ⟨c, List.mem_append_right _ hc, hs⟩

/-- The sums of `combinations_with_replacement(l, k)` are exactly the k-fold sumset of `set(l)`. -/
theorem cwr_sums (l : List ℕ) (k y : ℕ) : (∃ c ∈ cwr l k, c.sum = y) ↔ y ∈ k • l.toFinset := by
  rw [mem_nsmul_iff]
  constructor
  · rintro ⟨c, hc, rfl⟩
    obtain ⟨h1, h2⟩ := cwr_sound l k c hc
    exact ⟨c, h1, fun x hx => by simpa using h2 x hx, rfl⟩
  · rintro ⟨m, hl, hm, rfl⟩
    exact cwr_complete l k m hl (fun x hx => by simpa using hm x hx)

theorem toFinset_cwr_sums (l : List ℕ) (k : ℕ) : ((cwr l k).map List.sum).toFinset = k • l.toFinset := by
  ext y
  rw [← cwr_sums]
  simp

theorem mem_product_cons (l : List ℕ) (ls : List (List ℕ)) (t : List ℕ) :
    t ∈ product (l :: ls) ↔ ∃ a ∈ l, ∃ t' ∈ product ls, t = a :: t' := by
  simp only [product, List.mem_flatMap, List.mem_map]
  constructor
  · rintro ⟨a, ha, t', ht', rfl⟩; exact ⟨a, ha, t', ht', rfl⟩
  · rintro ⟨a, ha, t', ht', rfl⟩; exact ⟨a, ha, t', ht', rfl⟩

/-- Sums over `itertools.product` are the pointwise sum of the sets. -/
theorem toFinset_product_sums (ls : List (List ℕ)) :
    ((product ls).map List.sum).toFinset = (ls.map List.toFinset).sum := by
  induction ls with
  | nil => simp [product]; rfl
  | cons l ls ih =>
    ext y
    simp only [List.map_cons, List.sum_cons, Finset.mem_add, List.mem_toFinset, List.mem_map, mem_product_cons]
    rw [← ih]
    simp only [List.mem_toFinset, List.mem_map]
    constructor
    · rintro ⟨t, ⟨a, ha, t', ht', rfl⟩, rfl⟩
      exact ⟨a, ha, t'.sum, ⟨t', ht', rfl⟩, by simp⟩
    · rintro ⟨a, ha, b, ⟨t', ht', rfl⟩, rfl⟩
      exact ⟨a :: t', ⟨a, ha, t', ht', rfl⟩, by simp⟩

theorem minL_spec {l : List ℕ} (h : l ≠ []) : minL l ∈ l ∧ ∀ y ∈ l, minL l ≤ y := by
  cases l with
  | nil => exact absurd rfl h
  | cons x xs => exact List.min?_eq_some_iff.mp List.min?_cons'

theorem maxL_spec {l : List ℕ} (h : l ≠ []) : maxL l ∈ l ∧ ∀ y ∈ l, y ≤ maxL l := by
  cases l with
  | nil => exact absurd rfl h
  | cons x xs => exact List.max?_eq_some_iff.mp List.max?_cons'

theorem minL_mem (l : List ℕ) (h : l ≠ []) : minL l ∈ l := (minL_spec h).1

theorem minL_le (l : List ℕ) (y : ℕ) (hy : y ∈ l) : minL l ≤ y := (minL_spec (List.ne_nil_of_mem hy)).2 y hy

theorem maxL_mem (l : List ℕ) (h : l ≠ []) : maxL l ∈ l := (maxL_spec h).1

theorem le_maxL (l : List ℕ) (y : ℕ) (hy : y ∈ l) : y ≤ maxL l := (maxL_spec (List.ne_nil_of_mem hy)).2 y hy

/-! `padTo a x` is the least multiple of `a` that is `≥ x`: "rounded up to a multiple of the alignment". -/

theorem padTo_dvd (a x : ℕ) : a ∣ padTo a x := Dvd.intro_left _ rfl

theorem le_padTo (a x : ℕ) (ha : 1 ≤ a) : x ≤ padTo a x := by
  unfold padTo
  have h := Nat.div_add_mod (x + a - 1) a
  have h2 := Nat.mod_lt (x + a - 1) ha
  have : a * ((x + a - 1) / a) = (x + a - 1) / a * a := Nat.mul_comm _ _
  omega

theorem padTo_least (a x m : ℕ) (ha : 1 ≤ a) (hm : a ∣ m) (hx : x ≤ m) : padTo a x ≤ m := by
  obtain ⟨q, rfl⟩ := hm
  unfold padTo
  have : (x + a - 1) / a ≤ q := by
    rw [Nat.div_le_iff_le_mul_add_pred ha]
    have : x ≤ a * q := hx
    omega
  calc (x + a - 1) / a * a ≤ q * a := Nat.mul_le_mul_right _ this
    _ = a * q := Nat.mul_comm _ _

theorem padTo_mono (a x y : ℕ) (h : x ≤ y) : padTo a x ≤ padTo a y := by
  unfold padTo
  exact Nat.mul_le_mul_right _ (Nat.div_le_div_right (by omega))

/-- Padding commutes with adding a multiple of a common multiple of the alignment. -/
theorem padTo_add_mul (a l q r : ℕ) (ha : 1 ≤ a) (hl : a ∣ l) : padTo a (l * q + r) = l * q + padTo a r := by
  obtain ⟨m, rfl⟩ := hl
  unfold padTo
  have : a * m * q + r + a - 1 = (r + a - 1) + a * (m * q) := by
    have : 1 ≤ r + a := by omega
    rw [Nat.mul_assoc]; omega
  rw [this, Nat.add_mul_div_left _ _ (by omega : 0 < a)]
  ring

/-- The arithmetic fact behind `PaddingOperator.modulo`: residues modulo `lcm(a, d)` determine the padded
    value modulo `d`. -/
theorem padTo_mod_lcm (a d x : ℕ) (ha : 1 ≤ a) :
    padTo a (x % Nat.lcm a d) % d = padTo a x % d := by
  have hl : a ∣ Nat.lcm a d := Nat.dvd_lcm_left a d
  have hd : d ∣ Nat.lcm a d := Nat.dvd_lcm_right a d
  conv_rhs => rw [← Nat.div_add_mod x (Nat.lcm a d)]
  rw [padTo_add_mul a _ _ _ ha hl]
  obtain ⟨m, hm⟩ := hd
  rw [hm, Nat.mul_assoc, Nat.mul_add_mod]

theorem equivK_mod (k d : ℕ) : equivK k d % d = k % d := by
  unfold equivK
  rcases Nat.le_total k (d + k % d) with h | h
  · rw [Nat.min_eq_left h]
  · rw [Nat.min_eq_right h, Nat.add_mod_left, Nat.mod_mod]

end Bls
