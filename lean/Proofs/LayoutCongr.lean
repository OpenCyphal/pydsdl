import Proofs.LayoutSpec
/-!
  The bit length set expression of a composite is built from the alignments and the expressions of its fields by
  `pad`, binary `cat`, `uni` and singleton leaves only.  Hence any relation on expressions that these constructors
  respect is inherited by the composites: equality (C14: fields may be replaced by fields with the same layout) and
  equality of skeletons (C16: by fields of the same shape).
-/
namespace Layout
open Bls List

/-- A relation on operator trees that the constructors used by the layout code respect. -/
structure OpCongr (R : Op → Op → Prop) : Prop where
  leaf (n : ℕ) : R (.leaf [n]) (.leaf [n])
  pad {a b : Op} (n : ℕ) : R a b → R (.pad a n) (.pad b n)
  cat {a b c d : Op} : R a b → R c d → R (.cat [a, c]) (.cat [b, d])
  uni {as bs : List Op} : Forall₂ R as bs → R (.uni as) (.uni bs)

/-- Two field lists whose members have pairwise the same alignment and related expressions. -/
abbrev FieldsRel (R : Op → Op → Prop) : List Ty → List Ty → Prop :=
  Forall₂ fun f g => f.align = g.align ∧ R f.bls g.bls

/-- Field lists with equal images under `f ↦ (f.align, φ f.bls)` are related by `φ · = φ ·`. -/
theorem fieldsRel_of_map_eq (φ : Op → Op) {fs gs : List Ty}
    (h : fs.map (fun f => (f.align, φ f.bls)) = gs.map (fun f => (f.align, φ f.bls))) :
    FieldsRel (fun a b => φ a = φ b) fs gs := by
  rw [← forall₂_eq_eq_eq, forall₂_map_left_iff, forall₂_map_right_iff] at h
  exact h.imp fun _ _ h => Prod.mk.inj h

variable {R : Op → Op → Prop} {fs gs : List Ty}

theorem maxAlign_congr (h : FieldsRel R fs gs) : maxAlign fs = maxAlign gs := by
  induction h with
  | nil => rfl
  | cons hfg _ ih => rw [maxAlign, maxAlign, hfg.1, ih]

theorem tagBits_congr (h : FieldsRel R fs gs) : tagBits fs = tagBits gs := by
  rw [tagBits, tagBits, h.length_eq, maxAlign_congr h]

theorem aggStructFrom_congr (hR : OpCongr R) (h : FieldsRel R fs gs) {a b : Op} (hab : R a b) :
    R (aggStructFrom a fs) (aggStructFrom b gs) := by
  induction h generalizing a b with
  | nil => rwa [aggStructFrom, aggStructFrom]
  | cons hfg _ ih =>
    rw [aggStructFrom, aggStructFrom, hfg.1]
    exact ih (hR.cat (hR.pad _ hab) hfg.2)

theorem blsList_congr (h : FieldsRel R fs gs) : Forall₂ R (blsList fs) (blsList gs) := by
  induction h with
  | nil => rw [blsList]; exact .nil
  | cons hfg _ ih => rw [blsList, blsList]; exact .cons hfg.2 ih

/-- Structures and unions over related field lists have the same alignment and related expressions. -/
theorem composite_congr (hR : OpCongr R) (h : FieldsRel R fs gs) :
    maxAlign fs = maxAlign gs ∧ R (Ty.struct fs).bls (Ty.struct gs).bls ∧ R (Ty.union fs).bls (Ty.union gs).bls := by
  refine ⟨maxAlign_congr h, ?_, ?_⟩
  · rw [Ty.bls, Ty.bls, maxAlign_congr h]
    refine hR.pad _ ?_
    cases h with
    | nil => rw [aggStruct]; exact hR.leaf 0
    | cons hfg h => rw [aggStruct, aggStruct]; exact aggStructFrom_congr hR h hfg.2
  · rw [Ty.bls, Ty.bls, maxAlign_congr h]
    refine hR.pad _ ?_
    have ht := tagBits_congr h
    have hl := blsList_congr h
    cases h with
    | nil => rw [aggUnion]; exact hR.leaf 0
    | cons hfg h =>
      cases h with
      | nil => rw [aggUnion, aggUnion]; exact hfg.2
      | cons _ _ => rw [aggUnion, aggUnion, ht]; exact hR.cat (hR.leaf _) (hR.uni hl)

theorem opCongr_eq : OpCongr Eq where
  leaf _ := rfl
  pad _ h := by rw [h]
  cat h h' := by rw [h, h']
  uni h := by rw [forall₂_eq_eq_eq] at h; rw [h]

end Layout
