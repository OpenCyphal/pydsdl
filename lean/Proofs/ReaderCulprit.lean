import Proofs.ReaderFormatNs
import Proofs.ReaderCommit
import Proofs.ReaderPrintErr
/-! The reported line against the declarative reading (C17 with the statement machine of C03): the read fails at the first
    statement that the declarative reading `aRead` of the statement sequence rejects, and reports that statement's line
    (or the untouched error of one of its referenced definitions) — whether the statement is rejected while it is
    visited or, for a lazily committed attribute, lines later. -/
namespace Reader

/-- a line read in a state whose queued attribute (if any) will be accepted: whatever is raised is an own error with the
    number of THIS line, or the untouched error of a referenced definition of this line -/
theorem stepLine_err_commitOk {c k l s e w'} (hwf : l.offsWf) (hi : s.inv) (hc : s.flushFails = false)
    (h : stepLine c k s l = .error (e, w')) : e = ⟨c.self, some k⟩ ∨ DepErr c l e := by
  rw [stepLine_eq, bind_err] at h
  rcases h with h | ⟨s1, h1, h⟩
  · cases hl : l.stmt with
    | none => rw [hl] at h; cases h
    | some st =>
      simp only [hl] at h
      rw [visitStmt_nf hwf hl hi hc] at h
      split at h
      · cases h; exact Or.inl rfl
      · exact (body_err (flushed_pending hi) h).imp And.left id
  · -- the line end can only fail to commit the attribute of this very line
    left
    obtain ⟨t, ht⟩ := addLineComment_eq l s1
    unfold tail at h
    split at h
    · obtain ⟨hf, hx⟩ := flush_err h
      cases hx
      rw [ht] at hf ⊢
      cases hl : l.stmt with
      | none => rw [hl] at h1; cases h1; rw [show s.flushFails = true from hf] at hc; cases hc
      | some st =>
        rw [hl] at h1
        obtain ⟨⟨a, b⟩, hp⟩ := Option.isSome_iff_exists.mp (flushFails_pending hf)
        obtain ⟨⟨core, rfl⟩, _⟩ := visitStmt_pending hi h1 hp
        obtain ⟨_, q, _⟩ := visitStmt_attr_queued hi h1
        simp [AttrLine, q]
    · cases h

/-- **The culprit is the first statement the declarative reading rejects.**  The text is `pre ++ l :: gap ++ rest`: the
    declarative reading accepts the statement sequence of `pre` and rejects the statement of `l` (for whatever reason: a
    fault of its own, an unresolved reference, a referenced definition that cannot be read, a misplaced or repeated
    directive, an attribute behind `@extent`, a constructor that raises, a field behind `_offset_` in a union);
    statement-less lines `gap` follow, then the end of the text or a statement that does not fail before its first flush.
    Then the read fails and reports the own path with the number of `l`'s line — also when `l` is an attribute that was
    queued and is rejected only lines later, wherever the commit happens — or the untouched error of a definition that
    `l` refers to. -/
theorem readText_first_rejected {c : Ctx} (hc : c.lineBlind) {w : W} {pre gap rest : List Line} {l : Line} {t : ASt}
    (hwf : ∀ x ∈ pre ++ l :: (gap ++ rest), x.offsWf) (hsyn : ∀ x ∈ pre ++ l :: (gap ++ rest), x.fault ≠ some .syn)
    (hpre : aRun c ⟨Spec.init, false, w⟩ (items pre) = some t) (hbad : aStepO c t l.item = none)
    (hgap : ∀ x ∈ gap, x.stmt = none) (hrest : RestOk rest) :
    ∃ e w', readText c (pre ++ l :: (gap ++ rest)) w = .error (e, w') ∧
      (e = ⟨c.self, some (lineAfter 1 pre)⟩ ∨ DepErr c l e) := by
  have hmem_pre : ∀ x ∈ pre, x ∈ pre ++ l :: (gap ++ rest) := fun x hx => List.mem_append.mpr (Or.inl hx)
  have hmem_l : l ∈ pre ++ l :: (gap ++ rest) := List.mem_append.mpr (Or.inr (List.mem_cons_self ..))
  have hsim := runLines_sim (c := c) (c' := c) W.sim_print hc pre 1 (St.init w) ⟨Spec.init, false, w⟩
    (fun x hx => ⟨hwf x (hmem_pre x hx), hsyn x (hmem_pre x hx)⟩) (Abs_init (W.sim_refl w))
  cases hr : runLines c 1 (St.init w) pre with
  | error e => rw [hr, hpre] at hsim; cases hsim
  | ok s0 =>
    rw [hr] at hsim
    rcases hsim with ⟨t', ht', ha⟩ | ⟨hn, _⟩
    · rw [hpre] at ht'; cases ht'
      have hstep := stepLine_sim (c := c) (c' := c) (k := lineAfter 1 pre) W.sim_print hc (hwf l hmem_l) (hsyn l hmem_l) ha
      cases hs : stepLine c (lineAfter 1 pre) s0 l with
      | error ew =>
        obtain ⟨e, w'⟩ := ew
        refine ⟨e, w', ?_, stepLine_err_commitOk (hwf l hmem_l) ha.1.1 ha.2 hs⟩
        unfold readText
        rw [firstSyntaxError_none hsyn]
        simp only
        rw [runLines_append, hr]
        simp only [ok_bind, runLines, hs]
        rfl
      | ok s1 =>
        rw [hs] at hstep
        rcases hstep with ⟨t', ht', _⟩ | ⟨_, hd⟩
        · rw [hbad] at ht'; cases ht'
        · -- `l` was accepted with an attribute queued that will be rejected: the attribute of `l`
          rw [stepLine_eq, bind_ok] at hs
          obtain ⟨s1', hv, htl⟩ := hs
          obtain ⟨x, hx⟩ := addLineComment_eq l s1'
          have hd' : s1'.flushFails = true := by
            unfold tail at htl
            split at htl
            · obtain ⟨_, rfl⟩ := flush_ok htl
              have hi' : s1'.inv := by
                cases hl : l.stmt with
                | none => rw [hl] at hv; cases hv; exact ha.1.1
                | some st =>
                  rw [hl] at hv
                  obtain ⟨_, w3, rfl, _⟩ := visitStmt_ok ha.1.1 hv
                  exact handled_inv _ _ _ _ (ready_flat ha.1.1 l w3).1 (ready_flat ha.1.1 l w3).2.1
              rw [hx] at hd
              simp [St.flushFails, flushed_pending (s := { s1' with comment := x }) hi'] at hd
            · cases htl; rw [hx] at hd; exact hd
          cases hl : l.stmt with
          | none => rw [hl] at hv; cases hv; rw [ha.2] at hd'; cases hd'
          | some st =>
            rw [hl] at hv
            obtain ⟨⟨a, b⟩, hp⟩ := Option.isSome_iff_exists.mp (flushFails_pending hd')
            obtain ⟨⟨core, rfl⟩, _⟩ := visitStmt_pending ha.1.1 hv hp
            exact ⟨_, _, readText_doomed hsyn hr hv hl hd' hgap hrest, Or.inl rfl⟩
    · rw [hn] at hpre; cases hpre

end Reader
