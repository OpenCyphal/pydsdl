import Proofs.WireLen
import Proofs.LayoutDen
/-!
  Bridge between the wire model and the layout model: the wire model's length predicate `Wire.HasLen` (which
  `C06.length` proves to contain the bit length of every encoding) coincides with the Specification's length set
  `Layout.specLens` of the corresponding layout type — the set that `C02.bls_is_spec` proves to be denoted by the
  library's bit length set expression.
-/
open scoped Pointwise
namespace WireLayout
open Bls

mutual
/-- the layout-relevant structure of a wire type -/
def toLayout : Wire.Ty → Layout.Ty
  | .bool => .prim 1
  | .uint n _ => .prim n
  | .sint n _ => .prim n
  | .float n _ => .prim n
  | .byte => .prim 8
  | .utf8 => .prim 8
  | .void n => .void n
  | .farr e cap => .farr (toLayout e) cap
  | .varr e cap => .varr (toLayout e) cap
  | .struct fs m =>
      match m with
      | .sealed => .struct (toLayouts fs)
      | .delimited x => .delim (.struct (toLayouts fs)) x
  | .union fs m =>
      match m with
      | .sealed => .union (toLayouts fs)
      | .delimited x => .delim (.union (toLayouts fs)) x
def toLayouts : List Wire.Ty → List Layout.Ty
  | [] => []
  | t :: ts => toLayout t :: toLayouts ts
end

theorem toLayouts_length (fs : List Wire.Ty) : (toLayouts fs).length = fs.length := by
  induction fs with
  | nil => rfl
  | cons t ts ih => simp [toLayouts, ih]

theorem padTo_eq (a acc : ℕ) (ha : 0 < a) : padTo a acc = acc + Wire.padLen acc a :=
  le_antisymm
    (padTo_least a acc _ ha (Nat.dvd_of_mod_eq_zero (Wire.padLen_dvd acc a ha)) (Nat.le_add_right _ _))
    (Wire.padLen_least ha (Nat.mod_eq_zero_of_dvd (padTo_dvd a acc)) (le_padTo a acc ha))

theorem align_eq : ∀ t : Wire.Ty, (toLayout t).align = t.align := by
  intro t
  induction t using Wire.Ty.induct with
  | prim t hp => cases t <;> first | rfl | cases hp
  | farr e cap ih => exact ih
  | varr e cap ih => exact ih
  | struct fs _ => exact Layout.comp_align _
  | union fs _ => exact Layout.comp_align _
  | delim t hd ih =>
    cases t <;> try cases hd
    all_goals
      rename_i m
      cases m <;> exact ih

/-- a primitive type has the one length `maxLen` -/
theorem specLens_prim {t : Wire.Ty} (hp : t.isPrim = true) : Layout.specLens (toLayout t) = {t.maxLen} := by
  cases t <;> first | rfl | cases hp

theorem repLen_iff (p : ℕ → Prop) (S : Finset ℕ) (hp : ∀ a, p a ↔ a ∈ S) :
    ∀ n L, Wire.RepLen p n L ↔ L ∈ n • S := by
  intro n
  induction n with
  | zero => intro L; simp [Wire.RepLen]
  | succ n ih =>
    intro L
    simp only [Wire.RepLen]
    rw [succ_nsmul', Finset.mem_add]
    constructor
    · rintro ⟨a, b, ha, hb, rfl⟩
      exact ⟨a, (hp a).mp ha, b, (ih b).mp hb, rfl⟩
    · rintro ⟨a, ha, b, hb, rfl⟩
      exact ⟨a, b, (hp a).mpr ha, (ih b).mpr hb, rfl⟩

theorem stdOf_eq_lenBits (cap : ℕ) (h : cap < 2 ^ 64) : Layout.stdOf cap = Wire.lenBits cap := by
  unfold Layout.stdOf Layout.smallestStd Wire.lenBits
  repeat' split
  all_goals rfl

/-- the tag of `n` variants is as wide as the length prefix of an array of capacity `n - 1` -/
theorem tag_eq (n : ℕ) (h2 : 2 ≤ n) (h : n ≤ 2 ^ 64) : max (Layout.stdOf (n - 1)) 8 = Wire.tagBits n := by
  rw [stdOf_eq_lenBits (n - 1) (Nat.sub_one_lt_of_le (Nat.lt_of_lt_of_le (by decide) h2) h), Wire.tagBits_eq_lenBits]
  exact Nat.max_eq_left (Wire.le_lenBits _)

theorem mem_specSeq_singleton (fs : List Layout.Ty) (S : Finset ℕ) (L : ℕ) :
    L ∈ Layout.specSeq S fs ↔ ∃ acc ∈ S, L ∈ Layout.specSeq {acc} fs := by
  induction fs generalizing S with
  | nil => simp [Layout.specSeq]
  | cons f fs ih =>
    simp only [Layout.specSeq]
    rw [ih]
    constructor
    · rintro ⟨x, hx, hL⟩
      obtain ⟨u, hu, v, hv, rfl⟩ := Finset.mem_add.mp hx
      obtain ⟨acc, hacc, rfl⟩ := Finset.mem_image.mp hu
      refine ⟨acc, hacc, ?_⟩
      rw [ih]
      exact ⟨_, Finset.add_mem_add (Finset.mem_image_of_mem _ (Finset.mem_singleton_self acc)) hv, hL⟩
    · rintro ⟨acc, hacc, hL⟩
      rw [ih] at hL
      obtain ⟨x, hx, hL⟩ := hL
      obtain ⟨u, hu, v, hv, rfl⟩ := Finset.mem_add.mp hx
      obtain ⟨a0, ha0, rfl⟩ := Finset.mem_image.mp hu
      rw [Finset.mem_singleton] at ha0; subst ha0
      exact ⟨_, Finset.add_mem_add (Finset.mem_image_of_mem _ hacc) hv, hL⟩

theorem wfFields_iff (fs : List Wire.Ty) : Wire.wfFields fs = true → ∀ t ∈ fs, t.wf = true := by
  induction fs with
  | nil => intro _ t ht; cases ht
  | cons f fs ih =>
    intro h t ht
    obtain ⟨hf, _, hfs⟩ := Wire.wfFields_cons.mp h
    rcases List.mem_cons.mp ht with rfl | ht
    · exact hf
    · exact ih hfs t ht

/-- behind a delimiter header: any whole number of bytes up to the extent -/
theorem mem_delim_lens (x L : ℕ) :
    (∃ k, 8 * k ≤ x ∧ L = Wire.headerBits + 8 * k) ↔
      L ∈ (Finset.range (x / 8 + 1)).image fun i => 32 + 8 * i := by
  simp only [Finset.mem_image, Finset.mem_range, Nat.lt_succ_iff, Nat.le_div_iff_mul_le (by decide : 0 < 8),
    Nat.mul_comm _ 8, Wire.headerBits, eq_comm]

mutual
/-- The wire model's length predicate is membership in the Specification's length set of the layout type. -/
theorem hasLen_iff : ∀ (t : Wire.Ty), t.wf = true → ∀ L, Wire.HasLen t L ↔ L ∈ Layout.specLens (toLayout t)
  | .bool | .uint _ _ | .sint _ _ | .float _ _ | .byte | .utf8 | .void _ => fun _ L => by
      rw [Wire.hasLen_prim rfl, specLens_prim rfl, Finset.mem_singleton]
  | .farr e cap => fun h L => repLen_iff _ _ (hasLen_iff e (Wire.wf_farr.mp h).1) cap L
  | .varr e cap => fun h L => by
      obtain ⟨he, _, hcap, _⟩ := Wire.wf_varr.mp h
      have hstd : max (Layout.stdOf cap) (toLayout e).align = Wire.lenBits cap := by
        rw [stdOf_eq_lenBits cap hcap, align_eq]
        exact Nat.max_eq_left (Nat.le_trans (Wire.align_le e) (Wire.le_lenBits cap))
      simp only [Wire.HasLen, toLayout, Layout.specLens, hstd, Finset.mem_add, Finset.mem_singleton,
        Finset.mem_biUnion, Finset.mem_range, Nat.lt_succ_iff]
      constructor
      · rintro ⟨k, L', hk, hr, rfl⟩
        exact ⟨_, rfl, L', ⟨k, hk, (repLen_iff _ _ (hasLen_iff e he) k L').mp hr⟩, rfl⟩
      · rintro ⟨_, rfl, L', ⟨k, hk, hr⟩, rfl⟩
        exact ⟨k, L', hk, (repLen_iff _ _ (hasLen_iff e he) k L').mpr hr, rfl⟩
  | .struct fs (.delimited x) | .union fs (.delimited x) => fun _ L => mem_delim_lens x L
  | .struct fs .sealed => fun h L => by
      have hf := fieldsLen_iff fs (Wire.wf_struct.mp h).1 0
      simp only [Wire.HasLen, toLayout, Layout.specLens, Finset.mem_image, ← hf, padTo_eq 8 _ (by decide), eq_comm]
  | .union fs .sealed => fun h L => by
      obtain ⟨hf, _, h2, hn, _⟩ := Wire.wf_union.mp h
      have hv := variantLen_iff fs hf
      simp only [Wire.HasLen, toLayout, Layout.specLens, Finset.mem_image, Finset.mem_add, Finset.mem_singleton,
        toLayouts_length, tag_eq fs.length h2 hn, ← hv, padTo_eq 8 _ (by decide)]
      constructor
      · rintro ⟨L', hv, rfl⟩
        exact ⟨_, ⟨_, rfl, L', hv, rfl⟩, rfl⟩
      · rintro ⟨_, ⟨_, rfl, L', hv, rfl⟩, rfl⟩
        exact ⟨L', hv, rfl⟩
theorem fieldsLen_iff : ∀ (fs : List Wire.Ty), Wire.wfFields fs = true → ∀ acc L,
    Wire.FieldsLen fs acc L ↔ L ∈ Layout.specSeq {acc} (toLayouts fs)
  | [] => fun _ acc L => Finset.mem_singleton.symm
  | t :: ts => fun h acc L => by
      obtain ⟨ht, _, hts⟩ := Wire.wfFields_cons.mp h
      simp only [Wire.FieldsLen, toLayouts, Layout.specSeq, Finset.image_singleton]
      rw [mem_specSeq_singleton, align_eq, padTo_eq _ _ (Wire.align_pos t)]
      simp only [Finset.mem_add, Finset.mem_singleton, ← hasLen_iff t ht, ← fieldsLen_iff ts hts]
      constructor
      · rintro ⟨a, ha, hf⟩
        exact ⟨_, ⟨_, rfl, a, ha, rfl⟩, hf⟩
      · rintro ⟨_, ⟨_, rfl, a, ha, rfl⟩, hf⟩
        exact ⟨a, ha, hf⟩
theorem variantLen_iff : ∀ (fs : List Wire.Ty), Wire.wfFields fs = true → ∀ L,
    Wire.VariantLen fs L ↔ L ∈ Layout.specUnion (toLayouts fs)
  | [] => fun _ L => (iff_of_false id (Finset.notMem_empty L))
  | t :: ts => fun h L => by
      obtain ⟨ht, _, hts⟩ := Wire.wfFields_cons.mp h
      simp only [Wire.VariantLen, toLayouts, Layout.specUnion, Finset.mem_union]
      rw [hasLen_iff t ht L, variantLen_iff ts hts L]
end

end WireLayout
