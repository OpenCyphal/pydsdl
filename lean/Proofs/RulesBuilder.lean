import Model.Rules
/-! The builder automaton of `Model/Rules.lean` against the declarative reading "every statement is admissible given
    what precedes it" (C05: directive placement and non-duplication). -/
namespace Rules

def RStmt.isAttr : RStmt → Bool
  | .field .. | .padding .. | .const .. => true
  | _ => false

def RStmt.isMode : RStmt → Bool
  | .sealed | .extent _ => true
  | _ => false

def RStmt.isExtentStmt : RStmt → Bool
  | .extent _ => true
  | _ => false

def RStmt.toAttr : RStmt → Option RAttr
  | .field t n => some (.field t n)
  | .padding w => some (.padding w)
  | .const t n => some (.const t n)
  | _ => none

def RStmt.toMode : RStmt → Option RMode
  | .sealed => some .sealed
  | .extent e => some (.extent e)
  | _ => none

/-- the statements of the schema that is open after `pre` (everything behind the last `---`) -/
def lastSeg (pre : List RStmt) : List RStmt :=
  pre.foldl (fun acc st => if st = .marker then [] else acc ++ [st]) []

/-- the statements in front of the first `---` -/
def firstSeg (pre : List RStmt) : List RStmt := pre.takeWhile (· ≠ .marker)

/-- what a schema's statements say: attributes in order, `@union` present, the first mode directive -/
def segSummary (seg : List RStmt) : RSchema :=
  ⟨seg.filterMap RStmt.toAttr, seg.contains .union, seg.findSome? RStmt.toMode⟩

/-- what the statements say as a whole -/
def summ (pre : List RStmt) : BState :=
  ⟨if pre.contains .marker then [segSummary (firstSeg pre)] else [], segSummary (lastSeg pre), pre.contains .deprecated⟩

/-- Is statement `st` admissible behind the statements `pre`?
    * an attribute: its own constructor checks pass and no `@extent` precedes it in its schema;
    * `@union`: no `@union` and no attribute precedes it in its schema;
    * `@deprecated`: no `@deprecated`, no `---` and no attribute precedes it at all;
    * `@sealed` / `@extent`: no `@sealed` / `@extent` precedes it in its schema;
    * `---`: no `---` precedes it. -/
def admissible (pre : List RStmt) (st : RStmt) : Bool :=
  match st with
  | .field .. | .padding .. | .const .. => attrCtorOk st && !(lastSeg pre).any RStmt.isExtentStmt
  | .union => !(lastSeg pre).contains .union && !(lastSeg pre).any RStmt.isAttr
  | .deprecated => !pre.contains .deprecated && !pre.contains .marker && !pre.any RStmt.isAttr
  | .sealed | .extent _ => !(lastSeg pre).any RStmt.isMode
  | .marker => !pre.contains .marker

def Admissible : List RStmt → List RStmt → Prop
  | _, [] => True
  | pre, st :: rest => admissible pre st = true ∧ Admissible (pre ++ [st]) rest

theorem Admissible_iff (pre rest : List RStmt) :
    Admissible pre rest ↔ ∀ a st b, rest = a ++ st :: b → admissible (pre ++ a) st = true := by
  induction rest generalizing pre with
  | nil => simp [Admissible]
  | cons x rest ih =>
    simp only [Admissible, ih]
    constructor
    · rintro ⟨h1, h2⟩ a st b hab
      cases a with
      | nil => simp at hab; obtain ⟨rfl, rfl⟩ := hab; simpa using h1
      | cons y a =>
        simp at hab
        obtain ⟨rfl, rfl⟩ := hab
        have := h2 a st b rfl
        simpa using this
    · intro h
      refine ⟨by simpa using h [] x rest rfl, ?_⟩
      intro a st b hab
      have := h (x :: a) st b (by simp [hab])
      simpa using this

/-! snoc lemmas of the summaries -/

theorem lastSeg_snoc (pre : List RStmt) (st : RStmt) :
    lastSeg (pre ++ [st]) = if st = .marker then [] else lastSeg pre ++ [st] := by
  simp [lastSeg, List.foldl_append]

theorem firstSeg_snoc (pre : List RStmt) (st : RStmt) :
    firstSeg (pre ++ [st]) = if pre.contains .marker then firstSeg pre else if st = .marker then pre else pre ++ [st] := by
  induction pre with
  | nil => by_cases h : st = .marker <;> simp [firstSeg, List.takeWhile, h]
  | cons x pre ih =>
    by_cases hx : x = .marker
    · subst hx; simp [firstSeg, List.takeWhile]
    · have hx' : (RStmt.marker == x) = false := by
        simp; exact fun h => hx h.symm
      simp only [firstSeg] at ih ⊢
      simp only [List.cons_append, List.takeWhile, hx, ne_eq, not_false_eq_true, decide_true, List.contains_cons, hx', Bool.false_or]
      rw [ih]
      split
      · rfl
      · split <;> rfl

theorem foldl_lastSeg_no_marker (pre acc : List RStmt) (h : pre.contains .marker = false) :
    pre.foldl (fun acc st => if st = .marker then [] else acc ++ [st]) acc = acc ++ pre := by
  induction pre generalizing acc with
  | nil => simp
  | cons x pre ih =>
    simp at h
    have hx : ¬ x = .marker := fun e => h.1 e.symm
    simp only [List.foldl_cons, hx, if_false]
    rw [ih _ (by simpa using h.2)]
    simp

theorem not_marker_lastSeg_eq {pre : List RStmt} (h : pre.contains .marker = false) : lastSeg pre = pre := by
  simpa [lastSeg] using foldl_lastSeg_no_marker pre [] h

theorem not_marker_firstSeg_eq {pre : List RStmt} (h : pre.contains .marker = false) : firstSeg pre = pre := by
  induction pre with
  | nil => rfl
  | cons x pre ih =>
    simp at h
    have hx : ¬ x = .marker := fun e => h.1 e.symm
    simp only [firstSeg, List.takeWhile, ne_eq, hx, not_false_eq_true, decide_true]
    congr 1
    exact ih (by simpa using h.2)

/-! the automaton step against `admissible` -/

theorem attrs_isEmpty (seg : List RStmt) : (seg.filterMap RStmt.toAttr).isEmpty = !seg.any RStmt.isAttr := by
  induction seg with
  | nil => rfl
  | cons x seg ih => cases x <;> simp_all [RStmt.toAttr, RStmt.isAttr, List.filterMap_cons]

theorem mode_isSome (seg : List RStmt) : (seg.findSome? RStmt.toMode).isSome = seg.any RStmt.isMode := by
  induction seg with
  | nil => rfl
  | cons x seg ih => cases x <;> simp_all [RStmt.toMode, RStmt.isMode, List.findSome?_cons]

theorem segSummary_snoc (seg : List RStmt) (st : RStmt) :
    segSummary (seg ++ [st]) =
      ⟨(segSummary seg).attrs ++ (match st.toAttr with | some a => [a] | none => []),
       (segSummary seg).union || st == .union,
       (segSummary seg).mode <|> st.toMode⟩ := by
  simp only [segSummary, List.filterMap_append, List.contains_append, List.findSome?_append]
  cases st <;> simp [RStmt.toAttr, RStmt.toMode, List.filterMap_cons]

theorem summ_snoc_nm (pre : List RStmt) (st : RStmt) (hst : st ≠ .marker) :
    summ (pre ++ [st]) = ⟨(summ pre).done, segSummary (lastSeg pre ++ [st]), (summ pre).deprecated || decide (st = .deprecated)⟩ := by
  have e1 : (RStmt.marker == st) = false := by simp; exact fun h => hst h.symm
  simp only [summ, lastSeg_snoc, hst, if_false, List.contains_append, List.contains_cons, List.contains_nil, Bool.or_false, e1,
    firstSeg_snoc]
  congr 1
  · by_cases hc : RStmt.marker ∈ pre <;> simp [hc]
  · cases st <;> simp

theorem summ_snoc_marker (pre : List RStmt) (h : pre.contains .marker = false) :
    summ (pre ++ [.marker]) = ⟨[segSummary pre], RSchema.empty, (summ pre).deprecated⟩ := by
  simp only [summ, lastSeg_snoc, if_true, firstSeg_snoc, List.contains_append, h]
  simp [segSummary, RSchema.empty]

theorem summ_done_isEmpty (pre : List RStmt) : (summ pre).done.isEmpty = !pre.contains .marker := by
  simp only [summ]; split <;> simp_all

/-- The builder's "this schema has an `@extent`" (it looks at the first mode directive it recorded) agrees with the
    statements of the schema.  True of every prefix the builder accepts, since it accepts one mode directive per schema. -/
def ExtentSeen (pre : List RStmt) : Prop :=
  isExtent (segSummary (lastSeg pre)).mode = (lastSeg pre).any RStmt.isExtentStmt

theorem mode_eq_none {pre : List RStmt} (h : (lastSeg pre).any RStmt.isMode = false) :
    (segSummary (lastSeg pre)).mode = none := by
  rw [← Option.not_isSome_iff_eq_none, segSummary, mode_isSome, h]
  exact Bool.false_ne_true

theorem ExtentSeen_snoc {pre : List RStmt} {st : RStmt} (h : ExtentSeen pre) (ha : admissible pre st = true) :
    ExtentSeen (pre ++ [st]) := by
  unfold ExtentSeen at h ⊢
  rw [lastSeg_snoc]
  split
  · rfl
  · rw [segSummary_snoc, List.any_append, ← h]
    cases st with
    | «sealed» | extent e =>
      -- admissible behind no other mode directive: this one is the first
      rw [mode_eq_none (by simpa [admissible] using ha)]
      rfl
    | _ => cases (segSummary (lastSeg pre)).mode <;> simp [RStmt.toMode, RStmt.isExtentStmt]

/-- a step that refuses under guard `g` and otherwise yields `s`, against "if `a` then `s'`" -/
theorem guard_eq {α : Type} {g a : Bool} {s s' : α} (hg : g = !a) (hs : a = true → s = s') :
    (if g = true then none else some s) = if a = true then some s' else none := by
  subst hg
  cases a
  · rfl
  · simp [hs rfl]

/-- one step of the builder on what a prefix says: an admissible statement is taken in, any other is refused.
    In each case: the builder's guard is the negation of `admissible`, and under it the new state is the new summary. -/
theorem bstep_summ (pre : List RStmt) (st : RStmt) (hm : ExtentSeen pre) :
    bstep (summ pre) st = if admissible pre st = true then some (summ (pre ++ [st])) else none := by
  have hattrs : (summ pre).cur.attrs.isEmpty = !(lastSeg pre).any RStmt.isAttr := attrs_isEmpty _
  have hmode : (summ pre).cur.mode.isSome = (lastSeg pre).any RStmt.isMode := mode_isSome _
  have hext : isExtent (summ pre).cur.mode = (lastSeg pre).any RStmt.isExtentStmt := hm
  have hunion : (summ pre).cur.union = (lastSeg pre).contains .union := rfl
  have hdep : (summ pre).deprecated = pre.contains .deprecated := rfl
  have hdone := summ_done_isEmpty pre
  cases st with
  | field _ _ | padding _ | const _ _ =>
    simp only [bstep, admissible]
    refine guard_eq (by simp [hext]) fun _ => ?_
    rw [summ_snoc_nm _ _ (by simp), segSummary_snoc]
    simp [RStmt.toAttr, RStmt.toMode, summ]
  | union =>
    simp only [bstep, admissible]
    refine guard_eq (by simp [hunion, hattrs]) fun _ => ?_
    rw [summ_snoc_nm _ _ (by simp), segSummary_snoc]
    simp [RStmt.toAttr, RStmt.toMode, summ]
  | deprecated =>
    simp only [bstep, admissible]
    have hne : (RStmt.deprecated == RStmt.union) = false := by decide
    refine guard_eq ?_ fun _ => ?_
    · by_cases h1 : RStmt.marker ∈ pre
      · simp [hdone, h1]
      · have hl : lastSeg pre = pre := not_marker_lastSeg_eq (by simpa using h1)
        simp [hdep, hdone, hattrs, h1, hl]
    · rw [summ_snoc_nm _ _ (by simp), segSummary_snoc]
      simp [RStmt.toAttr, RStmt.toMode, summ, hne]
  | «sealed» | extent _ =>
    simp only [bstep, admissible]
    refine guard_eq (by simp [hmode]) fun ha => ?_
    have hnone : (segSummary (lastSeg pre)).mode = none := mode_eq_none (by simpa using ha)
    rw [summ_snoc_nm _ _ (by simp), segSummary_snoc]
    simp [RStmt.toAttr, RStmt.toMode, summ, hnone]
  | marker =>
    simp only [bstep, admissible]
    refine guard_eq (by simp [hdone]) fun ha => ?_
    have h1 : pre.contains .marker = false := by simpa using ha
    rw [summ_snoc_marker _ h1]
    have hnm : ¬ RStmt.marker ∈ pre := by simpa using h1
    simp [summ, hnm, not_marker_lastSeg_eq h1]

/-- the builder accepts exactly the statement lists in which every statement is admissible behind its predecessors,
    and then its state is what the statements say -/
theorem brun_iff (rest : List RStmt) : ∀ (pre : List RStmt) (b : BState), ExtentSeen pre →
    (brun (summ pre) rest = some b ↔ Admissible pre rest ∧ b = summ (pre ++ rest)) := by
  induction rest with
  | nil => intro pre b _; simp [brun, Admissible, eq_comm]
  | cons st rest ih =>
    intro pre b hm
    simp only [brun, Admissible, bstep_summ pre st hm]
    cases ha : admissible pre st with
    | false => simp
    | true =>
      simp only [if_true, true_and]
      rw [ih (pre ++ [st]) b (ExtentSeen_snoc hm ha)]
      simp

theorem brun_init_iff (stmts : List RStmt) (b : BState) :
    brun BState.init stmts = some b ↔ Admissible [] stmts ∧ b = summ stmts := by
  have h : BState.init = summ [] := by simp [BState.init, summ, segSummary, lastSeg, RSchema.empty]
  rw [h]
  have := brun_iff stmts [] b rfl
  simpa using this

end Rules
