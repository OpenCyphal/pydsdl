import Model.WireIO
import Proofs.WireBasic
import Proofs.BitIOReader
/-!
  `WireIO.encW` / `WireIO.decR` (the codec as a driver of the byte-buffer `_BitWriter` / `_BitReader` with both of
  their code paths) compute exactly `Wire.enc` / `Wire.dec` (the codec over an abstract bit stream).
-/
namespace WireIO
open Wire (Ty Val Err Mode Cast)
open BitIO (W Rd)

/-! ## Bridging the two vocabularies -/

theorem zeros_eq (n : ℕ) : BitIO.zeros n = Wire.zeros n := rfl

theorem natBits_eq (n v : ℕ) : BitIO.natBits n v = Wire.natBits n v := by
  induction n generalizing v with
  | zero => simp [BitIO.natBits, Wire.natBits]
  | succ n ih =>
    have h : BitIO.natBits (n + 1) v = BitIO.natBits 1 v ++ BitIO.natBits n (v >>> 1) := by
      rw [Nat.add_comm, BitIO.natBits_add]
    rw [h, ih]
    simp only [Wire.natBits, BitIO.natBits, Nat.shiftRight_one, Nat.testBit_zero, List.range_one, List.map_cons,
      List.map_nil, List.cons_append, List.nil_append, List.cons.injEq, and_true]
    by_cases h2 : v % 2 = 1 <;> simp [h2]

theorem ofBits_eq (bs : List Bool) : BitIO.ofBits bs = Wire.bitsNat bs := by
  induction bs with
  | nil => rfl
  | cons b bs ih => simp [BitIO.ofBits, Wire.bitsNat, ih]

theorem takeZ_eq (n : ℕ) (s : List Bool) : BitIO.takeZ n s = Wire.takeZ n s := by
  induction n generalizing s with
  | zero => simp [BitIO.takeZ, Wire.takeZ, BitIO.zeros]
  | succ n ih =>
    cases s with
    | nil =>
      have := ih []
      simp only [BitIO.takeZ, List.take_nil, List.length_nil, Nat.sub_zero, List.nil_append] at this ⊢
      rw [Wire.takeZ, ← this, BitIO.zeros_succ]
    | cons b s =>
      have := ih s
      simp only [BitIO.takeZ, List.take_succ_cons, List.length_cons, Nat.add_sub_add_right,
        List.cons_append] at this ⊢
      rw [Wire.takeZ, ← this]

/-- the number of pad bits `_BitWriter.align_to` / `_BitReader.align_to` computes is `Wire.padLen` -/
theorem padLen_eq (off a : ℕ) (ha : 0 < a) :
    Wire.padLen off a = if off % a ≠ 0 then a - off % a else 0 := by
  have := Nat.mod_lt off ha
  unfold Wire.padLen
  split
  · exact Nat.mod_eq_of_lt (by omega)
  · next h => simp only [ne_eq, Decidable.not_not] at h; simp [h]

/-! ## Writer -/

/-- `w'` is `w` after appending `bits` (and the invariant holds again) -/
def WS (w w' : W) (bits : List Bool) : Prop := w'.ok = true ∧ w'.logical = w.logical ++ bits

theorem WS.off {w w' : W} {bits : List Bool} (hw : w.ok = true) (h : WS w w' bits) :
    w'.off = w.off + bits.length := by
  rw [← BitIO.logical_length w' h.1, h.2, List.length_append, BitIO.logical_length w hw]

theorem WS.refl {w : W} (hw : w.ok = true) : WS w w [] := ⟨hw, by simp⟩

theorem WS.trans {w w1 w2 : W} {b1 b2 : List Bool} (h1 : WS w w1 b1) (h2 : WS w1 w2 b2) :
    WS w w2 (b1 ++ b2) := ⟨h2.1, by rw [h2.2, h1.2, List.append_assoc]⟩

theorem ws_writeBits (w : W) (v n : ℕ) (hw : w.ok = true) :
    WS w (BitIO.writeBits w v n) (Wire.natBits n v) := by
  obtain ⟨h1, _, h3⟩ := BitIO.writeBits_spec w v n hw
  exact ⟨h1, by rw [h3, natBits_eq]⟩

theorem ws_alignTo (w : W) (a : ℕ) (ha : 0 < a) (hw : w.ok = true) :
    WS w (BitIO.alignTo w a) (Wire.zeros (Wire.padLen w.off a)) := by
  rw [padLen_eq _ _ ha]
  unfold BitIO.alignTo
  rw [if_neg (by omega)]
  split
  · have := ws_writeBits w 0 (a - w.off % a) hw
    rwa [Wire.natBits_zero] at this
  · simpa [Wire.zeros] using WS.refl hw

theorem ws_writeBytes (bs : List ℕ) (w : W) (hw : w.ok = true) :
    WS w (writeBytes w bs) (bs.flatMap (Wire.natBits 8)) := by
  induction bs generalizing w with
  | nil => simpa [writeBytes] using WS.refl hw
  | cons b bs ih =>
    have h1 := ws_writeBits w b 8 hw
    have h2 := ih (BitIO.writeBits w b 8) h1.1
    simpa [writeBytes] using h1.trans h2

theorem natBits_add (a b v : ℕ) :
    Wire.natBits (a + b) v = Wire.natBits a v ++ Wire.natBits b (v >>> a) := by
  rw [← natBits_eq, ← natBits_eq, ← natBits_eq, BitIO.natBits_add]

theorem natBits_mod (k v : ℕ) : Wire.natBits k (v % 2 ^ k) = Wire.natBits k v := by
  rw [← natBits_eq, ← natBits_eq, BitIO.natBits_mod]

/-- the bytes of a little-endian `k`-byte pattern, written one after another, are its `8k` bits -/
theorem floatBytes_bits (k b : ℕ) :
    ((List.range k).map fun i => (b >>> (8 * i)) % 256).flatMap (Wire.natBits 8) = Wire.natBits (8 * k) b := by
  induction k with
  | zero => simp [Wire.natBits]
  | succ k ih =>
    rw [List.range_succ, List.map_append, List.flatMap_append, ih, Nat.mul_succ, natBits_add]
    simp only [List.map_cons, List.map_nil, List.flatMap_cons, List.flatMap_nil, List.append_nil]
    rw [show (256 : ℕ) = 2 ^ 8 from rfl, natBits_mod]

theorem floatBytes_spec (n b : ℕ) (hn : n % 8 = 0) :
    (floatBytes n b).flatMap (Wire.natBits 8) = Wire.natBits n b := by
  unfold floatBytes
  rw [floatBytes_bits]
  congr 1; omega

theorem natBits_bitsNat (c : List Bool) : Wire.natBits c.length (Wire.bitsNat c) = c := by
  induction c with
  | nil => rfl
  | cons x c ih =>
    simp only [List.length_cons, Wire.natBits, Wire.bitsNat]
    have h1 : ((if x = true then 1 else 0) + 2 * Wire.bitsNat c) / 2 = Wire.bitsNat c := by
      split <;> omega
    have h2 : (((if x = true then 1 else 0) + 2 * Wire.bitsNat c) % 2 == 1) = x := by
      cases x <;> simp
    rw [h1, h2, ih]

theorem bytesOf_length (buf : List Bool) : (bytesOf buf).length = buf.length / 8 := by
  simp [bytesOf]

theorem bytesOf_bits_aux (buf : List Bool) (k : ℕ) (hk : 8 * k ≤ buf.length) :
    ((List.range k).map fun i => BitIO.ofBits ((buf.drop (8 * i)).take 8)).flatMap (Wire.natBits 8)
      = buf.take (8 * k) := by
  induction k with
  | zero => simp
  | succ k ih =>
    rw [List.range_succ, List.map_append, List.flatMap_append, ih (by omega)]
    simp only [List.map_cons, List.map_nil, List.flatMap_cons, List.flatMap_nil, List.append_nil]
    have hl : ((buf.drop (8 * k)).take 8).length = 8 := by simp; omega
    have hc := natBits_bitsNat ((buf.drop (8 * k)).take 8)
    rw [hl] at hc
    rw [ofBits_eq, hc, Nat.mul_succ, List.take_add]

/-- `finish()` and the byte-by-byte copy give back the buffer -/
theorem bytesOf_bits (buf : List Bool) (h : buf.length % 8 = 0) :
    (bytesOf buf).flatMap (Wire.natBits 8) = buf := by
  unfold bytesOf
  rw [bytesOf_bits_aux buf _ (by omega)]
  apply List.take_of_length_le; omega

theorem pad8_of_mod (l : List Bool) (h : l.length % 8 = 0) : BitIO.pad8 l = l := BitIO.pad8_of_mod l h

theorem padTail_mod8 (b : List Bool) : (Wire.padTail 0 b).length % 8 = 0 := by
  have := Wire.padLen_dvd b.length 8 (by omega)
  rwa [Wire.padTail, List.length_append, Wire.zeros_length, Nat.zero_add]

/-- a composite body that is a whole number of bytes at offset 0 stays one with its header -/
theorem wrapDelim_mod8 (m : Mode) (body : ℕ → List Bool) (h : (body 0).length % 8 = 0) :
    (Wire.wrapDelim m 0 body).length % 8 = 0 := by
  cases m with
  | sealed => exact h
  | delimited x =>
    simp only [Wire.wrapDelim, List.length_append, Wire.natBits_length, Wire.headerBits]
    omega

theorem empty_ok : (⟨[], 0⟩ : W).ok = true := by decide

/-- `_serialize_composite`, both branches, given the body -/
theorem ws_wrapDelim (m : Mode) (w : W) (bodyW : W → W) (body : ℕ → List Bool)
    (hbody : ∀ w : W, w.ok = true → WS w (bodyW w) (body w.off))
    (hlen : (body 0).length % 8 = 0) (hw : w.ok = true) :
    WS w (wrapDelimW m w bodyW) (Wire.wrapDelim m w.off body) := by
  cases m with
  | sealed => exact hbody w hw
  | delimited x =>
    simp only [wrapDelimW, Wire.wrapDelim]
    have hi := hbody ⟨[], 0⟩ empty_ok
    have hbuf : (bodyW ⟨[], 0⟩).buf = body 0 := by
      have := ((BitIO.ok_iff _).mp hi.1).1
      rw [this, hi.2]
      simp only [BitIO.W.logical, List.take_nil, List.nil_append]
      exact pad8_of_mod _ hlen
    rw [hbuf]
    have h1 := ws_writeBits w (bytesOf (body 0)).length Wire.headerBits hw
    have h2 := ws_writeBytes (bytesOf (body 0)) _ h1.1
    have h12 := h1.trans h2
    rw [bytesOf_bits _ hlen] at h12
    rw [bytesOf_length] at h12 ⊢
    exact h12

theorem ws_encRep (fW : Val → W → W) (f : Val → ℕ → List Bool) :
    ∀ (vs : List Val) (w : W), (∀ v ∈ vs, ∀ w : W, w.ok = true → WS w (fW v w) (f v w.off)) → w.ok = true →
      WS w (encRepW fW vs w) (Wire.encRep f vs w.off)
  | [], w, _, hw => by simpa [encRepW, Wire.encRep] using WS.refl hw
  | v :: vs, w, hf, hw => by
      simp only [encRepW, Wire.encRep]
      have h1 := hf v (by simp) w hw
      have h2 := ws_encRep fW f vs (fW v w) (fun u hu => hf u (by simp [hu])) h1.1
      rw [h1.off hw] at h2
      exact h1.trans h2

mutual
/-- **Writer refinement.**  Driving `_BitWriter` the way `_serialize_*` does appends exactly `Wire.enc`. -/
theorem encW_ws : ∀ (t : Ty) (v : Val) (w : W), t.wf = true → w.ok = true →
    WS w (encW t v w) (Wire.enc t v w.off)
  | .bool, v, w, _, hw => by
      cases v with
      | bool b =>
        simp only [encW, Wire.enc]
        have := ws_writeBits w (if b then 1 else 0) 1 hw
        cases b <;> simpa [Wire.natBits] using this
      | _ => simpa [encW, Wire.enc] using WS.refl hw
  | .uint n c, v, w, _, hw => by
      cases v with
      | int i => simp only [encW, Wire.enc]; exact ws_writeBits w _ n hw
      | _ => simpa [encW, Wire.enc] using WS.refl hw
  | .sint n c, v, w, _, hw => by
      cases v with
      | int i => simp only [encW, Wire.enc]; exact ws_writeBits w _ n hw
      | _ => simpa [encW, Wire.enc] using WS.refl hw
  | .float n c, v, w, ht, hw => by
      cases v with
      | flt b =>
        simp only [encW, Wire.enc]
        have hn : n % 8 = 0 := by
          simp only [Ty.wf, Bool.or_eq_true, beq_iff_eq] at ht
          omega
        rw [← floatBytes_spec n b hn]
        exact ws_writeBytes _ w hw
      | _ => simpa [encW, Wire.enc] using WS.refl hw
  | .byte, v, w, _, hw => by
      cases v with
      | int i => simp only [encW, Wire.enc]; exact ws_writeBits w _ 8 hw
      | _ => simpa [encW, Wire.enc] using WS.refl hw
  | .utf8, v, w, _, hw => by
      cases v with
      | int i => simp only [encW, Wire.enc]; exact ws_writeBits w _ 8 hw
      | _ => simpa [encW, Wire.enc] using WS.refl hw
  | .void n, v, w, _, hw => by
      have := ws_writeBits w 0 n hw
      rw [Wire.natBits_zero] at this
      cases v <;> simpa only [encW, Wire.enc] using this
  | .farr e cap, v, w, ht, hw => by
      cases v with
      | arr vs =>
        simp only [encW, Wire.enc]
        simp only [Ty.wf, Bool.and_eq_true] at ht
        exact ws_encRep _ _ vs w (fun u _ w' hw' => encW_ws e u w' ht.1.1.1 hw') hw
      | _ => simpa [encW, Wire.enc] using WS.refl hw
  | .varr e cap, v, w, ht, hw => by
      cases v with
      | arr vs =>
        simp only [encW, Wire.enc]
        simp only [Ty.wf, Bool.and_eq_true] at ht
        have h1 := ws_writeBits w vs.length (Wire.lenBits cap) hw
        have h2 := ws_encRep _ _ vs _ (fun u _ w' hw' => encW_ws e u w' ht.1.1.1 hw') h1.1
        rw [h1.off hw, Wire.natBits_length] at h2
        exact h1.trans h2
      | _ => simpa [encW, Wire.enc] using WS.refl hw
  | .struct fs m, v, w, ht, hw => by
      cases v with
      | recd vs =>
        simp only [encW, Wire.enc]
        simp only [Ty.wf, Bool.and_eq_true] at ht
        refine ws_wrapDelim m w _ _ (fun w' hw' => ?_) ?_ hw
        · have h1 := encFieldsW_ws fs vs w' ht.1 hw'
          have h2 := ws_alignTo _ 8 (by omega) h1.1
          rw [h1.off hw'] at h2
          exact h1.trans h2
        · exact padTail_mod8 _
      | _ => simpa [encW, Wire.enc] using WS.refl hw
  | .union fs m, v, w, ht, hw => by
      cases v with
      | var tag u =>
        simp only [encW, Wire.enc]
        simp only [Ty.wf, Bool.and_eq_true] at ht
        refine ws_wrapDelim m w _ _ (fun w' hw' => ?_) ?_ hw
        · have h1 := ws_writeBits w' tag (Wire.tagBits fs.length) hw'
          have h2 := encVariantW_ws fs tag u _ ht.1.1.1.1 h1.1
          rw [h1.off hw', Wire.natBits_length] at h2
          have h12 := h1.trans h2
          have h3 := ws_alignTo _ 8 (by omega) h12.1
          rw [h12.off hw'] at h3
          exact h12.trans h3
        · exact padTail_mod8 _
      | _ => simpa [encW, Wire.enc] using WS.refl hw
theorem encFieldsW_ws : ∀ (ts : List Ty) (vs : List Val) (w : W), Wire.wfFields ts = true → w.ok = true →
    WS w (encFieldsW ts vs w) (Wire.encFields ts vs w.off)
  | [], vs, w, _, hw => by simpa [encFieldsW, Wire.encFields] using WS.refl hw
  | _ :: _, [], w, _, hw => by simpa [encFieldsW, Wire.encFields] using WS.refl hw
  | t :: ts, v :: vs, w, ht, hw => by
      simp only [encFieldsW, Wire.encFields]
      simp only [Wire.wfFields, Bool.and_eq_true] at ht
      have h1 := ws_alignTo w t.align (Wire.align_pos t) hw
      have h2 := encW_ws t v _ ht.1.1 h1.1
      rw [h1.off hw, Wire.zeros_length] at h2
      have h12 := h1.trans h2
      have h3 := encFieldsW_ws ts vs _ ht.2 h12.1
      rw [h12.off hw, List.length_append, Wire.zeros_length, ← Nat.add_assoc] at h3
      exact h12.trans h3
theorem encVariantW_ws : ∀ (ts : List Ty) (n : ℕ) (v : Val) (w : W), Wire.wfFields ts = true → w.ok = true →
    WS w (encVariantW ts n v w) (Wire.encVariant ts n v w.off)
  | [], _, _, w, _, hw => by simpa [encVariantW, Wire.encVariant] using WS.refl hw
  | t :: _, 0, v, w, ht, hw => by
      simp only [encVariantW, Wire.encVariant]
      simp only [Wire.wfFields, Bool.and_eq_true] at ht
      exact encW_ws t v w ht.1.1 hw
  | _ :: ts, n+1, v, w, ht, hw => by
      simp only [encVariantW, Wire.encVariant]
      simp only [Wire.wfFields, Bool.and_eq_true] at ht
      exact encVariantW_ws ts n v w ht.2 hw
end

/-! ## Reader -/

/-- the stream view of a `_BitReader`: absolute offset and window -/
def toR (r : Rd) : Wire.R := ⟨r.off, r.window⟩

/-- reader invariant: the position is not before the start, and a bounded reader's limit lies within the data
    (`bounded_subreader` is only called after the `remaining_bits` check).  This is what makes
    `remaining_bits` the length of the window. -/
def RInv (r : Rd) : Prop := r.start ≤ r.off ∧ ∀ lim, r.limit = some lim → lim ≤ r.data.length - r.start

/-- `r'` is `r` moved forward -/
def Follows (r r' : Rd) : Prop := r'.data = r.data ∧ r'.start = r.start ∧ r'.limit = r.limit ∧ r.off ≤ r'.off

theorem Follows.refl (r : Rd) : Follows r r := ⟨rfl, rfl, rfl, Nat.le_refl _⟩

theorem Follows.trans {r r1 r2 : Rd} (h1 : Follows r r1) (h2 : Follows r1 r2) : Follows r r2 := by
  obtain ⟨a1, b1, c1, d1⟩ := h1
  obtain ⟨a2, b2, c2, d2⟩ := h2
  exact ⟨a2.trans a1, b2.trans b1, c2.trans c1, Nat.le_trans d1 d2⟩

theorem RInv.follows {r r' : Rd} (h : RInv r) (hf : Follows r r') : RInv r' := by
  obtain ⟨a, b, c, d⟩ := hf
  refine ⟨by rw [b]; exact Nat.le_trans h.1 d, fun lim hl => ?_⟩
  rw [a, b]; exact h.2 lim (by rw [← c]; exact hl)

theorem follows_adv (r : Rd) (k : ℕ) : Follows r { r with off := r.off + k } :=
  ⟨rfl, rfl, rfl, Nat.le_add_right _ _⟩

theorem toR_adv (r : Rd) (k : ℕ) (h : r.start ≤ r.off) :
    toR { r with off := r.off + k } = ⟨r.off + k, r.window.drop k⟩ := by
  simp only [toR, BitIO.window_adv r k h]

/-- `read_bits` as a pair, in the vocabulary of `Wire` -/
theorem readBits_pair (r : Rd) (n : ℕ) :
    BitIO.readBits r n = (Wire.bitsNat (Wire.takeZ n r.window), { r with off := r.off + n }) := by
  rw [BitIO.readBits_eq, ofBits_eq, takeZ_eq]

/-- `R.read` on the stream view -/
theorem read_toR (r : Rd) (n : ℕ) (h : r.start ≤ r.off) :
    (toR r).read n = (Wire.takeZ n r.window, toR { r with off := r.off + n }) := by
  rw [toR_adv r n h]; rfl

/-- `_BitReader.align_to` is `R.alignTo` -/
theorem toR_alignTo (r : Rd) (a : ℕ) (ha : 0 < a) (h : r.start ≤ r.off) :
    toR (r.alignTo a) = (toR r).alignTo a ∧ Follows r (r.alignTo a) := by
  unfold Rd.alignTo Wire.R.alignTo
  rw [if_neg (by omega)]
  simp only [toR, padLen_eq _ _ ha]
  split
  · exact ⟨by rw [BitIO.window_adv r _ h], follows_adv r _⟩
  · exact ⟨by simp, Follows.refl r⟩

/-- `remaining_bits` is the length of the window -/
theorem remaining_eq (r : Rd) (h : RInv r) : r.remaining = r.window.length := by
  obtain ⟨h1, h2⟩ := h
  unfold Rd.remaining Rd.window
  cases hl : r.limit with
  | none => simp
  | some lim =>
    have := h2 lim hl
    simp only [List.length_take, List.length_drop]
    omega

/-- a bounded sub-reader of at most `remaining_bits` bits sees the first `k` bits of the window -/
theorem toR_sub (r : Rd) (k : ℕ) (h : RInv r) (hk : k ≤ r.remaining) :
    toR (r.sub k).1 = ⟨r.off, r.window.take k⟩ ∧ RInv (r.sub k).1 := by
  have hrem := remaining_eq r h
  obtain ⟨h1, h2⟩ := h
  simp only [Rd.sub, toR, Rd.window, Nat.sub_self, Nat.sub_zero, RInv, Nat.le_refl, true_and,
    Option.some.injEq, forall_eq']
  unfold Rd.remaining at hk
  unfold Rd.remaining Rd.window at hrem
  cases hl : r.limit with
  | none =>
    simp only [hl] at hk
    exact ⟨rfl, hk⟩
  | some lim =>
    simp only [hl] at hk hrem
    have := h2 lim hl
    refine ⟨?_, by omega⟩
    rw [List.take_take, Nat.min_eq_left hk]

/-- Simulation: the outcome of the `_BitReader` computation `x` started at `r` determines the outcome of the stream
    computation `y`: same error, or same value and the resulting reader is `r` moved forward with the resulting
    stream as its view. -/
def Sim {α : Type} (r : Rd) (x : Except Err (α × Rd)) (y : Except Err (α × Wire.R)) : Prop :=
  match x with
  | .ok (a, r') => y = .ok (a, toR r') ∧ Follows r r'
  | .error e => y = .error e

theorem Sim.mono {α : Type} {r r' : Rd} {x : Except Err (α × Rd)} {y : Except Err (α × Wire.R)}
    (hf : Follows r r') (h : Sim r' x y) : Sim r x y := by
  cases x with
  | error e => exact h
  | ok p => exact ⟨h.1, hf.trans h.2⟩

theorem Sim.ok {α : Type} (r : Rd) (a : α) : Sim r (.ok (a, r)) (.ok (a, toR r)) := ⟨rfl, Follows.refl r⟩

theorem sim_error {α : Type} (r : Rd) (e : Err) :
    Sim (α := α) r (.error e) (.error e) := rfl

theorem Sim.bind {α β : Type} {r : Rd} {x : Except Err (α × Rd)} {y : Except Err (α × Wire.R)}
    {f : α × Rd → Except Err (β × Rd)} {g : α × Wire.R → Except Err (β × Wire.R)}
    (h : Sim r x y) (hf : ∀ a r', Follows r r' → Sim r' (f (a, r')) (g (a, toR r'))) :
    Sim r (x >>= f) (y >>= g) := by
  cases x with
  | error e =>
    have : y = .error e := h
    subst this
    exact (rfl : (Except.error e : Except Err (β × Wire.R)) = .error e)
  | ok p =>
    obtain ⟨a, r'⟩ := p
    obtain ⟨hy, hfo⟩ := h
    subst hy
    exact (hf a r' hfo).mono hfo

theorem sim_decRep (fR : Rd → Except Err (Val × Rd)) (f : Wire.R → Except Err (Val × Wire.R))
    (hf : ∀ q, RInv q → Sim q (fR q) (f (toR q))) :
    ∀ (n : ℕ) (r : Rd), RInv r → Sim r (decRepR fR n r) (Wire.decRep f n (toR r))
  | 0, r, _ => Sim.ok r []
  | n+1, r, hr => by
      simp only [decRepR, Wire.decRep]
      refine Sim.bind (hf r hr) fun v r1 h1 => ?_
      refine Sim.bind (sim_decRep fR f hf n r1 (hr.follows h1)) fun vs r2 h2 => ?_
      exact Sim.ok r2 (v :: vs)

/-- `_deserialize_composite`, both branches, given the body -/
theorem sim_unwrapDelim (m : Mode) (r : Rd) (bodyR : Rd → Except Err (Val × Rd))
    (body : Wire.R → Except Err (Val × Wire.R)) (hr : RInv r)
    (hbody : ∀ q, RInv q → Sim q (bodyR q) (body (toR q))) :
    Sim r (unwrapDelimR m r bodyR) (Wire.unwrapDelim m (toR r) body) := by
  cases m with
  | sealed => exact hbody r hr
  | delimited x =>
    simp only [unwrapDelimR, Wire.unwrapDelim, readBits_pair r _, read_toR r _ hr.1]
    have hf1 := follows_adv r Wire.headerBits
    have hr1 := hr.follows hf1
    generalize ({ r with off := r.off + Wire.headerBits } : Rd) = r1 at hf1 hr1
    generalize Wire.bitsNat (Wire.takeZ Wire.headerBits r.window) = bytes
    have hrem := remaining_eq r1 hr1
    have hs : (toR r1).s = r1.window := rfl
    have ho : (toR r1).off = r1.off := rfl
    simp only [hs, ho, Wire.shorter_iff, ← hrem]
    by_cases hc : bytes * 8 > r1.remaining
    · simp only [hc, if_true, decide_true]
      exact sim_error r _
    · simp only [hc, if_false, decide_false, Bool.false_eq_true]
      obtain ⟨hsub, hsinv⟩ := toR_sub r1 (bytes * 8) hr1 (by omega)
      have hb := hbody _ hsinv
      rw [hsub] at hb
      have hpar : (r1.sub (bytes * 8)).2 = { r1 with off := r1.off + bytes * 8 } := rfl
      cases hx : bodyR (r1.sub (bytes * 8)).1 with
      | error e =>
        rw [hx] at hb
        have hb' : body ⟨r1.off, r1.window.take (bytes * 8)⟩ = .error e := hb
        rw [hb']
        exact sim_error r _
      | ok p =>
        obtain ⟨v, s'⟩ := p
        rw [hx] at hb
        have hb' : body ⟨r1.off, r1.window.take (bytes * 8)⟩ = .ok (v, toR s') := hb.1
        rw [hb']
        refine ⟨?_, hf1.trans (follows_adv r1 _)⟩
        rw [hpar, toR_adv r1 _ hr1.1]
        rfl

theorem readBytes_spec : ∀ (k : ℕ) (r : Rd), r.start ≤ r.off →
    (readBytes k r).2 = { r with off := r.off + 8 * k } ∧
      leNat (readBytes k r).1 = Wire.bitsNat (Wire.takeZ (8 * k) r.window)
  | 0, r, _ => by simp [readBytes, leNat, Wire.takeZ, Wire.bitsNat]
  | k+1, r, h => by
      simp only [readBytes, readBits_pair r 8]
      obtain ⟨h1, h2⟩ := readBytes_spec k { r with off := r.off + 8 } (by simp only; omega)
      rw [BitIO.window_adv r 8 h] at h2
      rcases hrb : readBytes k { r with off := r.off + 8 } with ⟨xs, r2⟩
      rw [hrb] at h1 h2
      simp only at h1 h2 ⊢
      refine ⟨by rw [h1]; simp only [Rd.mk.injEq, true_and, and_true]; omega, ?_⟩
      rw [leNat, h2]
      simp only [← ofBits_eq, ← takeZ_eq]
      rw [Nat.mul_succ, Nat.add_comm (8 * k) 8, BitIO.takeZ_add, BitIO.ofBits_append, BitIO.takeZ_length]
      norm_num

theorem decVariant_oob : ∀ (ts : List Ty) (n : ℕ) (q : Wire.R), ts.length ≤ n →
    Wire.decVariant ts n q = .error .unionTag
  | [], _, _, _ => by simp [Wire.decVariant]
  | _ :: _, 0, _, h => by simp at h
  | _ :: ts, n+1, q, h => by
      simp only [Wire.decVariant]
      exact decVariant_oob ts n q (by simpa using h)

mutual
/-- **Reader refinement.**  Driving `_BitReader` the way `_deserialize_*` does computes exactly `Wire.dec` on the
    stream view of the reader. -/
theorem decR_sim : ∀ (t : Ty) (r : Rd), t.wf = true → RInv r → Sim r (decR t r) (Wire.dec t (toR r))
  | .bool, r, _, hr => by
      simp only [decR, Wire.dec, readBits_pair r _, read_toR r _ hr.1]
      exact ⟨rfl, follows_adv r _⟩
  | .uint n c, r, _, hr => by
      simp only [decR, Wire.dec, readBits_pair r _, read_toR r _ hr.1]
      exact ⟨rfl, follows_adv r _⟩
  | .sint n c, r, _, hr => by
      simp only [decR, Wire.dec, readBits_pair r _, read_toR r _ hr.1]
      exact ⟨rfl, follows_adv r _⟩
  | .float n c, r, ht, hr => by
      have hn : 8 * (n / 8) = n := by
        simp only [Ty.wf, Bool.or_eq_true, beq_iff_eq] at ht
        omega
      obtain ⟨h1, h2⟩ := readBytes_spec (n / 8) r hr.1
      rw [hn] at h1 h2
      simp only [decR, Wire.dec, read_toR r _ hr.1]
      rcases hrb : readBytes (n / 8) r with ⟨bs, r'⟩
      rw [hrb] at h1 h2
      simp only at h1 h2 ⊢
      rw [h1, h2]
      exact ⟨rfl, follows_adv r _⟩
  | .byte, r, _, hr => by
      simp only [decR, Wire.dec, readBits_pair r _, read_toR r _ hr.1]
      exact ⟨rfl, follows_adv r _⟩
  | .utf8, r, _, hr => by
      simp only [decR, Wire.dec, readBits_pair r _, read_toR r _ hr.1]
      exact ⟨rfl, follows_adv r _⟩
  | .void n, r, _, hr => by
      simp only [decR, Wire.dec, readBits_pair r _, read_toR r _ hr.1]
      exact ⟨rfl, follows_adv r _⟩
  | .farr e cap, r, ht, hr => by
      simp only [Ty.wf, Bool.and_eq_true] at ht
      simp only [decR, Wire.dec]
      refine Sim.bind (sim_decRep _ _ (fun q hq => decR_sim e q ht.1.1.1 hq) cap r hr) fun vs r' _ => ?_
      exact Sim.ok r' (Val.arr vs)
  | .varr e cap, r, ht, hr => by
      simp only [Ty.wf, Bool.and_eq_true] at ht
      simp only [decR, Wire.dec, readBits_pair r _, read_toR r _ hr.1]
      have hf1 := follows_adv r (Wire.lenBits cap)
      split
      · exact sim_error r _
      · refine Sim.mono hf1 ?_
        refine Sim.bind (sim_decRep _ _ (fun q hq => decR_sim e q ht.1.1.1 hq) _ _ (hr.follows hf1))
          fun vs r' _ => ?_
        dsimp only
        split
        · exact sim_error r' _
        · exact Sim.ok r' (Val.arr vs)
  | .struct fs m, r, ht, hr => by
      simp only [Ty.wf, Bool.and_eq_true] at ht
      simp only [decR, Wire.dec]
      refine sim_unwrapDelim m r _ _ hr fun q hq => ?_
      refine Sim.bind (decFieldsR_sim fs q ht.1 hq) fun vs r' h' => ?_
      have ha := toR_alignTo r' 8 (by omega) (hq.follows h').1
      exact ⟨by rw [ha.1]; rfl, ha.2⟩
  | .union fs m, r, ht, hr => by
      simp only [Ty.wf, Bool.and_eq_true] at ht
      simp only [decR, Wire.dec]
      refine sim_unwrapDelim m r _ _ hr fun q hq => ?_
      simp only [readBits_pair q _, read_toR q _ hq.1]
      have hf1 := follows_adv q (Wire.tagBits fs.length)
      split
      · next hge =>
        rw [decVariant_oob fs _ _ hge]
        exact sim_error q _
      · refine Sim.mono hf1 ?_
        refine Sim.bind (decVariantR_sim fs _ _ ht.1.1.1.1 (hq.follows hf1)) fun v r' h' => ?_
        have ha := toR_alignTo r' 8 (by omega) ((hq.follows hf1).follows h').1
        exact ⟨by rw [ha.1]; rfl, ha.2⟩
theorem decFieldsR_sim : ∀ (ts : List Ty) (r : Rd), Wire.wfFields ts = true → RInv r →
    Sim r (decFieldsR ts r) (Wire.decFields ts (toR r))
  | [], r, _, _ => Sim.ok r []
  | t :: ts, r, ht, hr => by
      simp only [Wire.wfFields, Bool.and_eq_true] at ht
      simp only [decFieldsR, Wire.decFields]
      have ha := toR_alignTo r t.align (Wire.align_pos t) hr.1
      rw [← ha.1]
      refine Sim.mono ha.2 ?_
      refine Sim.bind (decR_sim t _ ht.1.1 (hr.follows ha.2)) fun v r1 h1 => ?_
      refine Sim.bind (decFieldsR_sim ts r1 ht.2 ((hr.follows ha.2).follows h1)) fun vs r2 _ => ?_
      exact Sim.ok r2 (v :: vs)
theorem decVariantR_sim : ∀ (ts : List Ty) (n : ℕ) (r : Rd), Wire.wfFields ts = true → RInv r →
    Sim r (decVariantR ts n r) (Wire.decVariant ts n (toR r))
  | [], _, r, _, _ => sim_error r _
  | t :: _, 0, r, ht, hr => by
      simp only [Wire.wfFields, Bool.and_eq_true] at ht
      simp only [decVariantR, Wire.decVariant]
      exact decR_sim t r ht.1.1 hr
  | _ :: ts, n+1, r, ht, hr => by
      simp only [Wire.wfFields, Bool.and_eq_true] at ht
      simp only [decVariantR, Wire.decVariant]
      exact decVariantR_sim ts n r ht.2 hr
end

/-! ## Entry points -/

/-- the encoding of a composite from offset 0 is a whole number of bytes -/
theorem enc_composite_mod8 (t : Ty) (v : Val) (hc : t.isComposite = true) : (Wire.enc t v 0).length % 8 = 0 := by
  cases t with
  | struct fs m =>
    cases v with
    | recd vs => simp only [Wire.enc]; exact wrapDelim_mod8 m _ (padTail_mod8 _)
    | _ => simp [Wire.enc]
  | union fs m =>
    cases v with
    | var tag u => simp only [Wire.enc]; exact wrapDelim_mod8 m _ (padTail_mod8 _)
    | _ => simp [Wire.enc]
  | _ => simp [Ty.isComposite] at hc

theorem isComposite_inner (t : Ty) : t.inner.isComposite = t.isComposite := by
  cases t <;> rfl

/-- from the empty writer the buffer (`finish()`) is the encoding zero-padded to a byte -/
theorem encW_buf (t : Ty) (v : Val) (ht : t.wf = true) :
    (encW t v ⟨[], 0⟩).buf = BitIO.pad8 (Wire.enc t v 0) := by
  have h := encW_ws t v ⟨[], 0⟩ ht empty_ok
  rw [((BitIO.ok_iff _).mp h.1).1, h.2]
  simp [BitIO.W.logical]

end WireIO
