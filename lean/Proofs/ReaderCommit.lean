import Proofs.ReaderLoc
/-! The lazily committed attribute, end to end (C17.commit_fault_line): an attribute whose commit is bound to fail is
    reported with its own line wherever the commit happens — at its own line end, at the first empty line behind it, at the
    first identifier or the statement visitor of the next statement, or at the end of the text. -/
namespace Reader

/-- an attribute of line `n` is queued and its commit is bound to fail: its constructor raises, or it is a field/padding
    of a union whose `_offset_` has been used -/
def Doomed (n : Nat) (s : St) : Prop := s.flushFails = true ∧ s.lastAttrLine = n ∧ n ≠ 0

/-- whatever the line counter says, the flush of a doomed state raises with the line of the queued attribute -/
theorem flush_doomed {c n k s} (h : Doomed n s) : flush c k s = .error (⟨c.self, some n⟩, s.w) := by
  obtain ⟨hf, hl, hn⟩ := h
  rw [flush_eq, hf, AttrLine, hl, if_neg hn]
  rfl

theorem Doomed.addLineComment {n s} (l : Line) (h : Doomed n s) : Doomed n (addLineComment l s) ∧ (addLineComment l s).w = s.w := by
  obtain ⟨t, ht⟩ := addLineComment_eq l s
  rw [ht]; exact ⟨h, rfl⟩

/-- using `_offset_` in the meantime does not rescue the attribute -/
theorem Doomed.markOffs {n s} (l : Line) (h : Doomed n s) : Doomed n (markOffs l s) ∧ (markOffs l s).w = s.w :=
  ⟨⟨flushFails_markOffs h.1, by rw [markOffs_eq]; exact h.2.1, h.2.2⟩, by rw [markOffs_eq]⟩

/-- a line without a statement (comment line, blank line, empty line): the doomed attribute is committed there (empty
    line) and reported with its own line, or it stays queued -/
theorem stepLine_doomed_gap {c n k s x} (hx : x.stmt = none) (h : Doomed n s) :
    stepLine c k s x = .error (⟨c.self, some n⟩, s.w) ∨
      ∃ s', stepLine c k s x = .ok s' ∧ Doomed n s' ∧ s'.w = s.w := by
  obtain ⟨hd, hw⟩ := h.addLineComment x
  simp only [stepLine_eq, hx, ok_bind, tail]
  split
  · left; rw [flush_doomed hd, hw]
  · right; exact ⟨_, rfl, hd, hw⟩

theorem runLines_doomed_gap {c n} (gap : List Line) (hg : ∀ x ∈ gap, x.stmt = none) : ∀ k s, Doomed n s →
    runLines c k s gap = .error (⟨c.self, some n⟩, s.w) ∨
      ∃ s', runLines c k s gap = .ok s' ∧ Doomed n s' ∧ s'.w = s.w := by
  induction gap with
  | nil => intro k s h; right; exact ⟨s, rfl, h, rfl⟩
  | cons x gap ih =>
    intro k s h
    simp only [runLines]
    rcases stepLine_doomed_gap (c := c) (k := k) (hg x (List.mem_cons_self ..)) h with he | ⟨s1, h1, d1, w1⟩
    · left; rw [he]; rfl
    · rw [h1, ok_bind, ← w1]
      exact ih (fun y hy => hg y (List.mem_cons_of_mem _ hy)) (x.next k) s1 d1

/-- the next statement: unless it fails before anything is flushed, its first flush commits the doomed attribute — the
    flush of the first identifier / reference / dependency (before any dependency is read) or, for a statement without
    any of these, the flush of the statement visitor -/
theorem visitStmt_doomed {c n k r st s} (hpre : r.fault ≠ some .pre)
    (hmid : r.fault = some .mid → (st.hasIdent || !r.refs.isEmpty || !r.deps.isEmpty) = true) (h : Doomed n s) :
    visitStmt c k r st s = .error (⟨c.self, some n⟩, s.w) := by
  have hi : s.inv := fun _ => ((flushFails_iff s).mp h.1).1
  rw [visitStmt_eq c k r st hi, if_neg]
  · split
    · rw [flush_doomed h]; rfl
    · obtain ⟨hd, hw⟩ := h.markOffs r
      rw [flush_doomed hd, hw]; rfl
  · rintro (h1 | ⟨h1, h2⟩)
    · exact hpre h1
    · rw [show r.childrenFlush st = true from hmid h1] at h2; cases h2

/-- a successfully visited attribute statement leaves its attribute queued under its own line -/
theorem visitStmt_attr_queued {c k l core s s'} (hi : s.inv) (h : visitStmt c k l (.attr core) s = .ok s') :
    s'.header = false ∧ s'.lastAttrLine = k ∧ s'.pending = some (⟨core, "", k⟩, l.fault == some .commit) := by
  obtain ⟨_, w, rfl, _⟩ := visitStmt_ok hi h
  exact ⟨(ready_flat hi l w).2.1, rfl, rfl⟩

theorem firstSyntaxError_none {ls : List Line} (h : ∀ x ∈ ls, x.fault ≠ some .syn) : ∀ k, firstSyntaxError k ls = none := by
  induction ls with
  | nil => intro k; rfl
  | cons l ls ih =>
    intro k
    simp only [firstSyntaxError]
    rw [if_neg (h l (List.mem_cons_self ..))]
    exact ih (fun x hx => h x (List.mem_cons_of_mem _ hx)) _

theorem lineAfter_pos (ls : List Line) : ∀ k, 0 < k → 0 < lineAfter k ls := by
  induction ls with
  | nil => intro k hk; exact hk
  | cons l ls ih => intro k _; exact ih _ (next_pos l k)

/-- what may follow the statement-less lines behind the attribute: the end of the text, or a statement that does not fail
    before its first flush -/
def RestOk (rest : List Line) : Prop :=
  rest = [] ∨ ∃ r rest' st, rest = r :: rest' ∧ r.stmt = some st ∧ r.fault ≠ some .pre ∧
    (r.fault = some .mid → (st.hasIdent || !r.refs.isEmpty || !r.deps.isEmpty) = true)

/-- from the queued doomed attribute to the end of `parse` -/
theorem doomed_tail {c n} {α : Type} (gap rest : List Line) (hgap : ∀ x ∈ gap, x.stmt = none) (hrest : RestOk rest)
    (k k' : Nat) (s : St) (h : Doomed n s) (g : St → M α) :
    (runLines c k s (gap ++ rest) >>= fun s' => flush c k' s' >>= g) = .error (⟨c.self, some n⟩, s.w) := by
  rw [runLines_append]
  rcases runLines_doomed_gap (c := c) gap hgap k s h with he | ⟨s2, h2, d2, w2⟩
  · rw [he]; rfl
  · rw [h2, ok_bind, ← w2]
    rcases hrest with rfl | ⟨r, rest', st, rfl, hst, hpre, hmid⟩
    · rw [runLines, ok_bind, flush_doomed d2]; rfl
    · simp only [runLines, stepLine_eq, hst]
      rw [visitStmt_doomed hpre hmid d2]
      rfl

/-- END TO END: the attribute statement `l` behind `pre` was queued successfully and its commit is bound to fail; any
    number of statement-less lines follow, then the end of the text or a statement that does not fail before its first
    flush.  The read fails with the own path and the number of `l`'s own line, and the world is the one `l` left. -/
theorem readText_doomed {c w pre l gap rest core s0 s1}
    (hsyn : ∀ x ∈ pre ++ l :: (gap ++ rest), x.fault ≠ some .syn)
    (hpre : runLines c 1 (St.init w) pre = .ok s0)
    (hvis : visitStmt c (lineAfter 1 pre) l (.attr core) s0 = .ok s1)
    (hl : l.stmt = some (.attr core)) (hf : s1.flushFails = true)
    (hgap : ∀ x ∈ gap, x.stmt = none) (hrest : RestOk rest) :
    readText c (pre ++ l :: (gap ++ rest)) w = .error (⟨c.self, some (lineAfter 1 pre)⟩, s1.w) := by
  have hn : 0 < lineAfter 1 pre := lineAfter_pos pre 1 (by omega)
  obtain ⟨_, q2, _⟩ := visitStmt_attr_queued (runLines_spec pre (inv_init w) hpre).1 hvis
  obtain ⟨hD, hw⟩ := Doomed.addLineComment l (⟨hf, q2, by omega⟩ : Doomed (lineAfter 1 pre) s1)
  unfold readText
  rw [firstSyntaxError_none hsyn]
  simp only
  rw [runLines_append, hpre]
  simp only [ok_bind, runLines, stepLine_eq, hl, hvis, tail]
  split
  · rw [flush_doomed hD, hw]; rfl
  · rw [ok_bind, ← hw]
    exact doomed_tail gap rest hgap hrest _ _ _ hD _

/-- … spelled out: the attribute's constructor raises (`commit` fault), or it is a field/padding of a union whose
    `_offset_` has been used -/
theorem readText_commit_fault {c w pre l gap rest core s0 s1}
    (hsyn : ∀ x ∈ pre ++ l :: (gap ++ rest), x.fault ≠ some .syn)
    (hpre : runLines c 1 (St.init w) pre = .ok s0)
    (hvis : visitStmt c (lineAfter 1 pre) l (.attr core) s0 = .ok s1)
    (hl : l.stmt = some (.attr core))
    (hbad : l.fault = some .commit ∨ (core.kind ≠ .const ∧ (s1.cur.union && s1.cur.offsetUsed) = true))
    (hgap : ∀ x ∈ gap, x.stmt = none) (hrest : RestOk rest) :
    readText c (pre ++ l :: (gap ++ rest)) w = .error (⟨c.self, some (lineAfter 1 pre)⟩, s1.w) := by
  obtain ⟨q1, _, q3⟩ := visitStmt_attr_queued (runLines_spec pre (inv_init w) hpre).1 hvis
  refine readText_doomed hsyn hpre hvis hl ((flushFails_iff s1).mpr ⟨q1, _, _, q3, ?_⟩) hgap hrest
  rcases hbad with hb | ⟨hk, hu⟩
  · simp [commitFails, hb]
  · simp [commitFails, hk, hu]

end Reader
