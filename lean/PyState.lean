import PyRegex
import Lean.Meta.Tactic.Simp.RegisterCommand
/-!
  PyState: the Lean meaning of the fragment of Python that `tools/py2lean_reader.py` translates (`Gen/Reader.lean`): methods of
  objects with mutable state *and* exceptions that are caught, changed and re-raised.  No Mathlib; imports `PyRegex` for
  `Py.Str` (a Python `str` = the list of its code points) and `PyLib` for `Py.Err`.

  * `SM σ ε α = σ → Except ε α × σ`: a method of an object whose attributes are `σ`.  Unlike `StateT σ (Except ε)` the object
    is still there when an exception leaves the method -- with every assignment made before the `raise`, exactly as in Python.
    This is what `except … as ex: … pr.current_line_number …` in `_parser.parse` looks at.
  * `Exc E`: what can be raised.  `dsdl e` is an instance of `pydsdl._error.Error` (any subclass) whose attributes are `e : E`
    (`E` is the structure generated from `Error.__init__`); `py e` is any other exception (`AssertionError`, `IndexError`, …).
    `except _error.Error as ex` matches exactly the first kind.
  * sub-objects: `zoom get set` runs a method of the object stored in an attribute, `zoomLast` one of `self._xs[-1]`
    (`IndexError` when the list is empty), `onObj` one of an object held in a local variable.
-/
/-- the simp set of the private helper methods the translator found through the call graph (`@[py_helper] def …` in the generated
    modules): a bridge proof unfolds them wherever they are called, so extracting or inlining a helper leaves the proofs alone -/
register_simp_attr py_helper
/-- the simp set that runs a translated method on a state: the equation of each `Py.SM` combinator (a bridge module tags them, and
    adds the closed forms of the methods it has characterised) -/
register_simp_attr py_run

namespace Py

inductive Exc (E : Type) where
  | dsdl (e : E)
  | py (e : Err)
  deriving Repr, DecidableEq, Inhabited

def SM (σ ε α : Type) : Type := σ → Except ε α × σ

/-- the outcome of a method call: a value or an exception, and the object afterwards -/
abbrev Res (σ ε α : Type) : Type := Except ε α × σ

/-- continue after a call that returned; an exception passes through with the object as it is -/
def Res.andThen {σ ε α β : Type} (r : Res σ ε α) (k : α → σ → Res σ ε β) : Res σ ε β :=
  match r with
  | (.ok a, s) => k a s
  | (.error e, s) => (.error e, s)
/-- handle an exception; a value passes through -/
def Res.orElse {σ ε α : Type} (r : Res σ ε α) (h : ε → σ → Res σ ε α) : Res σ ε α :=
  match r with
  | (.ok a, s) => (.ok a, s)
  | (.error e, s) => h e s

/-- the outcome of a call on another object, seen from `self`: the value together with that object afterwards -/
def Res.detach {σ τ ε α : Type} (r : Res τ ε α) (s : σ) : Res σ ε (α × τ) :=
  match r with
  | (.ok a, o) => (.ok (a, o), s)
  | (.error e, _) => (.error e, s)
@[simp] theorem Res.detach_ok {σ τ ε α : Type} (a : α) (o : τ) (s : σ) :
    Res.detach ((Except.ok a : Except ε α), o) s = (.ok (a, o), s) := rfl
@[simp] theorem Res.detach_error {σ τ ε α : Type} (e : ε) (o : τ) (s : σ) :
    Res.detach ((Except.error e : Except ε α), o) s = (.error e, s) := rfl

@[simp] theorem Res.andThen_ok {σ ε α β : Type} (a : α) (s : σ) (k : α → σ → Res σ ε β) :
    Res.andThen (Except.ok a, s) k = k a s := rfl
@[simp] theorem Res.andThen_error {σ ε α β : Type} (e : ε) (s : σ) (k : α → σ → Res σ ε β) :
    Res.andThen ((Except.error e : Except ε α), s) k = (.error e, s) := rfl
@[simp] theorem Res.andThen_assoc {σ ε α β γ : Type} (r : Res σ ε α) (k : α → σ → Res σ ε β) (k' : β → σ → Res σ ε γ) :
    (r.andThen k).andThen k' = r.andThen fun a s => (k a s).andThen k' := by
  rcases r with ⟨_ | _, _⟩ <;> rfl
/-- a guard in front of `k` (`if c: raise …`) is passed without deciding it -/
theorem Res.andThen_ite {σ ε α β : Type} (c : Prop) [Decidable c] (a b : Res σ ε α) (k : α → σ → Res σ ε β) :
    Res.andThen (if c then a else b) k = if c then a.andThen k else b.andThen k := by
  split <;> rfl
/-- a sequence returned: so did its first statement, and the rest from there -/
theorem Res.andThen_eq_ok {σ ε α β : Type} {r : Res σ ε α} {k : α → σ → Res σ ε β} {b : β} {t : σ} :
    r.andThen k = (.ok b, t) ↔ ∃ a s, r = (.ok a, s) ∧ k a s = (.ok b, t) := by
  rcases r with ⟨e | a, s⟩
  · exact ⟨fun h => (nomatch h), fun ⟨_, _, h, _⟩ => (nomatch h)⟩
  · exact ⟨fun h => ⟨a, s, rfl, h⟩, fun ⟨_, _, h, h'⟩ => by cases h; exact h'⟩
@[simp] theorem Res.orElse_ok {σ ε α : Type} (a : α) (s : σ) (h : ε → σ → Res σ ε α) :
    Res.orElse (Except.ok a, s) h = (.ok a, s) := rfl
@[simp] theorem Res.orElse_error {σ ε α : Type} (e : ε) (s : σ) (h : ε → σ → Res σ ε α) :
    Res.orElse ((Except.error e : Except ε α), s) h = h e s := rfl

namespace SM
variable {σ τ ε α β : Type}

@[inline] def run (x : SM σ ε α) (s : σ) : Res σ ε α := x s
@[inline] protected def pure (a : α) : SM σ ε α := fun s => (.ok a, s)
@[inline] protected def bind (x : SM σ ε α) (f : α → SM σ ε β) : SM σ ε β := fun s => Res.andThen (x s) fun a s' => f a s'

instance : Monad (SM σ ε) where
  pure := SM.pure
  bind := SM.bind

/-- `self` -/
@[inline] def get : SM σ ε σ := fun s => (.ok s, s)
/-- `self._x = v` -/
@[inline] def modify (f : σ → σ) : SM σ ε Unit := fun s => (.ok (), f s)
/-- `raise e` -/
@[inline] def throw (e : ε) : SM σ ε α := fun s => (.error e, s)
/-- `try: x  except … as ex: h ex` (the handler decides by a `match` which exceptions it re-raises unchanged) -/
@[inline] def tryCatch (x : SM σ ε α) (h : ε → SM σ ε α) : SM σ ε α := fun s => Res.orElse (x s) fun e s' => h e s'
/-- the outcome of a computation that has no access to the object -/
@[inline] def lift (x : Except ε α) : SM σ ε α := fun s => (x, s)
/-- a method of the object stored in an attribute -/
@[inline] def zoom (get : σ → τ) (set : σ → τ → σ) (x : SM τ ε α) : SM σ ε α := fun s =>
  let r := x (get s)
  (r.1, set s r.2)
/-- a method of an object held in a local variable: the result and the object afterwards; `self` is untouched.  (The
    translator uses it only where the exception, if any, leaves the enclosing method anyway.) -/
@[inline] def onObj (o : τ) (x : SM τ ε α) : SM σ ε (α × τ) := fun s => Res.detach (x o) s
/-- `for x in l: body x` -/
def forEach : List β → (β → SM σ ε Unit) → SM σ ε Unit
  | [], _ => SM.pure ()
  | x :: xs, body => SM.bind (body x) fun _ => forEach xs body

/-! what `simp` rewrites generated code with: one equation per combinator, applied to a state -/
@[simp] theorem run_pure (a : α) (s : σ) : (pure a : SM σ ε α).run s = (.ok a, s) := rfl
@[simp] theorem run_bind (x : SM σ ε α) (f : α → SM σ ε β) (s : σ) :
    (x >>= f).run s = Res.andThen (x.run s) fun a s' => (f a).run s' := rfl
@[simp] theorem run_get (s : σ) : (get : SM σ ε σ).run s = (.ok s, s) := rfl
@[simp] theorem run_modify (f : σ → σ) (s : σ) : (modify f : SM σ ε Unit).run s = (.ok (), f s) := rfl
@[simp] theorem run_throw (e : ε) (s : σ) : (throw e : SM σ ε α).run s = (.error e, s) := rfl
@[simp] theorem run_tryCatch (x : SM σ ε α) (h : ε → SM σ ε α) (s : σ) :
    (tryCatch x h).run s = Res.orElse (x.run s) fun e s' => (h e).run s' := rfl
@[simp] theorem run_lift (x : Except ε α) (s : σ) : (lift x : SM σ ε α).run s = (x, s) := rfl
@[simp] theorem run_zoom (g : σ → τ) (st : σ → τ → σ) (x : SM τ ε α) (s : σ) :
    (zoom g st x).run s = ((x.run (g s)).1, st s (x.run (g s)).2) := rfl
@[simp] theorem run_onObj (o : τ) (x : SM τ ε α) (s : σ) : (onObj o x : SM σ ε (α × τ)).run s = Res.detach (x.run o) s := rfl
@[simp] theorem run_forEach_nil (body : β → SM σ ε Unit) (s : σ) : (forEach [] body).run s = (.ok (), s) := rfl
@[simp] theorem run_forEach_cons (x : β) (xs : List β) (body : β → SM σ ε Unit) (s : σ) :
    (forEach (x :: xs) body).run s = Res.andThen ((body x).run s) fun _ s' => (forEach xs body).run s' := by
  rw [forEach]; rfl
theorem run_ite (c : Prop) [Decidable c] (x y : SM σ ε α) (s : σ) :
    (if c then x else y).run s = if c then x.run s else y.run s := by
  split <;> rfl

end SM

/-- `assert b` inside a method -/
@[inline] def SM.assert {σ E : Type} (b : Bool) : SM σ (Exc E) Unit :=
  if b then SM.pure () else SM.throw (.py .assertion)

@[simp] theorem SM.run_assert_true {σ E : Type} (s : σ) : (SM.assert true : SM σ (Exc E) Unit).run s = (.ok (), s) := rfl
@[simp] theorem SM.run_assert_false {σ E : Type} (s : σ) :
    (SM.assert false : SM σ (Exc E) Unit).run s = (.error (.py .assertion), s) := rfl

/-- a method of `self._xs[-1]` (`IndexError` when the list is empty) -/
@[inline] def SM.zoomLast {σ τ E α : Type} (get : σ → List τ) (set : σ → List τ → σ) (x : SM τ (Exc E) α) : SM σ (Exc E) α := fun s =>
  match (get s).getLast? with
  | none => (.error (.py (.other "IndexError")), s)
  | some t =>
    let r := x t
    (r.1, set s ((get s).dropLast ++ [r.2]))

/-- on a non-empty list: the method runs on the last element, which is replaced by the object afterwards -/
theorem SM.run_zoomLast_concat {σ τ E α : Type} (g : σ → List τ) (st : σ → List τ → σ) (x : SM τ (Exc E) α) (s : σ)
    (l : List τ) (t : τ) (h : g s = l ++ [t]) :
    (SM.zoomLast g st x).run s = ((x.run t).1, st s (l ++ [(x.run t).2])) := by
  show (match (g s).getLast? with
    | none => (Except.error (Exc.py (.other "IndexError")), s)
    | some t => ((x t).1, st s ((g s).dropLast ++ [(x t).2]))) = _
  rw [h]; simp [SM.run]

/-- `xs[-1]` as a value -/
def last {E α : Type} (l : List α) : Except (Exc E) α :=
  match l.getLast? with
  | some x => .ok x
  | none => .error (.py (.other "IndexError"))

/-- the value of an optional that the code uses as if it were not `None` (`AttributeError` otherwise) -/
def unwrap {E α : Type} : Option α → Except (Exc E) α
  | some x => .ok x
  | none => .error (.py (.other "AttributeError"))

/-- `n or None` for an int -/
def intOrNone (n : Nat) : Option Nat := if n = 0 then none else some n
/-- truth value of `Optional[int]` -/
def truthyOptInt : Option Nat → Bool
  | some n => n != 0
  | none => false
/-- `s.startswith(p)` -/
def strStartsWith (s p : Str) : Bool := p.isPrefixOf s
/-- `s.count(c)` for a one-character `c` -/
def strCountChar (s : Str) (c : Char) : Nat := s.count c

/-- what the translated code can see of an expression value (`_expression.Any`): the outcome of
    `isinstance(v, _expression.Boolean)` / `isinstance(v, _expression.Rational)` and `Boolean.native_value` -/
inductive ExprView where
  | boolean (b : Bool)
  | rational
  | other
  deriving Repr, DecidableEq, Inhabited

/-- the view of `value: Any | None` (`None` is neither a `Boolean` nor a `Rational`) -/
def optView {V : Type} (view : V → ExprView) : Option V → ExprView
  | some v => view v
  | none => .other
/-- `str(v if v is not None else "")` -/
def strOfOpt {V : Type} (str : V → Str) : Option V → Str
  | some v => str v
  | none => []

def ExprView.isBoolean : ExprView → Bool
  | .boolean _ => true
  | _ => false
def ExprView.isRational : ExprView → Bool
  | .rational => true
  | _ => false
/-- `v.native_value` where the code treats it as a `bool` -/
def ExprView.nativeBool {E : Type} : ExprView → Except (Exc E) Bool
  | .boolean b => .ok b
  | _ => .error (.py .typeError)

end Py
